import SameVerif.Model.App
/-
  Facts about the `samedec` application model (Model/App.lean).

  The fuel-bounded `alerting` is shown equal to a structurally recursive walk `appGo` over the
  single list `all = live ++ flushed.map (n, ·)`, whenever the fuel is at least the number of
  remaining messages + 1.  Everything else is list induction on `appGo`.
-/
namespace SameVerif

/-- position of the next message of the walk, or `n` (end of input) if there is none -/
def nextPos (n : Nat) : List (Nat × AMsg) → Nat
  | [] => n
  | (q, _) :: _ => q

/-- SPECIFICATION of the children: one per StartOfMessage, in order, fed the samples from the
    position at which its header was returned up to the position of the next message
    (a flushed message has position `n`), or to the end of input `n` if there is none. -/
def expectedChildren (n : Nat) : List (Nat × AMsg) → List (AMsg × Nat × Nat)
  | [] => []
  | (p, .som t) :: tl => (.som t, p, nextPos n tl) :: expectedChildren n tl
  | (_, .eom) :: tl => expectedChildren n tl

/-- all messages the receiver produces, with positions: live ones, then flushed ones at `n` -/
def AppInput.all (inp : AppInput) : List (Nat × AMsg) :=
  inp.live ++ inp.flushed.map (fun m => (inp.n, m))

/-- the reference output: what should be printed -/
def AppInput.msgs (inp : AppInput) : List AMsg := inp.live.map (·.2) ++ inp.flushed

def AMsg.isSom : AMsg → Bool
  | .som _ => true
  | .eom => false

/-- fuel-free structural walk over the positioned messages -/
def appGo (cfg : AppCfg) (spawnOk : Nat → Bool) (n : Nat) : List (Nat × AMsg) → AppOut → AppOut
  | [], out => out
  | (pos, m) :: tl, out =>
    let out := if cfg.quiet then out else { out with printed := out.printed ++ [m] }
    match m with
    | .eom => appGo cfg spawnOk n tl out
    | .som _ =>
      if !cfg.hasChild then appGo cfg spawnOk n tl out
      else
        let k := out.spawnAttempts
        let out := { out with spawnAttempts := k + 1 }
        if !spawnOk k then appGo cfg spawnOk n tl out
        else appGo cfg spawnOk n tl { out with children := out.children ++ [(m, pos, nextPos n tl)] }

theorem all_map_snd (inp : AppInput) : inp.all.map (·.2) = inp.msgs := by
  simp [AppInput.all, AppInput.msgs, List.map_map, Function.comp_def]

theorem appGo_cons (cfg : AppCfg) (spawnOk : Nat → Bool) (n pos : Nat) (m : AMsg)
    (tl : List (Nat × AMsg)) (out : AppOut) :
    appGo cfg spawnOk n ((pos, m) :: tl) out =
      (let out := if cfg.quiet then out else { out with printed := out.printed ++ [m] }
       match m with
       | .eom => appGo cfg spawnOk n tl out
       | .som _ =>
         if !cfg.hasChild then appGo cfg spawnOk n tl out
         else
           let k := out.spawnAttempts
           let out := { out with spawnAttempts := k + 1 }
           if !spawnOk k then appGo cfg spawnOk n tl out
           else appGo cfg spawnOk n tl { out with children := out.children ++ [(m, pos, nextPos n tl)] }) := by
  cases m <;> rfl

theorem alerting_eq_go (cfg : AppCfg) (spawnOk : Nat → Bool) (inp : AppInput) :
    ∀ (fuel : Nat) (m : AMsg) (pos : Nat) (rest : List (Nat × AMsg)) (fl : List AMsg) (out : AppOut),
      rest.length + fl.length + 1 ≤ fuel →
      alerting cfg spawnOk inp fuel m pos rest fl out
        = appGo cfg spawnOk inp.n ((pos, m) :: (rest ++ fl.map (fun m => (inp.n, m)))) out := by
  intro fuel
  induction fuel with
  | zero => intro m pos rest fl out h; omega
  | succ fuel ih =>
    intro m pos rest fl out h
    unfold alerting
    rw [appGo_cons]
    cases rest with
    | cons x rest' =>
      obtain ⟨p, m'⟩ := x
      have h' : rest'.length + fl.length + 1 ≤ fuel := by simp at h; omega
      simp only [List.cons_append, nextPos, ih _ _ _ _ _ h']
      cases m <;> rfl
    | nil =>
      cases fl with
      | cons m' fl' =>
        have h' : ([] : List (Nat × AMsg)).length + fl'.length + 1 ≤ fuel := by simp at h ⊢; omega
        simp only [List.nil_append, List.map_cons, nextPos, ih _ _ _ _ _ h']
        cases m <;> rfl
      | nil =>
        simp only [List.nil_append, List.map_nil, nextPos, appGo]
        cases m <;> simp

theorem appRun_eq_go (cfg : AppCfg) (spawnOk : Nat → Bool) (inp : AppInput) :
    appRun cfg spawnOk inp = appGo cfg spawnOk inp.n inp.all {} := by
  unfold appRun AppInput.all
  cases hl : inp.live with
  | cons x rest =>
    obtain ⟨p, m⟩ := x
    simp only [List.cons_append]
    rw [alerting_eq_go]
    simp
  | nil =>
    cases hf : inp.flushed with
    | cons m fl =>
      simp only [List.nil_append, List.map_cons]
      rw [alerting_eq_go]
      · simp
      · simp
    | nil => simp [appGo]

def somCount (l : List AMsg) : Nat := l.countP AMsg.isSom

/-- number of spawn attempts `k` with `a ≤ k < a + c` that the OS lets succeed -/
def okCount (spawnOk : Nat → Bool) (a c : Nat) : Nat := (List.range' a c).countP spawnOk

/-- the children as a function of the messages and the number of spawn attempts made so far -/
def goChildren (spawnOk : Nat → Bool) (n : Nat) : List (Nat × AMsg) → Nat → List (AMsg × Nat × Nat)
  | [], _ => []
  | (_, .eom) :: tl, k => goChildren spawnOk n tl k
  | (p, .som t) :: tl, k =>
    if spawnOk k then (.som t, p, nextPos n tl) :: goChildren spawnOk n tl (k + 1)
    else goChildren spawnOk n tl (k + 1)

theorem somCount_cons (m : AMsg) (l : List AMsg) :
    somCount (m :: l) = somCount l + (if m.isSom then 1 else 0) := by
  simp [somCount, List.countP_cons]

theorem appGo_eq (cfg : AppCfg) (spawnOk : Nat → Bool) (n : Nat) (l : List (Nat × AMsg)) (out : AppOut) :
    appGo cfg spawnOk n l out =
      { printed := out.printed ++ (if cfg.quiet then [] else l.map (·.2))
        children := out.children ++ (if cfg.hasChild then goChildren spawnOk n l out.spawnAttempts else [])
        spawnAttempts := out.spawnAttempts + (if cfg.hasChild then somCount (l.map (·.2)) else 0) } := by
  induction l generalizing out with
  | nil => simp [appGo, goChildren, somCount]
  | cons x tl ih =>
    obtain ⟨pos, m⟩ := x
    rw [appGo_cons]
    cases m with
    | eom =>
      simp only [ih, goChildren, List.map_cons, somCount_cons, AMsg.isSom]
      cases cfg.quiet <;> simp
    | som t =>
      simp only [ih, goChildren, List.map_cons, somCount_cons, AMsg.isSom]
      cases cfg.quiet <;> cases cfg.hasChild <;> cases h : spawnOk out.spawnAttempts <;> simp [h] <;> omega

theorem appRun_eq (cfg : AppCfg) (spawnOk : Nat → Bool) (inp : AppInput) :
    appRun cfg spawnOk inp =
      { printed := if cfg.quiet then [] else inp.msgs
        children := if cfg.hasChild then goChildren spawnOk inp.n inp.all 0 else []
        spawnAttempts := if cfg.hasChild then somCount inp.msgs else 0 } := by
  rw [appRun_eq_go, appGo_eq, all_map_snd]
  simp

theorem goChildren_all_ok (spawnOk : Nat → Bool) (n : Nat) (l : List (Nat × AMsg)) (k : Nat)
    (hok : ∀ k, spawnOk k = true) : goChildren spawnOk n l k = expectedChildren n l := by
  induction l generalizing k with
  | nil => rfl
  | cons x tl ih =>
    obtain ⟨pos, m⟩ := x
    cases m <;> simp [goChildren, expectedChildren, hok, ih]

theorem goChildren_length (spawnOk : Nat → Bool) (n : Nat) (l : List (Nat × AMsg)) (k : Nat) :
    (goChildren spawnOk n l k).length = okCount spawnOk k (somCount (l.map (·.2))) := by
  induction l generalizing k with
  | nil => rfl
  | cons x tl ih =>
    obtain ⟨pos, m⟩ := x
    cases m with
    | eom => simpa [goChildren, somCount_cons, AMsg.isSom] using ih k
    | som t =>
      simp only [goChildren, List.map_cons, somCount_cons, AMsg.isSom, okCount, ↓reduceIte,
        List.range'_succ, List.countP_cons]
      cases spawnOk k <;> simp [ih, okCount] <;> omega

theorem goChildren_sublist (spawnOk : Nat → Bool) (n : Nat) (l : List (Nat × AMsg)) (k : Nat) :
    (goChildren spawnOk n l k).Sublist (expectedChildren n l) := by
  induction l generalizing k with
  | nil => simp [goChildren, expectedChildren]
  | cons x tl ih =>
    obtain ⟨pos, m⟩ := x
    cases m with
    | eom => simpa [goChildren, expectedChildren] using ih k
    | som t =>
      simp only [goChildren, expectedChildren]
      split
      · exact (ih (k + 1)).cons_cons _
      · exact (ih (k + 1)).cons _

theorem expectedChildren_msgs (n : Nat) (l : List (Nat × AMsg)) :
    (expectedChildren n l).map (·.1) = (l.map (·.2)).filter AMsg.isSom := by
  induction l with
  | nil => simp [expectedChildren]
  | cons x tl ih =>
    obtain ⟨pos, m⟩ := x
    cases m <;> simp [expectedChildren, AMsg.isSom, ih, List.filter_cons]

theorem expectedChildren_length (n : Nat) (l : List (Nat × AMsg)) :
    (expectedChildren n l).length = somCount (l.map (·.2)) := by
  have h := congrArg List.length (expectedChildren_msgs n l)
  simpa [somCount, List.countP_eq_length_filter] using h

/-- positions non-decreasing and within the input -/
def PosOk (n : Nat) (l : List (Nat × AMsg)) : Prop :=
  l.Pairwise (fun a b => a.1 ≤ b.1) ∧ ∀ x ∈ l, x.1 ≤ n

theorem posOk_all (inp : AppInput) (hs : inp.live.Pairwise (fun a b => a.1 ≤ b.1))
    (hn : ∀ x ∈ inp.live, x.1 ≤ inp.n) : PosOk inp.n inp.all := by
  refine ⟨?_, ?_⟩
  · unfold AppInput.all
    rw [List.pairwise_append]
    refine ⟨hs, ?_, ?_⟩
    · rw [List.pairwise_map]
      exact List.pairwise_of_forall_mem_list (fun _ _ _ _ => Nat.le_refl _)
    · intro a ha b hb
      simp only [List.mem_map] at hb
      obtain ⟨m, _, rfl⟩ := hb
      exact hn a ha
  · intro x hx
    simp only [AppInput.all, List.mem_append, List.mem_map] at hx
    rcases hx with hx | ⟨m, _, rfl⟩
    · exact hn x hx
    · exact Nat.le_refl _

theorem PosOk.tail {n : Nat} {x : Nat × AMsg} {tl : List (Nat × AMsg)} (h : PosOk n (x :: tl)) :
    PosOk n tl :=
  ⟨(List.pairwise_cons.mp h.1).2, fun y hy => h.2 y (List.mem_cons_of_mem _ hy)⟩

theorem nextPos_le {n : Nat} {l : List (Nat × AMsg)} (h : PosOk n l) : nextPos n l ≤ n := by
  cases l with
  | nil => exact Nat.le_refl _
  | cons x tl => exact h.2 x (List.mem_cons_self)

theorem nextPos_le_of_mem {n : Nat} {l : List (Nat × AMsg)} (h : PosOk n l) {x : Nat × AMsg}
    (hx : x ∈ l) : nextPos n l ≤ x.1 := by
  cases l with
  | nil => cases hx
  | cons y tl =>
    obtain ⟨q, m⟩ := y
    simp only [nextPos]
    rcases List.mem_cons.mp hx with rfl | hx
    · exact Nat.le_refl _
    · exact (List.pairwise_cons.mp h.1).1 x hx

theorem expectedChildren_from_mem {n : Nat} {l : List (Nat × AMsg)} {c : AMsg × Nat × Nat}
    (hc : c ∈ expectedChildren n l) : ∃ x ∈ l, x.1 = c.2.1 := by
  induction l with
  | nil => simp [expectedChildren] at hc
  | cons x tl ih =>
    obtain ⟨pos, m⟩ := x
    cases m with
    | eom =>
      simp only [expectedChildren] at hc
      obtain ⟨y, hy, h⟩ := ih hc
      exact ⟨y, List.mem_cons_of_mem _ hy, h⟩
    | som t =>
      simp only [expectedChildren, List.mem_cons] at hc
      rcases hc with rfl | hc
      · exact ⟨_, List.mem_cons_self, rfl⟩
      · obtain ⟨y, hy, h⟩ := ih hc
        exact ⟨y, List.mem_cons_of_mem _ hy, h⟩

theorem expectedChildren_range {n : Nat} {l : List (Nat × AMsg)} (h : PosOk n l)
    {c : AMsg × Nat × Nat} (hc : c ∈ expectedChildren n l) : c.2.1 ≤ c.2.2 ∧ c.2.2 ≤ n := by
  induction l with
  | nil => simp [expectedChildren] at hc
  | cons x tl ih =>
    obtain ⟨pos, m⟩ := x
    cases m with
    | eom =>
      simp only [expectedChildren] at hc
      exact ih h.tail hc
    | som t =>
      simp only [expectedChildren, List.mem_cons] at hc
      rcases hc with rfl | hc
      · refine ⟨?_, nextPos_le h.tail⟩
        show pos ≤ nextPos n tl
        cases tl with
        | nil => exact h.2 _ List.mem_cons_self
        | cons y tl' => exact (List.pairwise_cons.mp h.1).1 y List.mem_cons_self
      · exact ih h.tail hc

theorem expectedChildren_pairwise {n : Nat} {l : List (Nat × AMsg)} (h : PosOk n l) :
    (expectedChildren n l).Pairwise (fun a b => a.2.2 ≤ b.2.1) := by
  induction l with
  | nil => simp [expectedChildren]
  | cons x tl ih =>
    obtain ⟨pos, m⟩ := x
    cases m with
    | eom => simpa [expectedChildren] using ih h.tail
    | som t =>
      simp only [expectedChildren]
      refine List.pairwise_cons.mpr ⟨?_, ih h.tail⟩
      intro c hc
      obtain ⟨y, hy, hy'⟩ := expectedChildren_from_mem hc
      show nextPos n tl ≤ c.2.1
      rw [← hy']
      exact nextPos_le_of_mem h.tail hy

theorem pairwise_consecutive {α : Type} {R : α → α → Prop} {l : List α} (h : l.Pairwise R)
    (k : Nat) (hk : k + 1 < l.length) : R (l[k]'(by omega)) (l[k + 1]'hk) :=
  List.pairwise_iff_getElem.mp h k (k + 1) (by omega) hk (by omega)

end SameVerif
