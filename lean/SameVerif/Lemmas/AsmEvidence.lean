import SameVerif.Spec.Evidence
import SameVerif.Lemmas.AssemblerSteps
/-
  The assembler only ever reports `combine` of a run of at most three consecutive bursts (C04).
-/
namespace SameVerif
open SameVerif.Spec SameVerif.Asm

theorem historyAfter_length_le (s : AState) (burst : List Byte) (now : Nat) :
    (historyAfter s burst now).length ≤ 3 := by
  unfold historyAfter
  have := pruneHistory_length_le s.history now
  simp only [List.length_append, List.length_cons, List.length_nil]
  omega

/-- deadlines never decrease along the history -/
def DeadlinesSorted {α} (h : List (Timed α)) : Prop := h.Pairwise (fun a b => a.deadline ≤ b.deadline)

theorem filter_live_suffix {α} (now : Nat) : ∀ (h : List (Timed α)), DeadlinesSorted h →
    h.filter (fun e => !e.expiredAt now) <:+ h := by
  intro h
  induction h with
  | nil => intro _; exact List.suffix_refl _
  | cons a l ih =>
    intro hs
    have hs' := List.pairwise_cons.mp hs
    by_cases ha : a.expiredAt now = true
    · rw [List.filter_cons]
      simp only [ha, Bool.not_true, Bool.false_eq_true, ↓reduceIte]
      exact List.IsSuffix.trans (ih hs'.2) (List.suffix_cons a l)
    · have hall : ∀ e ∈ a :: l, (!e.expiredAt now) = true := by
        intro e he
        rcases List.mem_cons.mp he with rfl | he
        · simpa using ha
        · have := hs'.1 e he
          simp [Timed.expiredAt] at ha ⊢
          omega
      rw [List.filter_eq_self.mpr hall]
      exact List.suffix_refl _

theorem pruneHistory_suffix (h : List (Timed (List Byte))) (now : Nat) (hs : DeadlinesSorted h) :
    pruneHistory h now <:+ h := by
  unfold pruneHistory
  exact List.IsSuffix.trans (List.drop_suffix _ _) (filter_live_suffix now h hs)

theorem pruneHistory_sorted (h : List (Timed (List Byte))) (now : Nat) (hs : DeadlinesSorted h) :
    DeadlinesSorted (pruneHistory h now) :=
  List.Pairwise.sublist (pruneHistory_suffix h now hs).sublist hs

theorem pruneHistory_mem (h : List (Timed (List Byte))) (now : Nat) (hs : DeadlinesSorted h) :
    ∀ e ∈ pruneHistory h now, e ∈ h :=
  fun _ he => (pruneHistory_suffix h now hs).subset he

/-- What is true of the assembler after any sequence of calls with non-decreasing tick counts:
    `log` holds the non-empty bursts received so far (each clipped to the burst buffer), oldest
    first, and `T` is the tick count of the latest call. -/
structure Inv (log : List (List Byte)) (T : Nat) (s : AState) : Prop where
  /-- the pending result is `combine` of a run of at most three consecutive logged bursts -/
  pending : ∀ t, s.pending = some t → ∃ r, IsRun r log ∧ combine MAXLEN r = some t.data
  /-- the history is the most recent part of the log -/
  hist_suffix : s.history.map (·.data) <:+ log
  hist_sorted : DeadlinesSorted s.history
  hist_due : ∀ e ∈ s.history, e.deadline ≤ T + HIST

theorem inv_init : Inv [] 0 {} where
  pending := by intro t h; simp at h
  hist_suffix := List.suffix_refl _
  hist_sorted := List.Pairwise.nil
  hist_due := by intro e he; simp at he

theorem isRun_extend (r log : List (List Byte)) (x : List Byte) (h : IsRun r log) :
    IsRun r (log ++ [x]) :=
  ⟨List.IsInfix.trans h.1 (List.prefix_append log [x]).isInfix, h.2⟩

theorem inv_idle (log : List (List Byte)) (T now : Nat) (s : AState) (hT : T ≤ now)
    (h : Inv log T s) : Inv log now (aIdle s now).1 where
  pending := by
    intro t ht
    rw [C08.idle_pending] at ht
    rcases C08.poll_pending s.pending now with hp | ⟨hp, _⟩
    · rw [hp] at ht; cases ht
    · rw [hp] at ht; exact h.pending t ht
  hist_suffix := by
    rw [idle_history]
    exact List.IsSuffix.trans ((pruneHistory_suffix _ now h.hist_sorted).map _) h.hist_suffix
  hist_sorted := by rw [idle_history]; exact pruneHistory_sorted _ now h.hist_sorted
  hist_due := by
    rw [idle_history]
    intro e he
    have := h.hist_due e (pruneHistory_mem _ now h.hist_sorted e he)
    omega

theorem historyAfter_data (s : AState) (burst : List Byte) (now : Nat) :
    (historyAfter s burst now).map (·.data)
      = (pruneHistory s.history now).map (·.data) ++ [burst.take MAXLEN] := by
  simp [historyAfter]

theorem historyAfter_suffix (log : List (List Byte)) (T now : Nat) (s : AState) (burst : List Byte)
    (h : Inv log T s) :
    (historyAfter s burst now).map (·.data) <:+ log ++ [burst.take MAXLEN] := by
  rw [historyAfter_data]
  obtain ⟨t, ht⟩ := List.IsSuffix.trans ((pruneHistory_suffix _ now h.hist_sorted).map _) h.hist_suffix
  exact ⟨t, by rw [← ht]; simp⟩

theorem inv_afterBurst (log : List (List Byte)) (T now : Nat) (s : AState) (burst : List Byte)
    (hT : T ≤ now) (hb : burst.isEmpty = false) (h : Inv log T s) :
    Inv (log ++ [burst.take MAXLEN]) now (preIdle s (.burst burst now)) := by
  rw [preIdle_burst _ _ _ hb]
  exact {
  pending := by
    intro t ht
    simp only at ht
    rcases pendingAfter_cases s burst now with hp | ⟨r, he, hp⟩
    · rw [hp] at ht
      obtain ⟨r, hr, hc⟩ := h.pending t ht
      exact ⟨r, isRun_extend r log _ hr, hc⟩
    · rw [hp] at ht
      cases ht
      refine ⟨(historyAfter s burst now).map (·.data),
        ⟨(historyAfter_suffix log T now s burst h).isInfix, ?_⟩, ?_⟩
      · simpa using historyAfter_length_le s burst now
      · rw [C08.acceptNew_data]; exact estimateOf_some s burst now r he
  hist_suffix := historyAfter_suffix log T now s burst h
  hist_sorted := by
    simp only [historyAfter, DeadlinesSorted]
    rw [List.pairwise_append]
    refine ⟨pruneHistory_sorted _ now h.hist_sorted, List.pairwise_singleton _ _, ?_⟩
    intro a ha b hb
    simp only [List.mem_singleton] at hb
    subst hb
    have := h.hist_due a (pruneHistory_mem _ now h.hist_sorted a ha)
    simp only; omega
  hist_due := by
    intro e he
    simp only [historyAfter, List.mem_append, List.mem_singleton] at he
    rcases he with he | rfl
    · have := h.hist_due e (pruneHistory_mem _ now h.hist_sorted e he)
      omega
    · simp }

theorem inv_assemble (log : List (List Byte)) (T now : Nat) (s : AState) (burst : List Byte)
    (hT : T ≤ now) (hb : burst.isEmpty = false) (h : Inv log T s) :
    Inv (log ++ [burst.take MAXLEN]) now (aAssemble s burst now).1 := by
  rw [← stepOp, stepOp_eq]
  exact inv_idle _ now now _ (Nat.le_refl _) (inv_afterBurst log T now s burst hT hb h)

theorem idle_message_evidence (log : List (List Byte)) (T now : Nat) (s : AState) (res : MsgResult)
    (h : Inv log T s) (hm : (aIdle s now).2 = .message res) :
    ∃ r, IsRun r log ∧ combine MAXLEN r = some res := by
  obtain ⟨t, hp, hd, _⟩ := idle_out s now res hm
  obtain ⟨r, hr, hc⟩ := h.pending t hp
  exact ⟨r, hr, by rw [hc, hd]⟩

theorem assemble_message_evidence (log : List (List Byte)) (T now : Nat) (s : AState)
    (burst : List Byte) (res : MsgResult) (hT : T ≤ now) (hb : burst.isEmpty = false)
    (h : Inv log T s) (hm : (aAssemble s burst now).2 = .message res) :
    ∃ r, IsRun r (log ++ [burst.take MAXLEN]) ∧ combine MAXLEN r = some res := by
  rw [← stepOp, stepOp_eq] at hm
  exact idle_message_evidence _ now now _ res (inv_afterBurst log T now s burst hT hb h) hm

end SameVerif
