import SameVerif.Lemmas.AssemblerSeq
import SameVerif.Lemmas.CombineTails
/-
  Support for the WHOLE transmission (header ×3, then `NNNN` ×3) at the transport:
  * `combine` on the burst runs that occur: trailer bursts alone, trailer bursts voted with one
    remembered header burst (all with link-layer tails);
  * a small calculus of burst steps from a state in which nothing is held (`Calm`).
-/
namespace SameVerif
open SameVerif.Spec

theorem combine_header_trailer (maxLen : Nat) (a b : List Byte) :
    combine maxLen [90 :: a, 78 :: b] = none := by
  have hest : estimateMessage maxLen [90 :: a, 78 :: b] = [] := by
    unfold estimateMessage
    cases maxLen with
    | zero => rfl
    | succ c =>
      have h1 : voteDetect ((90 : Byte) &&& ~~~(0x80 : Byte)) ((78 : Byte) &&& ~~~(0x80 : Byte)) = (0, 2) := by
        decide
      simp [estimateLoop, voteAt, List.filterMap, h1]
      decide
  unfold combine
  rw [hest]
  rfl

end SameVerif

namespace SameVerif.Asm

/-- the newest two of the stored bursts and the new one -/
def lastTwo (h1 : List (Timed (List Byte))) (b : List Byte) (now : Nat) : List (Timed (List Byte)) :=
  (h1 ++ [(⟨b.take MAXLEN, now + HIST⟩ : Timed (List Byte))]).drop
    ((h1 ++ [(⟨b.take MAXLEN, now + HIST⟩ : Timed (List Byte))]).length - 2)

theorem lastTwo_length (h1 : List (Timed (List Byte))) (b : List Byte) (now : Nat) :
    (lastTwo h1 b now).length ≤ 2 := by
  simp only [lastTwo, List.length_drop]
  omega

theorem calm_estimate (S : AState) (p : Option (Timed Msg)) (h0 : List (Timed (List Byte))) (T : Nat)
    (hs : Calm S p h0 T) (b : List Byte) (now : Nat) (hT : T ≤ now) (h1 : List (Timed (List Byte)))
    (hh : pruneHistory h0 now = h1) :
    estimateOf S b now
        = dedup (prunePrevious p now) (combine MAXLEN (h1.map (·.data) ++ [b.take MAXLEN]))
      ∧ pruneHistory (historyAfter S b now) now = lastTwo h1 b now := by
  have hist := historyAfter_of_prune S b now h1 ((hs.hist now hT).trans hh)
  refine ⟨?_, by rw [prune_historyAfter, hist]; rfl⟩
  unfold estimateOf
  rw [hist, List.map_append, hs.previous]
  rfl

theorem calm_burst_none (S : AState) (p : Option (Timed Msg)) (h0 : List (Timed (List Byte))) (T : Nat)
    (hs : Calm S p h0 T) (b : List Byte) (now : Nat) (hne : b.isEmpty = false) (hT : T ≤ now)
    (h1 : List (Timed (List Byte))) (hh : pruneHistory h0 now = h1)
    (hest : dedup (prunePrevious p now) (combine MAXLEN (h1.map (·.data) ++ [b.take MAXLEN])) = none) :
    (∀ r, (stepOp S (.burst b now)).2 ≠ .message r)
      ∧ Calm (stepOp S (.burst b now)).1 (prunePrevious p now) (lastTwo h1 b now) now := by
  obtain ⟨h2, h3⟩ := calm_estimate S p h0 T hs b now hT h1 hh
  obtain ⟨hst, hq⟩ := burst_quiet S b now hne hs.pending (h2.trans hest)
  refine ⟨hq, ?_⟩
  rw [hst, h3, hs.previous]
  exact ⟨rfl, rfl, lastTwo_length h1 b now, fun _ _ => rfl⟩

theorem calm_burst_eom (S : AState) (p : Option (Timed Msg)) (h0 : List (Timed (List Byte))) (T : Nat)
    (hs : Calm S p h0 T) (b : List Byte) (now : Nat) (hne : b.isEmpty = false) (hT : T ≤ now)
    (h1 : List (Timed (List Byte))) (hh : pruneHistory h0 now = h1)
    (hest : dedup (prunePrevious p now) (combine MAXLEN (h1.map (·.data) ++ [b.take MAXLEN]))
      = some (.ok .eom)) :
    (stepOp S (.burst b now)).2 = .message (.ok .eom)
      ∧ Calm (stepOp S (.burst b now)).1 (some ⟨.eom, now + HIST⟩) (lastTwo h1 b now) now := by
  obtain ⟨h2, h3⟩ := calm_estimate S p h0 T hs b now hT h1 hh
  have hst := burst_eom S b now hne (h2.trans hest) (by intro old ho; rw [hs.pending] at ho; cases ho)
  rw [hst, h3]
  exact ⟨rfl, rfl, rfl, lastTwo_length h1 b now, fun _ _ => rfl⟩

theorem trailer_take (e : List Byte) :
    (litNNNN ++ e).take MAXLEN = 78 :: 78 :: 78 :: 78 :: e.take (MAXLEN - 4) := by
  rw [take_header_tail litNNNN e MAXLEN (by decide)]
  rfl

theorem trailer_nonempty (e : List Byte) : (litNNNN ++ e).isEmpty = false := rfl

theorem trailer_third_dup (S : AState) (r1 r2 : List Byte) (e3 : List Byte) (d1 d2 d T n3 : Nat)
    (q2 q3 : List Nat)
    (hs : Calm S (some ⟨.eom, d⟩) [⟨78 :: 78 :: r1, d1⟩, ⟨78 :: 78 :: r2, d2⟩] T) (hT : T ≤ n3)
    (h1 : n3 < d1) (h2 : n3 < d2) (hd : n3 < d) (hq2 : ∀ u ∈ q2, u ≤ n3) :
    (runOps S (q2.map .poll ++ .burst (litNNNN ++ e3) n3 :: q3.map .poll)).2 = [] := by
  obtain ⟨ho1, hc1⟩ := calm_polls q2 S _ _ n3 (hs.mono hT) hq2
  obtain ⟨hq, hc2⟩ := calm_burst_none _ _ _ n3 hc1 (litNNNN ++ e3) n3 (trailer_nonempty e3)
    (Nat.le_refl _) _ (prune_two_fresh _ _ n3 h1 h2)
    (by rw [trailer_take]
        exact (congrArg _ (combine_trailers_max [r1, r2, _] (by simp))).trans (dedup_prune_dup .eom .eom d n3 hd rfl))
  obtain ⟨ho3, _, _⟩ := run_polls_quiet q3 _ hc2.pending
  rw [runOps_append_snd, ho1, List.nil_append, runOps_cons_snd, outOf_quiet _ _ hq, ho3]
  rfl

theorem trailer_late (S : AState) (a3 r1 e2 e3 : List Byte) (x1 : Byte) (d3 n1 n2 n3 : Nat)
    (p : Option (Timed Msg)) (q1 q2 q3 : List Nat)
    (hs : Calm S p [⟨90 :: x1 :: a3, d3⟩, ⟨78 :: 78 :: r1, n1 + HIST⟩] n1)
    (hp : ∀ q, p = some q → q.data.text ≠ litNNNN)
    (h12 : n1 ≤ n2) (h23 : n2 ≤ n3) (h31 : n3 < n1 + HIST)
    (hq1 : ∀ u ∈ q1, u ≤ n2) (hq2 : ∀ u ∈ q2, u ≤ n3) :
    (runOps S (q1.map .poll ++ .burst (litNNNN ++ e2) n2 ::
        (q2.map .poll ++ .burst (litNNNN ++ e3) n3 :: q3.map .poll))).2 = [(n2, .ok .eom)] := by
  have hH := HIST_pos
  obtain ⟨ho1, hc1⟩ := calm_polls q1 S _ _ n2 (hs.mono h12) hq1
  -- what is alive at `n2`: both stored bursts, or the trailer burst alone; EndOfMessage either way
  have key : ∃ h1, pruneHistory [⟨90 :: x1 :: a3, d3⟩, ⟨78 :: 78 :: r1, n1 + HIST⟩] n2 = h1
      ∧ combine MAXLEN (h1.map (·.data) ++ [(litNNNN ++ e2).take MAXLEN]) = some (.ok .eom)
      ∧ lastTwo h1 (litNNNN ++ e2) n2
          = [⟨78 :: 78 :: r1, n1 + HIST⟩, ⟨78 :: 78 :: 78 :: 78 :: e2.take (MAXLEN - 4), n2 + HIST⟩] := by
    by_cases hl : n2 < d3
    · refine ⟨_, prune_two_fresh _ _ n2 hl (by simp only; omega), ?_, ?_⟩
      · rw [trailer_take]; exact combine_foreign_trailers2 266 _ _ _ _ _
      · rw [lastTwo, trailer_take]; rfl
    · refine ⟨_, prune_two_second _ _ n2 (by simp only; omega) (by simp only; omega), ?_, ?_⟩
      · rw [trailer_take]; exact combine_trailers_max [_, _] (by simp)
      · rw [lastTwo, trailer_take]; rfl
  obtain ⟨h1, hh1, hcomb, hlast⟩ := key
  obtain ⟨hout, hc2⟩ := calm_burst_eom _ _ _ n2 hc1 (litNNNN ++ e2) n2 (trailer_nonempty e2)
    (Nat.le_refl _) h1 hh1 (by rw [hcomb]; exact dedup_prune_pass p n2 .eom hp)
  rw [hlast] at hc2
  have h3 := trailer_third_dup _ r1 (78 :: 78 :: e2.take (MAXLEN - 4)) e3 (n1 + HIST) (n2 + HIST)
    (n2 + HIST) n2 n3 q2 q3 hc2 h23 h31 (by omega) (by omega) hq2
  rw [runOps_append_snd, ho1, List.nil_append, runOps_cons_snd, hout, h3]
  rfl

theorem trailer_fast (S : AState) (e1 e2 e3 : List Byte) (h0 : List (Timed (List Byte))) (T n1 n2 n3 : Nat)
    (p : Option (Timed Msg)) (q1 q2 q3 : List Nat)
    (hs : Calm S p h0 T) (hT : T ≤ n1) (hx : ∀ e ∈ h0, e.deadline ≤ n1)
    (hp : ∀ q, p = some q → q.data.text ≠ litNNNN)
    (h12 : n1 ≤ n2) (h23 : n2 ≤ n3) (h31 : n3 < n1 + HIST)
    (hq1 : ∀ u ∈ q1, u ≤ n2) (hq2 : ∀ u ∈ q2, u ≤ n3) :
    (runOps S (.burst (litNNNN ++ e1) n1 :: (q1.map .poll ++ .burst (litNNNN ++ e2) n2 ::
        (q2.map .poll ++ .burst (litNNNN ++ e3) n3 :: q3.map .poll)))).2 = [(n1, .ok .eom)] := by
  have hH := HIST_pos
  -- first burst
  obtain ⟨hout1, hc1⟩ := calm_burst_eom S p h0 T hs (litNNNN ++ e1) n1 (trailer_nonempty e1) hT []
    (pruneHistory_expired h0 n1 hx)
    (by rw [trailer_take]
        exact (congrArg _ (combine_trailers_max [_] (by simp))).trans (dedup_prune_pass p n1 .eom hp))
  have hl1 : lastTwo [] (litNNNN ++ e1) n1
      = [⟨78 :: 78 :: 78 :: 78 :: e1.take (MAXLEN - 4), n1 + HIST⟩] := by
    rw [lastTwo, trailer_take]; rfl
  rw [hl1] at hc1
  -- polls, second burst
  obtain ⟨ho1, hc1'⟩ := calm_polls q1 _ _ _ n2 (hc1.mono h12) hq1
  obtain ⟨hq2', hc2⟩ := calm_burst_none _ _ _ n2 hc1' (litNNNN ++ e2) n2 (trailer_nonempty e2)
    (Nat.le_refl _) _ (prune_one_fresh _ n2 (by simp only; omega))
    (by rw [trailer_take]
        exact (congrArg _ (combine_trailers_max [_, _] (by simp))).trans
          (dedup_prune_dup .eom .eom _ n2 (by omega) rfl))
  have hl2 : lastTwo [⟨78 :: 78 :: 78 :: 78 :: e1.take (MAXLEN - 4), n1 + HIST⟩] (litNNNN ++ e2) n2
      = [⟨78 :: 78 :: 78 :: 78 :: e1.take (MAXLEN - 4), n1 + HIST⟩,
         ⟨78 :: 78 :: 78 :: 78 :: e2.take (MAXLEN - 4), n2 + HIST⟩] := by
    rw [lastTwo, trailer_take]; rfl
  rw [hl2, prunePrevious_live .eom _ n2 (by omega)] at hc2
  have h3 := trailer_third_dup _ (78 :: 78 :: e1.take (MAXLEN - 4)) (78 :: 78 :: e2.take (MAXLEN - 4)) e3
    (n1 + HIST) (n2 + HIST) (n1 + HIST) n2 n3 q2 q3 hc2 h23 h31 (by omega) h31 hq2
  rw [runOps_cons_snd, hout1, runOps_append_snd, ho1, List.nil_append, runOps_cons_snd,
    outOf_quiet _ _ hq2', h3]
  rfl

end SameVerif.Asm
