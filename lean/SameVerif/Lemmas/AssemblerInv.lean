import SameVerif.Lemmas.AssemblerSteps
/-
  Invariants of the assembler model used by C05 and C02: the duplicate-suppression invariant and
  its preservation, what happens to `previous` across one operation, and list predicates for
  statements about `runOps`.
-/
namespace SameVerif.Asm
open SameVerif.C08

/-- a pending StartOfMessage with the same text as the previously reported message was accepted
    only after that entry's deadline -/
def DedupInv (s : AState) : Prop :=
  ∀ t h p, s.pending = some t → t.data = .ok (.som h) → s.previous = some p →
    p.data.text = h.text → p.deadline + HOLD ≤ t.deadline

theorem dedupInv_preIdle (s : AState) (op : AOp) (h : DedupInv s) : DedupInv (preIdle s op) := by
  cases op with
  | poll t => exact h
  | burst b now =>
    by_cases hb : b.isEmpty = true
    · rw [preIdle_burst_empty _ _ _ hb]; exact h
    · rw [preIdle_burst _ _ _ (by simpa using hb)]
      intro t hd p hpend hdat hprev htext
      simp only at hpend hprev
      rcases prunePrevious_cases s.previous now with ⟨hn, _⟩ | ⟨hk, _⟩
      · rw [hn] at hprev; cases hprev
      · rw [hk] at hprev
        rcases pendingAfter_cases s b now with hpa | ⟨r, hest, hpa⟩
        · rw [hpa] at hpend
          exact h t hd p hpend hdat hprev htext
        · rw [hpa] at hpend
          cases hpend
          rw [acceptNew_data] at hdat
          subst hdat
          unfold estimateOf at hest
          rw [hk] at hest
          exact absurd htext (dedup_ok_text _ _ _ hest p hprev)

theorem dedupInv_idle (s : AState) (now : Nat) (h : DedupInv s) : DedupInv (aIdle s now).1 := by
  rcases idle_cases s now with ⟨_, _, _, _, _, he⟩ | ⟨_, _, _, _, _, he⟩ | ⟨_, he⟩
  · rw [he]; intro t hd p hpend; cases hpend
  · rw [he]; intro t hd p hpend; cases hpend
  · rw [he]; exact h

theorem preIdle_previous (s : AState) (op : AOp) (q : Timed Msg) (hprev : s.previous = some q) :
    (preIdle s op).previous = some q ∨ q.deadline ≤ op.time := by
  cases op with
  | poll t => left; exact hprev
  | burst b now =>
    by_cases hb : b.isEmpty = true
    · left; rw [preIdle_burst_empty _ _ _ hb]; exact hprev
    · rw [preIdle_burst _ _ _ (by simpa using hb)]
      rcases prunePrevious_cases s.previous now with ⟨_, hx⟩ | ⟨hk, _⟩
      · right; exact hx q hprev
      · left; rw [← hprev]; exact hk

theorem previous_step_quiet (s : AState) (op : AOp)
    (hq : ∀ m, (stepOp s op).2 ≠ .message (.ok m)) (q : Timed Msg) (hprev : s.previous = some q) :
    (stepOp s op).1.previous = some q ∨ q.deadline ≤ op.time := by
  rw [stepOp_eq] at hq ⊢
  rcases preIdle_previous s op q hprev with hpre | hpre
  · rcases idle_cases (preIdle s op) op.time with ⟨_, m, _, _, _, he⟩ | ⟨_, _, _, _, _, he⟩ | ⟨_, he⟩
    · rw [he] at hq; exact absurd rfl (hq m)
    · rw [he]; left; exact hpre
    · rw [he]; left; exact hpre
  · right; exact hpre

/-- the decoded messages among the outputs -/
def okOutputs : List (Nat × MsgResult) → List (Nat × Msg)
  | [] => []
  | (t, .ok m) :: r => (t, m) :: okOutputs r
  | (_, .error _) :: r => okOutputs r

/-- adjacent reports with the same text are at least `HIST` ticks apart -/
def Spaced : List (Nat × Msg) → Prop
  | [] => True
  | a :: r => (∀ b, r.head? = some b → a.2.text = b.2.text → a.1 + HIST ≤ b.1) ∧ Spaced r

theorem spaced_append (pre post : List (Nat × Msg)) (a b : Nat × Msg)
    (h : Spaced (pre ++ a :: b :: post)) : a.2.text = b.2.text → a.1 + HIST ≤ b.1 := by
  induction pre with
  | nil => exact h.1 b rfl
  | cons x pre ih => exact ih h.2

end SameVerif.Asm
