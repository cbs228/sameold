import SameVerif.Lemmas.AssemblerSeq
import SameVerif.Lemmas.DashFreeTail
import SameVerif.Lemmas.CombineTails
import SameVerif.Lemmas.Evidence
/-
  Support for C02poll — "two of three bursts, one of them corrupted, ANY poll schedule" at the
  transport:
  * the header parser on its own match (`checkHeader_take`), what `combine` promises about the
    header it returns (`combine_som_canonical`, `combine_pair_voting`);
  * `NoHeaderPrefix` with a checker and a sufficient condition (no `-` inside the callsign);
  * a small calculus of assembler states in which at most one StartOfMessage with the text `H`
    has been, or can still be, output (`Open` / `Done`), with the poll and burst steps.
-/
namespace SameVerif
open SameVerif.Spec

/-- the StartOfMessage outputs of a run, with their times -/
def soms (out : List (Nat × MsgResult)) : List (Nat × Header) :=
  out.filterMap (fun p => match p.2 with | .ok (.som h) => some (p.1, h) | _ => none)

/-- no proper prefix of `H` is itself accepted by the header parser as a complete header -/
def NoHeaderPrefix (H : List Byte) : Prop :=
  ∀ n, n < H.length → ∀ off', checkHeader (H.take n) ≠ some (off', n)

/-- `NoHeaderPrefix`, as a computation -/
def noHeaderPrefixB (H : List Byte) : Bool :=
  (List.range H.length).all (fun n => (checkHeader (H.take n)).map (·.2) != some n)

theorem noHeaderPrefix_of_check (H : List Byte) (h : noHeaderPrefixB H = true) : NoHeaderPrefix H := by
  intro n hn off' hc
  unfold noHeaderPrefixB at h
  rw [List.all_eq_true] at h
  have := h n (List.mem_range.mpr hn)
  rw [hc] at this
  simp at this

theorem soms_nil : soms [] = [] := rfl

theorem soms_append (a b : List (Nat × MsgResult)) : soms (a ++ b) = soms a ++ soms b := by
  unfold soms; exact List.filterMap_append

theorem soms_som (u : Nat) (h : Header) : soms [(u, .ok (.som h))] = [(u, h)] := rfl
theorem soms_err (u : Nat) (e : DecodeErr) : soms [(u, .error e)] = [] := rfl
theorem soms_eom (u : Nat) : soms [(u, .ok .eom)] = [] := rfl

theorem checkHeader_take (s : List Byte) (o n : Nat) (h : checkHeader s = some (o, n)) :
    checkHeader (s.take n) = some (o, n) ∧ (s.take n).length = n := by
  unfold checkHeader at h
  cases hp : parseFields s with
  | none => simp [hp] at h
  | some f =>
    simp only [hp, Option.some.injEq, Prod.mk.injEq] at h
    obtain ⟨ho, hn⟩ := h
    obtain ⟨hw, hs, _⟩ := parseFields_sound' s f hp
    have hrl := fields_render_length f hw
    have hlen : f.render.length = n := by omega
    have htake : s.take n = f.render := by
      rw [hs]; exact List.take_left' hlen
    rw [htake]
    refine ⟨?_, hlen⟩
    obtain ⟨call', rest', hp'⟩ := parseFields_complete f [] hw
    obtain ⟨_, hs', hcs⟩ := parseFields_sound' _ _ hp'
    simp only [Fields.render, List.append_assoc, List.cons_append, List.nil_append] at hs'
    have e : f.call ++ 45 :: [] = call' ++ 45 :: rest' := by simpa using hs'
    simp only at hcs
    rw [← e, callsignOf_dashfree f.call [] hw.call (by simp)] at hcs
    simp only [Option.some.injEq, Prod.mk.injEq] at hcs
    obtain ⟨rfl, rfl⟩ := hcs
    rw [List.append_nil] at hp'
    unfold checkHeader
    rw [hp']
    simp only [Option.some.injEq, Prod.mk.injEq]
    omega

theorem combine_som_canonical (maxLen : Nat) (bursts : List (List Byte)) (h : Header)
    (hc : combine maxLen bursts = some (.ok (.som h))) :
    checkHeader h.text = some (h.offsetTime, h.text.length) := by
  obtain ⟨len, h1, h2, _⟩ := tryFromBytes_som_parse _ _ _ _ (combine_som_parse maxLen bursts h hc)
  obtain ⟨h3, h4⟩ := checkHeader_take _ _ _ h1
  rw [h2, h4]
  exact h3

theorem estimateLoop_nbursts_le (cap : Nat) (bs : List (List Byte)) (e : EstByte)
    (he : e ∈ estimateLoop cap bs) : e.nbursts ≤ bs.length := by
  obtain ⟨i, hi⟩ := List.getElem?_of_mem he
  rw [(estimateLoop_entry cap bs i e hi).2.1]
  exact column_length_le bs i

theorem combine_pair_voting (maxLen : Nat) (a b : List Byte) (h : Header)
    (hc : combine maxLen [a, b] = some (.ok (.som h))) : h.voting = 0 := by
  obtain ⟨len, _, _, h3⟩ := tryFromBytes_som_parse _ _ _ _ (combine_som_parse maxLen [a, b] h hc)
  rw [h3, List.length_eq_zero_iff, List.filter_eq_nil_iff]
  intro p hp
  have h1 := (List.of_mem_zip hp).1
  obtain ⟨e, he, hen⟩ := List.mem_map.mp h1
  have := estimateLoop_nbursts_le maxLen ([a, b].take 3) e he
  simp only [List.take, List.length_cons, List.length_nil] at this
  simp only [decide_eq_false_iff_not, Nat.not_lt, Bool.not_eq_eq_eq_not, Bool.not_true]
  omega

/-- `off + 14` is where the callsign begins; the last byte of `H` is the `-` that closes it. -/
theorem noHeaderPrefix_of_dashfree_call (H : List Byte) (off : Nat)
    (hcan : checkHeader H = some (off, H.length))
    (hd : ∀ b ∈ (H.drop (off + 14)).dropLast, b ≠ 45) : NoHeaderPrefix H := by
  intro n hn off' hq
  obtain ⟨fH, hpH, hwH, hH, _, hoff⟩ := canonical_fields H off hcan
  have hlq : (H.take n).length = n := by rw [List.length_take]; omega
  obtain ⟨fQ, _, hwQ, hQ, _, _⟩ := canonical_fields (H.take n) off' (by rw [hlq]; exact hq)
  -- `H` begins with the rendering of the prefix's fields, so it parses to the same fields up to
  -- the callsign
  obtain ⟨call', rest', hp'⟩ := parseFields_complete fQ (H.drop n) hwQ
  rw [← hQ, List.take_append_drop, hpH] at hp'
  simp only [Option.some.injEq] at hp'
  have hlocs : fH.locs = fQ.locs := by rw [hp']
  have hrH := fields_render_length fH hwH
  have hrQ := fields_render_length fQ hwQ
  have hlH : H.length = 27 + 7 * fH.locs.length + fH.call.length := by rw [← hrH, ← hH]
  have hlQ : n = 27 + 7 * fQ.locs.length + fQ.call.length := by rw [← hrQ, ← hQ, hlq]
  have hcl : fQ.call.length < fH.call.length := by rw [hlocs] at hlH; omega
  -- the byte of `H` that closes the prefix's callsign
  have hbyte : H[n - 1]? = some 45 := by
    have h1 : (H.take n)[n - 1]? = some 45 := by
      rw [hQ]
      simp only [Fields.render]
      rw [List.getElem?_append_right (by
        simp only [List.length_append, List.length_cons] at hrQ ⊢
        simp only [Fields.render, List.length_append, List.length_cons, List.length_nil] at hrQ
        omega)]
      have : n - 1 - (litZCZC ++ fQ.org ++ 45 :: fQ.evt ++ renderLocs fQ.locs ++ 43 :: fQ.purge
          ++ 45 :: fQ.issue ++ 45 :: fQ.call).length = 0 := by
        simp only [Fields.render, List.length_append, List.length_cons, List.length_nil] at hrQ
        simp only [List.length_append, List.length_cons]
        omega
      rw [this]; rfl
    rw [List.getElem?_take] at h1
    have : n - 1 < n := by omega
    simpa [this] using h1
  -- it lies inside the callsign of `H`
  have hmem : (45 : Byte) ∈ (H.drop (off + 14)).dropLast := by
    have hk : n - 1 = off + 14 + fQ.call.length := by rw [hoff, hlocs]; omega
    have h2 : (H.drop (off + 14))[fQ.call.length]? = some 45 := by
      rw [List.getElem?_drop, ← hk]; exact hbyte
    have h3 : ((H.drop (off + 14)).dropLast)[fQ.call.length]? = some 45 := by
      rw [List.dropLast_eq_take, List.getElem?_take]
      have : fQ.call.length < (H.drop (off + 14)).length - 1 := by
        rw [List.length_drop, hoff]; omega
      rw [if_pos this]; exact h2
    exact List.mem_of_getElem? h3
  exact hd 45 hmem rfl

end SameVerif

namespace SameVerif.Asm

theorem runOps_burst_empty (s : AState) (a rest : List AOp) (b : List Byte) (t : Nat)
    (hb : b.isEmpty = true) :
    runOps s (a ++ .burst b t :: rest) = runOps s (a ++ .poll t :: rest) := by
  have hstep : stepOp (runOps s a).1 (.burst b t) = stepOp (runOps s a).1 (.poll t) := by
    rw [stepOp_eq, stepOp_eq, preIdle_burst_empty _ _ _ hb]
    rfl
  rw [runOps_append, runOps_append, runOps_cons, runOps_cons, hstep]
  rfl

/-- what an estimate may be while the header is not yet established: anything but a
    StartOfMessage other than the two-burst header `H` -/
def GoodEst (H : List Byte) (off : Nat) (r : Option MsgResult) : Prop :=
  ∀ h, r = some (.ok (.som h)) → h.text = H ∧ h.offsetTime = off ∧ h.voting = 0

/-- **Nothing reported yet.**  The previous report (if any) is not `H`; whatever is held is an
    error or a two-burst header with the text `H`, due at `lo` or later. -/
structure Open (H : List Byte) (off lo : Nat) (S : AState) : Prop where
  prev : ∀ p, S.previous = some p → p.data.text ≠ H
  pend : ∀ tm, S.pending = some tm → lo ≤ tm.deadline ∧
    ((∃ e, tm.data = .error e) ∨
      ∃ h, tm.data = .ok (.som h) ∧ h.text = H ∧ h.offsetTime = off ∧ h.voting = 0)
  hlen : S.history.length ≤ 2

/-- **`H` has been reported**, at `lo` or later, and nothing is held. -/
structure Done (H : List Byte) (lo : Nat) (S : AState) : Prop where
  pend : S.pending = none
  prev : ∃ m d, S.previous = some ⟨m, d⟩ ∧ m.text = H ∧ lo + HIST ≤ d
  hlen : S.history.length ≤ 2

theorem open_polls (H : List Byte) (off lo : Nat) (polls : List Nat) (S : AState)
    (hS : Open H off lo S) :
    (soms (runOps S (polls.map .poll)).2 = [] ∧ Open H off lo (runOps S (polls.map .poll)).1)
    ∨ (∃ u h, u ∈ polls ∧ soms (runOps S (polls.map .poll)).2 = [(u, h)] ∧ h.text = H
        ∧ h.offsetTime = off ∧ Done H lo (runOps S (polls.map .poll)).1) := by
  have hl := run_polls_hlen polls S hS.hlen
  rcases run_polls_cases polls S with ⟨ho, hp, hv, _⟩ | ⟨tm, u, hp, hu, hd, ho, hpn, hpv⟩
  · left
    rw [ho]
    exact ⟨rfl, by rw [hv]; exact hS.prev, by rw [hp]; exact hS.pend, hl⟩
  · obtain ⟨hlo, ⟨e, he⟩ | ⟨h, hdat, ht, hoff, _⟩⟩ := hS.pend tm hp
    · left
      rw [ho, he]
      refine ⟨rfl, ?_, ?_, hl⟩
      · rw [hpv, he]; exact hS.prev
      · rw [hpn]; intro tm' h'; cases h'
    · right
      refine ⟨u, h, hu, by rw [ho, hdat]; rfl, ht, hoff, hpn, ?_, hl⟩
      exact ⟨.som h, u + HIST, by rw [hpv, hdat], ht, by omega⟩

theorem done_polls (H : List Byte) (lo : Nat) (polls : List Nat) (S : AState) (hS : Done H lo S) :
    (runOps S (polls.map .poll)).2 = [] ∧ Done H lo (runOps S (polls.map .poll)).1 := by
  obtain ⟨h1, h2, h3⟩ := run_polls_quiet polls S hS.pend
  exact ⟨h1, h2, by rw [h3]; exact hS.prev, run_polls_hlen polls S hS.hlen⟩

theorem open_burst_som (H : List Byte) (off lo : Nat) (S : AState) (b : List Byte) (now : Nat)
    (hnew : Header) (hne : b.isEmpty = false) (hS : Open H off lo S)
    (hc : combine MAXLEN ((historyAfter S b now).map (·.data)) = some (.ok (.som hnew)))
    (htext : hnew.text = H) :
    (stepOp S (.burst b now)).1.pending = some ⟨.ok (.som hnew), now + HOLD⟩
      ∧ ∀ r, (stepOp S (.burst b now)).2 ≠ .message r := by
  obtain ⟨hs, hq⟩ := burst_held S b now _ hne
    (estimateOf_pass S b now (.som hnew) hc (fun p hp => by
      show p.data.text ≠ hnew.text
      rw [htext]; exact hS.prev p hp)) (by simp)
    (by
      intro tm hp
      rcases (hS.pend tm hp).2 with ⟨e, he⟩ | ⟨h, hd, _, _, hv⟩
      · rw [he]; rfl
      · rw [hd]; simp [acceptReplaces, hv])
  rw [hs]
  exact ⟨rfl, hq⟩

theorem done_burst_som (H : List Byte) (lo : Nat) (S : AState) (b : List Byte) (now : Nat)
    (hnew : Header) (hne : b.isEmpty = false) (hS : Done H lo S)
    (hc : combine MAXLEN ((historyAfter S b now).map (·.data)) = some (.ok (.som hnew)))
    (htext : hnew.text = H) (hlive : now < lo + HIST) :
    (stepOp S (.burst b now)).1.pending = none
      ∧ ∀ r, (stepOp S (.burst b now)).2 ≠ .message r := by
  obtain ⟨m, d, hpv, hm, hd⟩ := hS.prev
  obtain ⟨hs, hq⟩ := burst_quiet S b now hne hS.pend
    (estimateOf_dup S b now d (.som hnew) m hc hpv (by omega) (hm.trans htext.symm))
  rw [hs]
  exact ⟨rfl, hq⟩

theorem finish_third (H : List Byte) (off lo : Nat) (S : AState) (b3 : List Byte) (t3 : Nat)
    (polls2 polls : List Nat) (h0 : List (Timed (List Byte))) (hnew : Header)
    (hS : Open H off lo S) (hne : b3.isEmpty = false)
    (hp2 : ∀ u ∈ polls2, u ≤ t3)
    (hh : pruneHistory S.history t3 = h0)
    (hc : combine MAXLEN (h0.map (·.data) ++ [b3.take MAXLEN]) = some (.ok (.som hnew)))
    (htext : hnew.text = H) (hoff : hnew.offsetTime = off)
    (hwin : t3 < lo + HIST)
    (hex : ∃ u ∈ polls, t3 + HOLD ≤ u) :
    ∃ u h, soms (runOps S (polls2.map .poll ++ .burst b3 t3 :: polls.map .poll)).2 = [(u, h)]
      ∧ h.text = H ∧ h.offsetTime = off := by
  have hc' : combine MAXLEN ((historyAfter (runOps S (polls2.map .poll)).1 b3 t3).map (·.data))
      = some (.ok (.som hnew)) := by
    rw [historyAfter_of_prune _ b3 t3 h0 ((run_polls_prune polls2 t3 S hS.hlen hp2).trans hh),
      List.map_append]
    exact hc
  rw [runOps_append_snd, soms_append, runOps_cons_snd, soms_append]
  rcases open_polls H off lo polls2 S hS with ⟨ho, hO⟩ | ⟨u, h, _, ho, ht, hof, hD⟩
  · obtain ⟨hpend, hq⟩ := open_burst_som H off lo _ b3 t3 hnew hne hO hc' htext
    obtain ⟨u, _, _, hout, _, _⟩ := run_polls_release polls ⟨.ok (.som hnew), t3 + HOLD⟩ _ hpend hex
    refine ⟨u, hnew, ?_, htext, hoff⟩
    rw [ho, outOf_quiet _ _ hq, hout]
    rfl
  · obtain ⟨hpend, hq⟩ := done_burst_som H lo _ b3 t3 hnew hne hD hc' htext hwin
    obtain ⟨hout, _, _⟩ := run_polls_quiet polls _ hpend
    refine ⟨u, h, ?_, ht, hof⟩
    rw [ho, outOf_quiet _ _ hq, hout]
    rfl

theorem first_burst (b : List Byte) (t : Nat) (hne : b.isEmpty = false) :
    (stepOp {} (.burst b t)).1.history = [⟨b.take MAXLEN, t + HIST⟩]
      ∧ (stepOp {} (.burst b t)).1.pending = none
      ∧ (∀ p, (stepOp {} (.burst b t)).1.previous = some p → p.data = .eom)
      ∧ soms (outOf t (stepOp {} (.burst b t)).2) = [] := by
  have hist := historyAfter_of_prune {} b t [] rfl
  rcases combine_single MAXLEN (b.take MAXLEN) with hc | hc
  · obtain ⟨hs, hq⟩ := burst_quiet {} b t hne rfl (estimateOf_none _ _ _ (by rw [hist]; exact hc))
    rw [hs, outOf_quiet _ _ hq, prune_historyAfter, hist]
    refine ⟨rfl, rfl, ?_, rfl⟩
    intro p hp
    cases hp
  · have hs := burst_eom {} b t hne
      (estimateOf_pass {} b t .eom (by rw [hist]; exact hc) (fun p hp => by cases hp))
      (fun old ho => by cases ho)
    rw [hs, prune_historyAfter, hist]
    refine ⟨rfl, rfl, ?_, rfl⟩
    intro p hp
    cases hp
    rfl

theorem empty_slot_burst_open (H : List Byte) (off lo : Nat) (S : AState) (b : List Byte) (now : Nat)
    (hne : b.isEmpty = false) (hpend : S.pending = none)
    (hprev : ∀ p, S.previous = some p → p.data.text ≠ H) (hHN : H ≠ litNNNN) (hlo : lo ≤ now)
    (hgood : GoodEst H off (combine MAXLEN ((historyAfter S b now).map (·.data)))) :
    soms (outOf now (stepOp S (.burst b now)).2) = [] ∧ Open H off lo (stepOp S (.burst b now)).1 := by
  have hl : (stepOp S (.burst b now)).1.history.length ≤ 2 := by
    rw [step_burst_history S b now hne]; exact pruneHistory_length_le _ _
  have hpv : ∀ p, prunePrevious S.previous now = some p → p.data.text ≠ H :=
    fun p hpp => hprev p (prunePrevious_some _ _ _ hpp).1
  have hfree : ∀ r old, S.pending = some old → acceptReplaces old.data r = true := by
    intro r old ho; rw [hpend] at ho; cases ho
  cases hest : estimateOf S b now with
  | none =>
    obtain ⟨hs, hq⟩ := burst_quiet S b now hne hpend hest
    refine ⟨by rw [outOf_quiet _ _ hq]; rfl, ?_, ?_, hl⟩
    · rw [hs]; exact hpv
    · rw [hs]; intro tm h; cases h
  | some r =>
    by_cases hr : r = .ok .eom
    · subst hr
      have hs := burst_eom S b now hne hest (hfree _)
      rw [hs] at hl ⊢
      refine ⟨rfl, ?_, ?_, hl⟩
      · intro p hp
        cases hp
        exact fun h => hHN h.symm
      · intro tm h; cases h
    · obtain ⟨hs, hq⟩ := burst_held S b now r hne hest hr (hfree _)
      refine ⟨by rw [outOf_quiet _ _ hq]; rfl, ?_, ?_, hl⟩
      · rw [hs]; exact hpv
      · rw [hs]
        intro tm h'
        cases h'
        refine ⟨by simp only; omega, ?_⟩
        match r, hr, hest with
        | .error e, _, _ => exact Or.inl ⟨e, rfl⟩
        | .ok .eom, hr, _ => exact absurd rfl hr
        | .ok (.som h), _, hest =>
          obtain ⟨ht, ho, hv⟩ := hgood h (estimateOf_some S b now _ hest)
          exact Or.inr ⟨h, rfl, ht, ho, hv⟩

theorem first_two (H : List Byte) (off : Nat) (b1 b2 : List Byte) (t1 t2 : Nat) (polls1 : List Nat)
    (hne1 : b1.isEmpty = false) (hne2 : b2.isEmpty = false) (hHN : H ≠ litNNNN)
    (h12 : t1 ≤ t2) (h21 : t2 < t1 + HIST) (hp1 : ∀ u ∈ polls1, u ≤ t2)
    (hgood : GoodEst H off (combine MAXLEN [b1.take MAXLEN, b2.take MAXLEN])) :
    ∃ S2 out,
      (∀ rest, (runOps {} (.burst b1 t1 :: (polls1.map .poll ++ .burst b2 t2 :: rest))).2
          = out ++ (runOps S2 rest).2)
      ∧ soms out = [] ∧ Open H off t1 S2
      ∧ S2.history = [⟨b1.take MAXLEN, t1 + HIST⟩, ⟨b2.take MAXLEN, t2 + HIST⟩] := by
  obtain ⟨hh1, hpn1, hpv1, ho1⟩ := first_burst b1 t1 hne1
  generalize hS1 : (stepOp {} (.burst b1 t1)).1 = S1 at hh1 hpn1 hpv1
  generalize hO1 : outOf t1 (stepOp {} (.burst b1 t1)).2 = out1 at ho1
  -- the polls between the bursts
  obtain ⟨hq, hpn, hpv⟩ := run_polls_quiet polls1 S1 hpn1
  have hhp : pruneHistory (runOps S1 (polls1.map .poll)).1.history t2 = [⟨b1.take MAXLEN, t1 + HIST⟩] := by
    rw [run_polls_prune polls1 t2 S1 (by rw [hh1]; exact Nat.le_succ 1) hp1, hh1]
    exact prune_one_fresh _ _ h21
  generalize hS1' : (runOps S1 (polls1.map .poll)).1 = S1' at hpn hpv hhp
  -- the second burst
  have hha := historyAfter_of_prune S1' b2 t2 _ hhp
  have hprev : ∀ p, S1'.previous = some p → p.data.text ≠ H := by
    intro p hp
    rw [hpv] at hp
    rw [hpv1 p hp]
    exact fun h => hHN h.symm
  obtain ⟨ho2, hO2⟩ := empty_slot_burst_open H off t1 S1' b2 t2 hne2 hpn hprev hHN h12
    (by rw [hha]; exact hgood)
  refine ⟨(stepOp S1' (.burst b2 t2)).1, out1 ++ outOf t2 (stepOp S1' (.burst b2 t2)).2, ?_, ?_, hO2, ?_⟩
  · intro rest
    rw [runOps_cons_snd]
    simp only [AOp.time]
    rw [hO1, hS1, runOps_append_snd, hq, hS1', List.nil_append, runOps_cons_snd, List.append_assoc]
    rfl
  · rw [soms_append, ho1, ho2]; rfl
  · rw [step_burst_history S1' b2 t2 hne2, prune_historyAfter, hha]
    rfl

theorem two_equal_polls (H : List Byte) (off ta tb t : Nat) (pa pb : List Nat)
    (hcan : checkHeader H = some (off, H.length))
    (hfit : H.length ≤ MAXLEN)
    (hc2 : combine MAXLEN [H, H] = some (.ok (.som ⟨H, off, 0, 0⟩)))
    (hab : tb < ta + HIST) (hpa : ∀ u ∈ pa, u ≤ tb) (ht : tb + HOLD ≤ t) :
    ∃ u, (runOps {} (.burst H ta :: (pa.map .poll ++ .burst H tb :: (pb.map .poll ++ [.poll t])))).2
      = [(u, .ok (.som ⟨H, off, 0, 0⟩))] := by
  have hne := isEmpty_of_checkHeader H [] _ hcan
  rw [List.append_nil] at hne
  have htake : H.take MAXLEN = H := List.take_of_length_le hfit
  obtain ⟨S2, hrun, hS2⟩ := two_bursts_held {} H H ta tb ⟨H, off, 0, 0⟩ pa hne hne
    (by rw [htake]; exact combine_single_header _ _ _ hcan) (by rw [htake]; exact hc2) rfl rfl
    (by intro p hp; cases hp) hab hpa
  obtain ⟨u, _, _, hout, _⟩ := held_release S2 _ _ _ _ (pb ++ [t]) hS2 ⟨t, by simp, ht⟩
  exact ⟨u, by rw [hrun, polls_snoc, hout]⟩

end SameVerif.Asm
