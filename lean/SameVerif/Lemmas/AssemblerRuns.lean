import SameVerif.Lemmas.AssemblerSteps
/-
  `runOps` over concatenations and over stretches of polls: a stretch of polls outputs at most the
  pending entry, once, and does nothing to the history but prune it.
-/
namespace SameVerif.Asm

theorem runOps_nil (s : AState) : runOps s [] = (s, []) := rfl

theorem runOps_cons (s : AState) (op : AOp) (ops : List AOp) :
    runOps s (op :: ops)
      = ((runOps (stepOp s op).1 ops).1, outOf op.time (stepOp s op).2 ++ (runOps (stepOp s op).1 ops).2) := rfl

theorem runOps_cons_snd (s : AState) (op : AOp) (ops : List AOp) :
    (runOps s (op :: ops)).2 = outOf op.time (stepOp s op).2 ++ (runOps (stepOp s op).1 ops).2 := rfl

theorem runOps_cons_fst (s : AState) (op : AOp) (ops : List AOp) :
    (runOps s (op :: ops)).1 = (runOps (stepOp s op).1 ops).1 := rfl

theorem runOps_append (a : List AOp) : ∀ (s : AState) (b : List AOp),
    runOps s (a ++ b)
      = ((runOps (runOps s a).1 b).1, (runOps s a).2 ++ (runOps (runOps s a).1 b).2) := by
  induction a with
  | nil => intro s b; simp [runOps_nil]
  | cons op a ih =>
    intro s b
    simp only [List.cons_append, runOps_cons, ih, List.append_assoc]

theorem runOps_append_snd (s : AState) (a b : List AOp) :
    (runOps s (a ++ b)).2 = (runOps s a).2 ++ (runOps (runOps s a).1 b).2 := by
  rw [runOps_append]

theorem runOps_append_fst (s : AState) (a b : List AOp) :
    (runOps s (a ++ b)).1 = (runOps (runOps s a).1 b).1 := by
  rw [runOps_append]

theorem outOf_quiet (t : Nat) (tr : Transport) (h : ∀ r, tr ≠ .message r) : outOf t tr = [] := by
  cases tr with
  | message r => exact absurd rfl (h r)
  | idle => rfl
  | assembling => rfl

theorem runOps_cons_quiet (s : AState) (op : AOp) (ops : List AOp)
    (h : ∀ r, (stepOp s op).2 ≠ .message r) : runOps s (op :: ops) = runOps (stepOp s op).1 ops := by
  rw [runOps_cons, outOf_quiet _ _ h]
  rfl

theorem polls_snoc (p : List Nat) (t : Nat) :
    p.map AOp.poll ++ [.poll t] = (p ++ [t]).map AOp.poll := by simp

theorem sorted_append (a b : List AOp) (h : Sorted (a ++ b)) :
    Sorted a ∧ Sorted b ∧ ∀ x ∈ a, ∀ y ∈ b, x.time ≤ y.time :=
  List.pairwise_append.mp h

theorem sorted_two (b1 b2 : List Byte) (t1 t2 : Nat) (p1 : List Nat) (rest : List AOp)
    (h : Sorted (.burst b1 t1 :: (p1.map .poll ++ .burst b2 t2 :: rest))) :
    t1 ≤ t2 ∧ (∀ u ∈ p1, u ≤ t2) ∧ Sorted (.burst b2 t2 :: rest) := by
  obtain ⟨ha, hrest⟩ := List.pairwise_cons.mp h
  obtain ⟨_, hr2, hx⟩ := List.pairwise_append.mp hrest
  exact ⟨ha (.burst b2 t2) (by simp),
    fun u hu => hx (.poll u) (List.mem_map.mpr ⟨u, hu, rfl⟩) (.burst b2 t2) List.mem_cons_self, hr2⟩

theorem sorted_three (b1 b2 b3 : List Byte) (t1 t2 t3 : Nat) (p1 p2 : List Nat) (rest : List AOp)
    (h : Sorted (.burst b1 t1 :: (p1.map .poll ++ .burst b2 t2 :: (p2.map .poll ++ .burst b3 t3 :: rest)))) :
    t1 ≤ t2 ∧ t2 ≤ t3 ∧ (∀ u ∈ p1, u ≤ t2) ∧ (∀ u ∈ p2, u ≤ t3) ∧ Sorted rest := by
  obtain ⟨h12, hp1, h2⟩ := sorted_two _ _ _ _ _ _ h
  obtain ⟨h23, hp2, h3⟩ := sorted_two _ _ _ _ _ _ h2
  exact ⟨h12, h23, hp1, hp2, (List.pairwise_cons.mp h3).2⟩

theorem sorted_polls_last (p : List Nat) (t : Nat) (h : Sorted (p.map .poll ++ [.poll t])) :
    ∀ u ∈ p, u ≤ t :=
  fun u hu => (List.pairwise_append.mp h).2.2 (.poll u) (List.mem_map.mpr ⟨u, hu, rfl⟩) (.poll t)
    List.mem_cons_self

theorem run_polls_quiet (polls : List Nat) : ∀ s : AState, s.pending = none →
    (runOps s (polls.map .poll)).2 = [] ∧ (runOps s (polls.map .poll)).1.pending = none
      ∧ (runOps s (polls.map .poll)).1.previous = s.previous := by
  induction polls with
  | nil => intro s h; exact ⟨rfl, h, rfl⟩
  | cons u polls ih =>
    intro s h
    have hi := idle_of_pending_none s u h
    simp only [List.map_cons, runOps_cons, stepOp, AOp.time]
    obtain ⟨h1, h2, h3⟩ := ih (aIdle s u).1 (by rw [hi.1])
    rw [outOf_quiet _ _ hi.2, h1, h2, h3, hi.1]
    exact ⟨rfl, rfl, rfl⟩

theorem run_polls_cases (polls : List Nat) : ∀ s : AState,
    ((runOps s (polls.map .poll)).2 = [] ∧ (runOps s (polls.map .poll)).1.pending = s.pending
        ∧ (runOps s (polls.map .poll)).1.previous = s.previous
        ∧ ∀ tm, s.pending = some tm → ∀ u ∈ polls, u < tm.deadline)
    ∨ (∃ tm u, s.pending = some tm ∧ u ∈ polls ∧ tm.deadline ≤ u
        ∧ (runOps s (polls.map .poll)).2 = [(u, tm.data)]
        ∧ (runOps s (polls.map .poll)).1.pending = none
        ∧ (runOps s (polls.map .poll)).1.previous
            = (match tm.data with | .ok m => some ⟨m, u + HIST⟩ | .error _ => s.previous)) := by
  induction polls with
  | nil => intro s; exact Or.inl ⟨rfl, rfl, rfl, fun _ _ u hu => by cases hu⟩
  | cons v polls ih =>
    intro s
    cases hp : s.pending with
    | none =>
      obtain ⟨h1, h2, h3⟩ := run_polls_quiet (v :: polls) s hp
      exact Or.inl ⟨h1, h2, h3, fun _ h => by cases h⟩
    | some t =>
      simp only [List.map_cons, runOps_cons_snd, runOps_cons_fst, stepOp, AOp.time]
      by_cases hd : t.deadline ≤ v
      · right
        have hi := idle_of_due s t v hp hd
        obtain ⟨h1, h2, h3⟩ := run_polls_quiet polls (aIdle s v).1 (by rw [hi])
        refine ⟨t, v, rfl, List.mem_cons_self, hd, ?_, h2, ?_⟩
        · rw [h1, hi]; rfl
        · rw [h3, hi]; rfl
      · obtain ⟨hs, hq⟩ := idle_of_not_due s t v hp (by omega)
        rw [outOf_quiet _ _ hq]
        rcases ih (aIdle s v).1 with ⟨h1, h2, h3, h4⟩ | ⟨tm, u, h1, h2, h3, h4, h5, h6⟩
        · left
          refine ⟨h1, by rw [h2, hs], by rw [h3, hs], ?_⟩
          intro tm htm u hu
          cases htm
          rcases List.mem_cons.mp hu with rfl | hu
          · omega
          · exact h4 t (by rw [hs]) u hu
        · right
          rw [hs] at h1
          cases h1
          exact ⟨t, u, rfl, List.mem_cons_of_mem _ h2, h3, h4, h5, by rw [h6, hs]⟩

theorem run_polls_release (polls : List Nat) (tm : Timed MsgResult) (s : AState)
    (hp : s.pending = some tm) (hex : ∃ u ∈ polls, tm.deadline ≤ u) :
    ∃ u ∈ polls, tm.deadline ≤ u ∧ (runOps s (polls.map .poll)).2 = [(u, tm.data)]
      ∧ (runOps s (polls.map .poll)).1.pending = none
      ∧ (runOps s (polls.map .poll)).1.previous
          = (match tm.data with | .ok m => some ⟨m, u + HIST⟩ | .error _ => s.previous) := by
  rcases run_polls_cases polls s with ⟨_, _, _, h4⟩ | ⟨tm', u, h1, h2, h3, h4, h5, h6⟩
  · obtain ⟨u, hu, hd⟩ := hex
    have := h4 tm hp u hu
    omega
  · rw [hp] at h1
    cases h1
    exact ⟨u, h2, h3, h4, h5, h6⟩

theorem run_polls_history_sublist (polls : List Nat) : ∀ s : AState,
    ((runOps s (polls.map .poll)).1.history).Sublist s.history := by
  induction polls with
  | nil => intro s; exact List.Sublist.refl _
  | cons u polls ih =>
    intro s
    simp only [List.map_cons, runOps_cons_fst, stepOp]
    refine (ih (aIdle s u).1).trans ?_
    rw [idle_history]
    exact pruneHistory_sublist _ _

theorem run_polls_hlen (polls : List Nat) (s : AState) (hl : s.history.length ≤ 2) :
    (runOps s (polls.map .poll)).1.history.length ≤ 2 :=
  Nat.le_trans (run_polls_history_sublist polls s).length_le hl

theorem run_polls_prune (polls : List Nat) (now : Nat) : ∀ s : AState, s.history.length ≤ 2 →
    (∀ u ∈ polls, u ≤ now) →
    pruneHistory (runOps s (polls.map .poll)).1.history now = pruneHistory s.history now := by
  induction polls with
  | nil => intro s _ _; rfl
  | cons u polls ih =>
    intro s hl hu
    simp only [List.map_cons, runOps_cons_fst, stepOp]
    have hh : (aIdle s u).1.history = pruneHistory s.history u := idle_history s u
    rw [ih (aIdle s u).1 (by rw [hh]; exact pruneHistory_length_le _ _)
      (fun v hv => hu v (List.mem_cons_of_mem _ hv)), hh,
      prune_prune _ _ _ hl (hu u List.mem_cons_self)]

theorem run_polls_still (polls : List Nat) (s : AState) (hp : s.pending = none)
    (hl : s.history.length ≤ 2) (hf : ∀ u ∈ polls, ∀ e ∈ s.history, u < e.deadline) :
    runOps s (polls.map .poll) = (s, []) := by
  induction polls with
  | nil => rfl
  | cons u polls ih =>
    have hi := idle_of_pending_none s u hp
    have hs : (aIdle s u).1 = s := by
      rw [hi.1, pruneHistory_fresh _ _ hl (hf u List.mem_cons_self)]
      cases s; simp only at hp; subst hp; rfl
    simp only [List.map_cons, runOps_cons, stepOp, AOp.time]
    rw [outOf_quiet _ _ hi.2, hs, ih (fun v hv => hf v (List.mem_cons_of_mem _ hv))]
    rfl

end SameVerif.Asm
