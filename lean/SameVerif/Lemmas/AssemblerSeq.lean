import SameVerif.Lemmas.AssemblerThree
import SameVerif.Lemmas.AssemblerInv
import SameVerif.Lemmas.AsmEvidence
/-
  Run lemmas for *sequences* of transmissions (C05): the second transmission met by the leftovers
  of the first (both leftover bursts alive, or exactly one), the "everything is a duplicate"
  stretch, and the burst-log positions of the runs behind the reports.
  `combine` results are hypotheses here; the theorem file supplies them.
-/
namespace SameVerif.Asm

theorem second_burst_held (S : AState) (A B : List Byte) (m : Msg) (d3 b1 b2 : Nat)
    (hABB hBB : Header) (hne : B.isEmpty = false) (hfit : B.length ≤ MAXLEN)
    (hh : pruneHistory S.history b2 = pruneHistory [⟨A, d3⟩, ⟨B, b1 + HIST⟩] b2)
    (hp : ∀ old, S.pending = some old → ∃ e, old.data = .error e)
    (hprev : ∀ p, S.previous = some p → p.data = m)
    (hcABB : combine MAXLEN [A, B, B] = some (.ok (.som hABB)))
    (hcBB : combine MAXLEN [B, B] = some (.ok (.som hBB)))
    (hne1 : m.text ≠ hABB.text) (hne2 : m.text ≠ hBB.text)
    (h21 : b2 < b1 + HIST) :
    ∃ hB : Header, (hB = hABB ∨ hB = hBB) ∧ (∀ r, (stepOp S (.burst B b2)).2 ≠ .message r)
      ∧ Held (stepOp S (.burst B b2)).1 ⟨B, b1 + HIST⟩ ⟨B, b2 + HIST⟩ hB (b2 + HOLD) := by
  have key : ∃ (hB : Header) (h0 : List (Timed (List Byte))), (hB = hABB ∨ hB = hBB)
      ∧ pruneHistory S.history b2 = h0
      ∧ combine MAXLEN ((h0 ++ [(⟨B, b2 + HIST⟩ : Timed (List Byte))]).map (·.data))
          = some (.ok (.som hB))
      ∧ (h0 ++ [(⟨B, b2 + HIST⟩ : Timed (List Byte))]).drop ((h0 ++ [(⟨B, b2 + HIST⟩ : Timed (List Byte))]).length - 2)
          = [⟨B, b1 + HIST⟩, ⟨B, b2 + HIST⟩] := by
    by_cases hlive3 : b2 < d3
    · exact ⟨hABB, [⟨A, d3⟩, ⟨B, b1 + HIST⟩], Or.inl rfl, by rw [hh, prune_two_fresh _ _ b2 hlive3 h21], hcABB, rfl⟩
    · exact ⟨hBB, [⟨B, b1 + HIST⟩], Or.inr rfl, by rw [hh, prune_two_second _ _ b2 (by simp only; omega) h21],
        hcBB, rfl⟩
  obtain ⟨hB, h0, hBc, hh0, hc, hdrop⟩ := key
  have hneB : m.text ≠ hB.text := by rcases hBc with rfl | rfl <;> assumption
  have hist := historyAfter_of_prune S B b2 h0 hh0
  rw [List.take_of_length_le hfit] at hist
  obtain ⟨hs, hq⟩ := burst_held S B b2 _ hne
    (estimateOf_pass S B b2 (.som hB) (by rw [hist]; exact hc)
      (fun p hp' => by rw [hprev p hp']; exact hneB)) (by simp)
    (by intro old ho; obtain ⟨e, he⟩ := hp old ho; rw [he]; rfl)
  rw [prune_historyAfter, hist, hdrop] at hs
  refine ⟨hB, hBc, hq, ?_⟩
  rw [hs]
  exact ⟨rfl, rfl, fun p hpp => by rw [hprev p (prunePrevious_some _ _ _ hpp).1]; exact hneB⟩

theorem second_near_held (S : AState) (A B : List Byte) (m : Msg) (d d2 d3 T b1 b2 : Nat)
    (hx hABB hBB : Header) (polls1 : List Nat)
    (hne : B.isEmpty = false) (hfit : B.length ≤ MAXLEN)
    (hL : LeftBy S m d [⟨A, d2⟩, ⟨A, d3⟩] T) (hT : T ≤ b1)
    (hlive : b1 < d) (hd2 : b1 < d2) (hd23 : d2 ≤ d3)
    (hcAAB : combine MAXLEN [A, A, B] = some (.ok (.som hx))) (hxt : m.text = hx.text)
    (hcABB : combine MAXLEN [A, B, B] = some (.ok (.som hABB)))
    (hcBB : combine MAXLEN [B, B] = some (.ok (.som hBB)))
    (hne1 : m.text ≠ hABB.text) (hne2 : m.text ≠ hBB.text)
    (h21 : b2 < b1 + HIST)
    (hp1 : ∀ u ∈ polls1, u ≤ b2) :
    ∃ (S2 : AState) (hB : Header), (hB = hABB ∨ hB = hBB) ∧
      (∀ rest, runOps S (.burst B b1 :: (polls1.map .poll ++ .burst B b2 :: rest)) = runOps S2 rest)
      ∧ Held S2 ⟨B, b1 + HIST⟩ ⟨B, b2 + HIST⟩ hB (b2 + HOLD) := by
  -- first burst: the vote goes to the old header and is suppressed
  have hist1 := historyAfter_of_prune S B b1 _
    ((hL.hist b1 hT).trans (prune_two_fresh _ _ b1 hd2 (Nat.lt_of_lt_of_le hd2 hd23)))
  rw [List.take_of_length_le hfit] at hist1
  obtain ⟨hs1, hq1⟩ := burst_quiet S B b1 hne hL.pending
    (estimateOf_dup S B b1 d (.som hx) m (by rw [hist1]; exact hcAAB) hL.previous hlive hxt)
  rw [prune_historyAfter, hist1, hL.previous, prunePrevious_live m d b1 hlive] at hs1
  generalize hS1 : (stepOp S (.burst B b1)).1 = S1 at hs1
  have hL1 : LeftBy S1 m d [⟨A, d3⟩, ⟨B, b1 + HIST⟩] b2 := by
    rw [hs1]
    exact ⟨rfl, rfl, Nat.le_refl 2, fun _ he => he, fun _ _ => rfl⟩
  -- polls: nothing held, nothing happens
  obtain ⟨hq, hL1'⟩ := run_polls_quiet_st polls1 m d b2 _ S1 hL1 hp1
  generalize hS1' : (runOps S1 (polls1.map .poll)).1 = S1' at hL1'
  -- second burst
  obtain ⟨hB, hBc, hq2, hS2⟩ := second_burst_held S1' A B m d3 b1 b2 hABB hBB hne hfit
    (hL1'.hist b2 (Nat.le_refl _)) (by intro old ho; rw [hL1'.pending] at ho; cases ho)
    (by intro p hp; rw [hL1'.previous] at hp; cases hp; rfl) hcABB hcBB hne1 hne2 h21
  refine ⟨_, hB, hBc, ?_, hS2⟩
  intro rest
  rw [runOps_cons_quiet _ _ _ hq1, hS1, runOps_append, hq, hS1', runOps_cons_quiet _ _ _ hq2]
  rfl

theorem second_mid_held (S : AState) (A B : List Byte) (m : Msg) (d d2 d3 T b1 b2 : Nat)
    (err : DecodeErr) (hABB hBB : Header) (polls1 : List Nat)
    (hne : B.isEmpty = false) (hfit : B.length ≤ MAXLEN)
    (hL : LeftBy S m d [⟨A, d2⟩, ⟨A, d3⟩] T) (hT : T ≤ b1)
    (hd2 : d2 ≤ b1) (hd3 : b1 < d3)
    (hcAB : combine MAXLEN [A, B] = some (.error err))
    (hcABB : combine MAXLEN [A, B, B] = some (.ok (.som hABB)))
    (hcBB : combine MAXLEN [B, B] = some (.ok (.som hBB)))
    (hne1 : m.text ≠ hABB.text) (hne2 : m.text ≠ hBB.text)
    (h21 : b2 < b1 + HIST)
    (hp1 : ∀ u ∈ polls1, u ≤ b2) :
    ∃ (S2 : AState) (hB : Header) (errs : List (Nat × MsgResult)), (hB = hABB ∨ hB = hBB)
      ∧ ((errs = [] ∧ ∀ u ∈ polls1, u < b1 + HOLD)
          ∨ ∃ p ∈ polls1, b1 + HOLD ≤ p ∧ errs = [(p, .error err)])
      ∧ (∀ rest, runOps S (.burst B b1 :: (polls1.map .poll ++ .burst B b2 :: rest))
          = ((runOps S2 rest).1, errs ++ (runOps S2 rest).2))
      ∧ Held S2 ⟨B, b1 + HIST⟩ ⟨B, b2 + HIST⟩ hB (b2 + HOLD) := by
  -- first burst: the vote over `A B` is an error, held
  have hist1 := historyAfter_of_prune S B b1 _
    ((hL.hist b1 hT).trans (prune_two_second _ _ b1 hd2 hd3))
  rw [List.take_of_length_le hfit] at hist1
  obtain ⟨hs1, hq1⟩ := burst_held S B b1 _ hne
    (estimateOf_error S B b1 err (by rw [hist1]; exact hcAB)) (by simp)
    (by intro old ho; rw [hL.pending] at ho; cases ho)
  rw [prune_historyAfter, hist1, hL.previous] at hs1
  generalize hS1 : (stepOp S (.burst B b1)).1 = S1 at hs1
  have hS1v : ∀ p, S1.previous = some p → p.data = m := by
    intro p hp
    rw [hs1] at hp
    have hp' : prunePrevious (some ⟨m, d⟩) b1 = some p := hp
    cases (prunePrevious_some _ _ _ hp').1
    rfl
  -- polls: the error is released, or it waits
  have hprune := run_polls_prune polls1 b2 S1 (by rw [hs1]; exact Nat.le_refl 2) hp1
  have hpolls : ∃ errs : List (Nat × MsgResult),
      ((errs = [] ∧ ∀ u ∈ polls1, u < b1 + HOLD)
          ∨ ∃ p ∈ polls1, b1 + HOLD ≤ p ∧ errs = [(p, .error err)])
      ∧ (runOps S1 (polls1.map .poll)).2 = errs
      ∧ (∀ old, (runOps S1 (polls1.map .poll)).1.pending = some old → ∃ e, old.data = .error e)
      ∧ (runOps S1 (polls1.map .poll)).1.previous = S1.previous := by
    have hS1p : S1.pending = some ⟨.error err, b1 + HOLD⟩ := by rw [hs1]
    rcases run_polls_cases polls1 S1 with ⟨hout, hpn, hpv, hA⟩ | ⟨tm, p, htm, hp, hd, hout, hpn, hpv⟩
    · refine ⟨[], Or.inl ⟨rfl, hA _ hS1p⟩, hout, ?_, hpv⟩
      intro old ho
      rw [hpn, hS1p] at ho
      cases ho
      exact ⟨err, rfl⟩
    · rw [hS1p] at htm
      cases htm
      refine ⟨[(p, .error err)], Or.inr ⟨p, hp, hd, rfl⟩, hout, ?_, hpv⟩
      intro old ho
      rw [hpn] at ho
      cases ho
  obtain ⟨errs, herrs, hout, hpend', hprev'⟩ := hpolls
  generalize hS1' : (runOps S1 (polls1.map .poll)).1 = S1' at hout hpend' hprev' hprune
  -- second burst
  obtain ⟨hB, hBc, hq2, hS2⟩ := second_burst_held S1' A B m d3 b1 b2 hABB hBB hne hfit
    (by rw [hprune, hs1]; rfl) hpend' (by intro p hp; rw [hprev'] at hp; exact hS1v p hp) hcABB hcBB
    hne1 hne2 h21
  refine ⟨_, hB, errs, hBc, herrs, ?_, hS2⟩
  intro rest
  rw [runOps_cons_quiet _ _ _ hq1, hS1, runOps_append, hout, hS1', runOps_cons_quiet _ _ _ hq2]

theorem run_all_suppressed (A : List Byte) (m : Msg) (d : Nat) (h2 h3 : Header)
    (hne : A.isEmpty = false) (hfit : A.length ≤ MAXLEN)
    (hc1 : combine MAXLEN [A] = none)
    (hc2 : combine MAXLEN [A, A] = some (.ok (.som h2)))
    (hc3 : combine MAXLEN [A, A, A] = some (.ok (.som h3)))
    (ht2 : m.text = h2.text) (ht3 : m.text = h3.text) (ops : List AOp) :
    ∀ s : AState, (∀ op ∈ ops, ∀ b t, op = .burst b t → b = A ∧ t < d) →
      s.pending = none → s.previous = some ⟨m, d⟩ → (∀ e ∈ s.history, e.data = A) →
      (runOps s ops).2 = [] ∧ (runOps s ops).1.pending = none
        ∧ (runOps s ops).1.previous = some ⟨m, d⟩ ∧ (∀ e ∈ (runOps s ops).1.history, e.data = A) := by
  have htake : A.take MAXLEN = A := List.take_of_length_le hfit
  induction ops with
  | nil => intro s _ hp hv hh; exact ⟨rfl, hp, hv, hh⟩
  | cons op ops ih =>
    intro s hops hp hv hh
    have hops' : ∀ op' ∈ ops, ∀ b t, op' = .burst b t → b = A ∧ t < d :=
      fun op' h' => hops op' (by simp [h'])
    have step : (∀ r, (stepOp s op).2 ≠ .message r) ∧ (stepOp s op).1.pending = none
        ∧ (stepOp s op).1.previous = some ⟨m, d⟩ ∧ (∀ e ∈ (stepOp s op).1.history, e.data = A) := by
      cases op with
      | poll u =>
        have hi := idle_of_pending_none s u hp
        simp only [stepOp]
        rw [hi.1]
        exact ⟨hi.2, rfl, hv, fun e he => hh e (mem_pruneHistory _ _ _ he).1⟩
      | burst b now =>
        obtain ⟨rfl, hnow⟩ := hops (.burst b now) (by simp) b now rfl
        have hall : ∀ e ∈ historyAfter s b now, e.data = b := by
          intro e he
          simp only [historyAfter, List.mem_append, List.mem_singleton] at he
          rcases he with he | rfl
          · exact hh e (mem_pruneHistory _ _ _ he).1
          · exact htake
        have hvote : combine MAXLEN ((historyAfter s b now).map (·.data)) = none
            ∨ ∃ h, combine MAXLEN ((historyAfter s b now).map (·.data)) = some (.ok (.som h))
                ∧ m.text = h.text := by
          have hlen : (pruneHistory s.history now).length ≤ 2 := pruneHistory_length_le _ _
          have hmem : ∀ e ∈ pruneHistory s.history now, e.data = b :=
            fun e he => hh e (mem_pruneHistory _ _ _ he).1
          simp only [historyAfter, List.map_append, List.map_cons, List.map_nil, htake]
          match hph : pruneHistory s.history now, hlen, hmem with
          | [], _, _ => exact Or.inl hc1
          | [x], _, hmem => exact Or.inr ⟨h2, by simpa [hmem x (by simp)] using hc2, ht2⟩
          | [x, y], _, hmem =>
            exact Or.inr ⟨h3, by simpa [hmem x (by simp), hmem y (by simp)] using hc3, ht3⟩
          | _ :: _ :: _ :: _, hlen, _ => simp at hlen
        have hest : estimateOf s b now = none := by
          rcases hvote with h | ⟨h, hc, ht⟩
          · exact estimateOf_none s b now h
          · exact estimateOf_dup s b now d (.som h) m hc hv hnow ht
        obtain ⟨hs, hq⟩ := burst_quiet s b now hne hp hest
        refine ⟨hq, ?_, ?_, ?_⟩
        · rw [hs]
        · rw [hs, hv]; exact prunePrevious_live m d now hnow
        · rw [hs]; exact fun e he => hall e (mem_pruneHistory _ _ _ he).1
    obtain ⟨hq, h1, h2', h3'⟩ := step
    obtain ⟨r1, r2, r3, r4⟩ := ih (stepOp s op).1 hops' h1 h2' h3'
    refine ⟨?_, ?_, ?_, ?_⟩
    · rw [runOps_cons_snd, outOf_quiet _ _ hq, r1]; rfl
    · rw [runOps_cons_fst]; exact r2
    · rw [runOps_cons_fst]; exact r3
    · rw [runOps_cons_fst]; exact r4

end SameVerif.Asm

/-! ### reports follow the burst log

The evidence invariant of C04 (`Inv`), strengthened with the *position* in the burst log at which
the run supporting the pending result ends. -/
namespace SameVerif.AsmPos
open SameVerif SameVerif.Spec

/-- the burst log of an operation list: its non-empty bursts, each clipped to the burst buffer, in
    order (an empty burst is a poll) -/
def burstLog : List AOp → List (List Byte)
  | [] => []
  | .burst b _ :: ops => if b.isEmpty then burstLog ops else b.take MAXLEN :: burstLog ops
  | .poll _ :: ops => burstLog ops

/-- `r` is the run of `r.length ≤ 3` consecutive bursts of `log` whose last burst is burst number
    `e` of the log (counting from 1) -/
def RunEndsAt (r log : List (List Byte)) (e : Nat) : Prop :=
  r.length ≤ 3 ∧ ∃ pre post, log = pre ++ r ++ post ∧ (pre ++ r).length = e

theorem RunEndsAt.isRun {r log : List (List Byte)} {e : Nat} (h : RunEndsAt r log e) : IsRun r log := by
  obtain ⟨hl, pre, post, hlog, _⟩ := h
  exact ⟨⟨pre, post, hlog.symm⟩, hl⟩

theorem RunEndsAt.le {r log : List (List Byte)} {e : Nat} (h : RunEndsAt r log e) : e ≤ log.length := by
  obtain ⟨_, pre, post, hlog, he⟩ := h
  rw [hlog, ← he]
  simp only [List.length_append]
  omega

theorem RunEndsAt.ge {r log : List (List Byte)} {e : Nat} (h : RunEndsAt r log e) : r.length ≤ e := by
  obtain ⟨_, pre, post, _, he⟩ := h
  rw [← he]
  simp only [List.length_append]
  omega

theorem RunEndsAt.eq {r log : List (List Byte)} {e : Nat} (h : RunEndsAt r log e) :
    r = (log.take e).drop (e - r.length) := by
  obtain ⟨_, pre, post, hlog, he⟩ := h
  have h1 : log.take e = pre ++ r := by
    rw [hlog, ← he, List.take_left]
  have h2 : e - r.length = pre.length := by
    rw [← he]; simp only [List.length_append]; omega
  rw [h1, h2, List.drop_left]

theorem RunEndsAt.mono {r log : List (List Byte)} {e : Nat} (h : RunEndsAt r log e)
    (more : List (List Byte)) : RunEndsAt r (log ++ more) e := by
  obtain ⟨hl, pre, post, hlog, he⟩ := h
  exact ⟨hl, pre, post ++ more, by rw [hlog]; simp, he⟩

theorem runEndsAt_of_suffix (r log : List (List Byte)) (hs : r <:+ log) (hl : r.length ≤ 3) :
    RunEndsAt r log log.length := by
  obtain ⟨pre, hpre⟩ := hs
  exact ⟨hl, pre, [], by rw [← hpre]; simp, by rw [← hpre]⟩

/-- the pending result is `combine` of a run that ends after burst number `k` -/
def PendPos (log : List (List Byte)) (s : AState) (k : Nat) : Prop :=
  ∀ t, s.pending = some t → ∃ r e, RunEndsAt r log e ∧ k < e ∧ combine MAXLEN r = some t.data

/-- the outputs matched one by one with the ends of runs that combine to them -/
inductive Matches (log : List (List Byte)) : List (Nat × MsgResult) → List Nat → Prop where
  | nil : Matches log [] []
  | cons {o : Nat × MsgResult} {outs : List (Nat × MsgResult)} {e : Nat} {ends : List Nat} :
      (∃ r, RunEndsAt r log e ∧ combine MAXLEN r = some o.2) → Matches log outs ends →
      Matches log (o :: outs) (e :: ends)

theorem pre_step (s : AState) (op : AOp) (log : List (List Byte)) (T k : Nat) (hT : T ≤ op.time)
    (hinv : Inv log T s) (hpos : PendPos log s k) (hk : k ≤ log.length) :
    ∃ log' T', log ++ burstLog (op :: []) = log' ∧ T' ≤ op.time ∧ Inv log' T' (Asm.preIdle s op)
      ∧ PendPos log' (Asm.preIdle s op) k ∧ k ≤ log'.length := by
  cases op with
  | poll t => exact ⟨log, T, by simp [burstLog], hT, hinv, hpos, hk⟩
  | burst b now =>
    by_cases hb : b.isEmpty = true
    · rw [Asm.preIdle_burst_empty _ _ _ hb]
      exact ⟨log, T, by simp [burstLog, hb], hT, hinv, hpos, hk⟩
    · have hb' : b.isEmpty = false := by simpa using hb
      refine ⟨log ++ [b.take MAXLEN], now, by simp [burstLog, hb'], Nat.le_refl _,
        inv_afterBurst log T now s b hT hb' hinv, ?_, by simp; omega⟩
      rw [Asm.preIdle_burst _ _ _ hb']
      intro t ht
      simp only at ht
      rcases Asm.pendingAfter_cases s b now with hp | ⟨r, he, hp⟩
      · rw [hp] at ht
        obtain ⟨r, e, hr, hke, hc⟩ := hpos t ht
        exact ⟨r, e, hr.mono _, hke, hc⟩
      · rw [hp] at ht
        cases ht
        refine ⟨(historyAfter s b now).map (·.data), (log ++ [b.take MAXLEN]).length,
          runEndsAt_of_suffix _ _ (historyAfter_suffix log T now s b hinv)
            (by simpa using historyAfter_length_le s b now), by simp; omega, ?_⟩
        rw [C08.acceptNew_data]
        exact Asm.estimateOf_some s b now r he

theorem pendPos_of_none (log : List (List Byte)) (s : AState) (k : Nat) (h : s.pending = none) :
    PendPos log s k := by
  intro t ht; rw [h] at ht; cases ht

theorem run_matches (ops : List AOp) : ∀ (s : AState) (log : List (List Byte)) (T k : Nat),
    Sorted ops → (∀ op ∈ ops, T ≤ op.time) → Inv log T s → PendPos log s k → k ≤ log.length →
    ∃ ends, Matches (log ++ burstLog ops) (runOps s ops).2 ends ∧ ends.Pairwise (· < ·)
      ∧ ∀ e ∈ ends, k < e := by
  induction ops with
  | nil => intro s log T k _ _ _ _ _; exact ⟨[], .nil, List.Pairwise.nil, by simp⟩
  | cons op ops ih =>
    intro s log T k hsort hT hinv hpos hk
    have hsort' : Sorted ops := (List.pairwise_cons.mp hsort).2
    have hle : ∀ op' ∈ ops, op.time ≤ op'.time := (List.pairwise_cons.mp hsort).1
    obtain ⟨log', T', hlog', hT', hinv', hpos', hk'⟩ :=
      pre_step s op log T k (hT op (by simp)) hinv hpos hk
    have hlogeq : log ++ burstLog (op :: ops) = log' ++ burstLog ops := by
      rw [← hlog']
      cases op with
      | poll t => simp [burstLog]
      | burst b t =>
        simp only [burstLog]
        split <;> simp
    have hinv'' : Inv log' op.time (aIdle (Asm.preIdle s op) op.time).1 :=
      inv_idle log' T' op.time _ hT' hinv'
    rw [hlogeq, Asm.runOps_cons_snd, Asm.stepOp_eq]
    by_cases hmsg : ∃ res, (aIdle (Asm.preIdle s op) op.time).2 = .message res
    · obtain ⟨res, hout⟩ := hmsg
      obtain ⟨t, hp, hdat, _, hnone⟩ := Asm.idle_out _ _ _ hout
      obtain ⟨r, e, hr, hke, hc⟩ := hpos' t hp
      obtain ⟨ends, hm, hpw, hgt⟩ := ih (aIdle (Asm.preIdle s op) op.time).1 log' op.time e hsort' hle
        hinv'' (pendPos_of_none _ _ _ hnone) hr.le
      rw [hout]
      refine ⟨e :: ends, .cons ⟨r, hr.mono _, by rw [hc, hdat]⟩ hm, List.pairwise_cons.mpr ⟨hgt, hpw⟩, ?_⟩
      intro x hx
      rcases List.mem_cons.mp hx with rfl | hx
      · exact hke
      · exact Nat.lt_trans hke (hgt x hx)
    · have hq : ∀ r, (aIdle (Asm.preIdle s op) op.time).2 ≠ .message r := fun r h => hmsg ⟨r, h⟩
      rw [Asm.outOf_quiet _ _ hq]
      exact ih _ log' op.time k hsort' hle hinv''
        (by rw [PendPos, Asm.idle_quiet_pending _ _ hq]; exact hpos') hk'

theorem out_times_sublist (ops : List AOp) : ∀ s : AState,
    ((runOps s ops).2.map (·.1)).Sublist (ops.map AOp.time) := by
  induction ops with
  | nil => intro s; exact List.Sublist.refl _
  | cons op ops ih =>
    intro s
    rw [Asm.runOps_cons_snd, List.map_append, List.map_cons]
    cases (stepOp s op).2 with
    | message r => exact (ih _).cons_cons _
    | idle => exact (ih _).cons _
    | assembling => exact (ih _).cons _

theorem matches_split (log : List (List Byte)) (o : Nat × MsgResult) :
    ∀ (pre post : List (Nat × MsgResult)) (ends : List Nat), Matches log (pre ++ o :: post) ends →
    ∃ e1 e e2, ends = e1 ++ e :: e2 ∧ e1.length = pre.length ∧ Matches log post e2
      ∧ ∃ r, RunEndsAt r log e ∧ combine MAXLEN r = some o.2 := by
  intro pre
  induction pre with
  | nil =>
    intro post ends h
    cases h with
    | cons h1 h2 => exact ⟨[], _, _, rfl, rfl, h2, h1⟩
  | cons a pre ih =>
    intro post ends h
    cases h with
    | cons h1 h2 =>
      obtain ⟨e1, e, e2, heq, hl, hm, hr⟩ := ih post _ h2
      exact ⟨_ :: e1, e, e2, by rw [heq]; rfl, by simp [hl], hm, hr⟩

end SameVerif.AsmPos
