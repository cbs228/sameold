import SameVerif.Model.AssemblerRun
/-
  Step lemmas for the assembler model: what each part of `assemble` does (history pruning, the
  previous-report slot, the duplicate filter, the estimate, the pending slot), a complete case
  split of `aIdle`, `stepOp` as "prepare, then idle", and the three things a non-empty burst can do.
-/
namespace SameVerif.C08

theorem idle_pending (s : AState) (now : Nat) :
    (aIdle s now).1.pending = (poll s.pending now).1 := by
  unfold aIdle
  cases h : poll s.pending now with
  | mk p o =>
    cases o with
    | none => simp
    | some r => cases r <;> simp

theorem poll_pending (p : Option (Timed MsgResult)) (now : Nat) :
    (poll p now).1 = none ∨ ((poll p now).1 = p ∧ ∃ t, p = some t ∧ now < t.deadline) := by
  unfold poll
  cases p with
  | none => simp
  | some t =>
    by_cases h : t.expiredAt now = true
    · simp [h]
    · right
      simp only [h]
      refine ⟨rfl, t, rfl, ?_⟩
      simp [Timed.expiredAt] at h
      omega

theorem accept_cases (p : Option (Timed MsgResult)) (msg : MsgResult) (now : Nat) :
    accept p msg now = p ∨ accept p msg now = some (acceptNew msg now) := by
  unfold accept
  cases p with
  | none => right; rfl
  | some old =>
    simp only
    cases acceptReplaces old.data msg
    · left; rfl
    · right; rfl

theorem acceptNew_data (msg : MsgResult) (now : Nat) : (acceptNew msg now).data = msg := by
  unfold acceptNew; split <;> rfl

theorem acceptNew_deadline_le (msg : MsgResult) (now : Nat) : (acceptNew msg now).deadline ≤ now + HOLD := by
  unfold acceptNew; split <;> simp

theorem acceptNew_eom (now : Nat) : acceptNew (.ok .eom) now = ⟨.ok .eom, now⟩ := rfl

end SameVerif.C08

namespace SameVerif.Asm

-- core Lean has no `DecidableEq` for `Except`, hence none for `MsgResult`
deriving instance DecidableEq for Except

theorem HOLD_pos : 0 < HOLD := by decide
theorem HIST_pos : 0 < HIST := by decide

theorem pruneHistory_length_le (h : List (Timed (List Byte))) (now : Nat) :
    (pruneHistory h now).length ≤ 2 := by
  simp only [pruneHistory, List.length_drop]
  omega

theorem mem_pruneHistory (h : List (Timed (List Byte))) (now : Nat) (e : Timed (List Byte))
    (he : e ∈ pruneHistory h now) : e ∈ h ∧ now < e.deadline := by
  have := List.mem_of_mem_drop he
  simp only [List.mem_filter, Timed.expiredAt, Bool.not_eq_true', decide_eq_false_iff_not] at this
  exact ⟨this.1, by omega⟩

theorem pruneHistory_sublist (h : List (Timed (List Byte))) (now : Nat) :
    (pruneHistory h now).Sublist h :=
  (List.drop_sublist _ _).trans List.filter_sublist

theorem filter_alive (h : List (Timed (List Byte))) (now : Nat) (hf : ∀ e ∈ h, now < e.deadline) :
    h.filter (fun e => !e.expiredAt now) = h := by
  apply List.filter_eq_self.mpr
  intro e he
  have := hf e he
  simp only [Timed.expiredAt, Bool.not_eq_true', decide_eq_false_iff_not]
  omega

theorem prune_short (h : List (Timed (List Byte))) (now : Nat) (hl : h.length ≤ 2) :
    pruneHistory h now = h.filter (fun e => !e.expiredAt now) := by
  have h1 : (h.filter (fun e => !e.expiredAt now)).length ≤ 2 :=
    Nat.le_trans (List.length_filter_le _ _) hl
  have h0 : (h.filter (fun e => !e.expiredAt now)).length - 2 = 0 := by omega
  simp only [pruneHistory, h0]
  rfl

theorem pruneHistory_fresh (h : List (Timed (List Byte))) (now : Nat) (hl : h.length ≤ 2)
    (hf : ∀ e ∈ h, now < e.deadline) : pruneHistory h now = h := by
  rw [prune_short h now hl, filter_alive h now hf]

theorem pruneHistory_expired (h : List (Timed (List Byte))) (now : Nat)
    (hx : ∀ e ∈ h, e.deadline ≤ now) : pruneHistory h now = [] := by
  have hfil : h.filter (fun e => !e.expiredAt now) = [] := by
    apply List.filter_eq_nil_iff.mpr
    intro e he
    have := hx e he
    simp [Timed.expiredAt]
    omega
  simp [pruneHistory, hfil]

theorem pruneHistory_nil (now : Nat) : pruneHistory [] now = [] := rfl

theorem prune_one_fresh (e1 : Timed (List Byte)) (now : Nat) (h1 : now < e1.deadline) :
    pruneHistory [e1] now = [e1] :=
  pruneHistory_fresh _ _ (Nat.le_succ 1) (by simpa using h1)

theorem prune_two_fresh (e1 e2 : Timed (List Byte)) (now : Nat) (h1 : now < e1.deadline)
    (h2 : now < e2.deadline) : pruneHistory [e1, e2] now = [e1, e2] :=
  pruneHistory_fresh _ _ (Nat.le_refl 2) (by simpa using ⟨h1, h2⟩)

theorem prune_two_second (e1 e2 : Timed (List Byte)) (now : Nat) (h1 : e1.deadline ≤ now)
    (h2 : now < e2.deadline) : pruneHistory [e1, e2] now = [e2] := by
  rw [prune_short [e1, e2] now (Nat.le_refl 2)]
  have a1 : (!e1.expiredAt now) = false := by simp [Timed.expiredAt, h1]
  have a2 : (!e2.expiredAt now) = true := by simp [Timed.expiredAt]; omega
  simp [a1, a2]

theorem prune_prune (h : List (Timed (List Byte))) (u now : Nat) (hl : h.length ≤ 2) (hu : u ≤ now) :
    pruneHistory (pruneHistory h u) now = pruneHistory h now := by
  rw [prune_short _ now (pruneHistory_length_le h u), prune_short h u hl, prune_short h now hl,
    List.filter_filter]
  apply List.filter_congr
  intro e _
  simp only [Timed.expiredAt]
  by_cases hd : e.deadline ≤ now
  · simp [hd]
  · have : ¬ e.deadline ≤ u := by omega
    simp [hd, this]

theorem prune_idem (h : List (Timed (List Byte))) (now : Nat) :
    pruneHistory (pruneHistory h now) now = pruneHistory h now :=
  pruneHistory_fresh _ _ (pruneHistory_length_le h now) (fun e he => (mem_pruneHistory h now e he).2)

theorem prune_historyAfter (s : AState) (b : List Byte) (now : Nat) :
    pruneHistory (historyAfter s b now) now
      = (historyAfter s b now).drop ((historyAfter s b now).length - 2) := by
  have hf : ∀ e ∈ historyAfter s b now, now < e.deadline := by
    intro e he
    rcases List.mem_append.mp he with he | he
    · exact (mem_pruneHistory _ _ _ he).2
    · have := HIST_pos
      rw [List.mem_singleton.mp he]
      simp only
      omega
  simp only [pruneHistory, filter_alive _ now hf]

theorem prunePrevious_cases (p : Option (Timed Msg)) (now : Nat) :
    (prunePrevious p now = none ∧ ∀ q, p = some q → q.deadline ≤ now)
      ∨ (prunePrevious p now = p ∧ ∃ q, p = some q ∧ now < q.deadline) := by
  cases p with
  | none => left; simp [prunePrevious]
  | some q =>
    by_cases h : q.deadline ≤ now
    · left; simp [prunePrevious, Timed.expiredAt, h]
    · right; simp [prunePrevious, Timed.expiredAt, h]; omega

theorem prunePrevious_some (p : Option (Timed Msg)) (now : Nat) (q : Timed Msg)
    (h : prunePrevious p now = some q) : p = some q ∧ now < q.deadline := by
  rcases prunePrevious_cases p now with ⟨hn, _⟩ | ⟨hk, q', hq, hlt⟩
  · rw [hn] at h; cases h
  · rw [hk, hq] at h; cases h; exact ⟨hq, hlt⟩

theorem prunePrevious_live (m : Msg) (d now : Nat) (h : now < d) :
    prunePrevious (some ⟨m, d⟩) now = some ⟨m, d⟩ := by
  have : ¬ d ≤ now := by omega
  simp [prunePrevious, Timed.expiredAt, this]

theorem prunePrevious_idem (p : Option (Timed Msg)) (now : Nat) :
    prunePrevious (prunePrevious p now) now = prunePrevious p now := by
  rcases prunePrevious_cases p now with ⟨h, _⟩ | ⟨h, _⟩
  · rw [h]; rfl
  · rw [h, h]

theorem dedup_some (prev : Option (Timed Msg)) (res : Option MsgResult) (r : MsgResult)
    (h : dedup prev res = some r) : res = some r := by
  unfold dedup at h
  split at h
  · split at h
    · split at h
      · exact h
      · cases h
    · exact h
  · exact h

theorem dedup_ok_text (prev : Option (Timed Msg)) (res : Option MsgResult) (m : Msg)
    (h : dedup prev res = some (.ok m)) : ∀ p, prev = some p → p.data.text ≠ m.text := by
  intro p hp heq
  have hres := dedup_some prev res _ h
  subst hres hp
  simp [dedup, heq] at h

theorem dedup_pass (prev : Option (Timed Msg)) (m : Msg)
    (h : ∀ p, prev = some p → p.data.text ≠ m.text) : dedup prev (some (.ok m)) = some (.ok m) := by
  cases prev with
  | none => rfl
  | some p => simp [dedup, h p rfl]

theorem dedup_none_prev (res : Option MsgResult) : dedup none res = res := by
  unfold dedup
  split <;> rfl

theorem dedup_prune_pass (prev : Option (Timed Msg)) (now : Nat) (m : Msg)
    (h : ∀ p, prev = some p → p.data.text ≠ m.text) :
    dedup (prunePrevious prev now) (some (.ok m)) = some (.ok m) :=
  dedup_pass _ _ (fun p hp => h p (prunePrevious_some _ _ _ hp).1)

theorem dedup_prune_dup (m' m : Msg) (d now : Nat) (hlive : now < d) (ht : m'.text = m.text) :
    dedup (prunePrevious (some ⟨m', d⟩) now) (some (.ok m)) = none := by
  rw [prunePrevious_live m' d now hlive]
  simp [dedup, ht]

theorem historyAfter_of_prune (s : AState) (b : List Byte) (now : Nat) (h0 : List (Timed (List Byte)))
    (hh : pruneHistory s.history now = h0) :
    historyAfter s b now = h0 ++ [⟨b.take MAXLEN, now + HIST⟩] := by
  rw [historyAfter, hh]

theorem estimateOf_pass (s : AState) (b : List Byte) (now : Nat) (m : Msg)
    (hc : combine MAXLEN ((historyAfter s b now).map (·.data)) = some (.ok m))
    (hprev : ∀ p, s.previous = some p → p.data.text ≠ m.text) :
    estimateOf s b now = some (.ok m) := by
  unfold estimateOf
  rw [hc]
  exact dedup_prune_pass _ now m hprev

theorem estimateOf_dup (s : AState) (b : List Byte) (now d : Nat) (m m' : Msg)
    (hc : combine MAXLEN ((historyAfter s b now).map (·.data)) = some (.ok m))
    (hprev : s.previous = some ⟨m', d⟩) (hlive : now < d) (ht : m'.text = m.text) :
    estimateOf s b now = none := by
  unfold estimateOf
  rw [hc, hprev]
  exact dedup_prune_dup m' m d now hlive ht

theorem estimateOf_expired (s : AState) (b : List Byte) (now : Nat) (m : Msg)
    (hc : combine MAXLEN ((historyAfter s b now).map (·.data)) = some (.ok m))
    (hprev : ∀ p, s.previous = some p → p.deadline ≤ now) :
    estimateOf s b now = some (.ok m) := by
  unfold estimateOf
  rw [hc]
  refine dedup_pass _ _ (fun p hp => ?_)
  have h := prunePrevious_some _ _ _ hp
  have := hprev p h.1
  omega

theorem estimateOf_none (s : AState) (b : List Byte) (now : Nat)
    (hc : combine MAXLEN ((historyAfter s b now).map (·.data)) = none) : estimateOf s b now = none := by
  unfold estimateOf
  rw [hc]
  rfl

theorem estimateOf_error (s : AState) (b : List Byte) (now : Nat) (e : DecodeErr)
    (hc : combine MAXLEN ((historyAfter s b now).map (·.data)) = some (.error e)) :
    estimateOf s b now = some (.error e) := by
  unfold estimateOf
  rw [hc]
  rfl

theorem estimateOf_some (s : AState) (b : List Byte) (now : Nat) (r : MsgResult)
    (h : estimateOf s b now = some r) :
    combine MAXLEN ((historyAfter s b now).map (·.data)) = some r :=
  dedup_some _ _ _ h

theorem acceptNew_due (msg : MsgResult) (now : Nat) (h : (acceptNew msg now).deadline ≤ now) :
    msg = .ok .eom := by
  unfold acceptNew at h
  split at h
  · rfl
  · have := HOLD_pos; simp at h; omega

theorem acceptNew_hold (msg : MsgResult) (now : Nat) (h : msg ≠ .ok .eom) :
    acceptNew msg now = ⟨msg, now + HOLD⟩ := by
  unfold acceptNew
  split
  · exact absurd rfl h
  · rfl

theorem pendingAfter_cases (s : AState) (b : List Byte) (now : Nat) :
    pendingAfter s b now = s.pending
      ∨ ∃ r, estimateOf s b now = some r ∧ pendingAfter s b now = some (acceptNew r now) := by
  unfold pendingAfter
  cases h : estimateOf s b now with
  | none => left; rfl
  | some r =>
    rcases C08.accept_cases s.pending r now with ha | ha
    · left; exact ha
    · right; exact ⟨r, rfl, ha⟩

theorem pendingAfter_none (s : AState) (b : List Byte) (now : Nat)
    (h : estimateOf s b now = none) : pendingAfter s b now = s.pending := by
  unfold pendingAfter; rw [h]

theorem pendingAfter_some (s : AState) (b : List Byte) (now : Nat) (r : MsgResult)
    (h : estimateOf s b now = some r)
    (hp : ∀ old, s.pending = some old → acceptReplaces old.data r = true) :
    pendingAfter s b now = some (acceptNew r now) := by
  unfold pendingAfter
  rw [h]
  cases hs : s.pending with
  | none => rfl
  | some old => simp only [accept, hp old hs, ↓reduceIte]

theorem idle_cases (s : AState) (now : Nat) :
    (∃ t m, s.pending = some t ∧ t.deadline ≤ now ∧ t.data = .ok m ∧
        aIdle s now = ({ history := pruneHistory s.history now, pending := none,
                         previous := some ⟨m, now + HIST⟩ }, .message (.ok m)))
    ∨ (∃ t e, s.pending = some t ∧ t.deadline ≤ now ∧ t.data = .error e ∧
        aIdle s now = ({ history := pruneHistory s.history now, pending := none,
                         previous := s.previous }, .message (.error e)))
    ∨ ((s.pending = none ∨ ∃ t, s.pending = some t ∧ now < t.deadline) ∧
        aIdle s now = ({ history := pruneHistory s.history now, pending := s.pending,
                         previous := s.previous },
                       if (pruneHistory s.history now).isEmpty then .idle else .assembling)) := by
  cases hp : s.pending with
  | none =>
    right; right
    refine ⟨Or.inl rfl, ?_⟩
    simp [aIdle, poll, hp]
  | some t =>
    by_cases hd : t.deadline ≤ now
    · cases hdat : t.data with
      | ok m =>
        left
        refine ⟨t, m, rfl, hd, hdat, ?_⟩
        simp [aIdle, poll, hp, Timed.expiredAt, hd, hdat]
      | error e =>
        right; left
        refine ⟨t, e, rfl, hd, hdat, ?_⟩
        simp [aIdle, poll, hp, Timed.expiredAt, hd, hdat]
    · right; right
      refine ⟨Or.inr ⟨t, rfl, by omega⟩, ?_⟩
      simp [aIdle, poll, hp, Timed.expiredAt, hd]

theorem idle_history (s : AState) (now : Nat) :
    (aIdle s now).1.history = pruneHistory s.history now := by
  rcases idle_cases s now with ⟨_, _, _, _, _, h⟩ | ⟨_, _, _, _, _, h⟩ | ⟨_, h⟩ <;> rw [h]

theorem idle_out_ok (s : AState) (now : Nat) (m : Msg) (h : (aIdle s now).2 = .message (.ok m)) :
    ∃ t, s.pending = some t ∧ t.deadline ≤ now ∧ t.data = .ok m ∧
      (aIdle s now).1 = { history := pruneHistory s.history now, pending := none,
                          previous := some ⟨m, now + HIST⟩ } := by
  rcases idle_cases s now with ⟨t, m', hp, hd, hdat, he⟩ | ⟨_, _, _, _, _, he⟩ | ⟨_, he⟩
  · rw [he] at h ⊢
    simp only [Transport.message.injEq, Except.ok.injEq] at h
    subst h
    exact ⟨t, hp, hd, hdat, rfl⟩
  · rw [he] at h; simp at h
  · rw [he] at h; split at h <;> cases h

theorem idle_out (s : AState) (now : Nat) (r : MsgResult) (h : (aIdle s now).2 = .message r) :
    ∃ t, s.pending = some t ∧ t.data = r ∧ t.deadline ≤ now ∧ (aIdle s now).1.pending = none := by
  rcases idle_cases s now with ⟨t, m, hp, hd, hdat, he⟩ | ⟨t, e, hp, hd, hdat, he⟩ | ⟨_, he⟩
  · rw [he] at h ⊢; cases h; exact ⟨t, hp, hdat, hd, rfl⟩
  · rw [he] at h ⊢; cases h; exact ⟨t, hp, hdat, hd, rfl⟩
  · rw [he] at h; split at h <;> cases h

theorem idle_quiet_pending (s : AState) (now : Nat) (h : ∀ r, (aIdle s now).2 ≠ .message r) :
    (aIdle s now).1.pending = s.pending := by
  rcases idle_cases s now with ⟨_, m, _, _, _, he⟩ | ⟨_, e, _, _, _, he⟩ | ⟨_, he⟩
  · exact absurd (by rw [he]) (h (.ok m))
  · exact absurd (by rw [he]) (h (.error e))
  · rw [he]

theorem idle_of_waiting (s : AState) (now : Nat)
    (hp : ∀ t, s.pending = some t → now < t.deadline) :
    (aIdle s now).1 = { history := pruneHistory s.history now, pending := s.pending,
                        previous := s.previous }
      ∧ ∀ r, (aIdle s now).2 ≠ .message r := by
  rcases idle_cases s now with ⟨t, _, h, hd, _⟩ | ⟨t, _, h, hd, _⟩ | ⟨_, he⟩
  · have := hp t h; omega
  · have := hp t h; omega
  · rw [he]
    refine ⟨rfl, ?_⟩
    intro r; simp only; split <;> simp

theorem idle_of_pending_none (s : AState) (now : Nat) (hp : s.pending = none) :
    (aIdle s now).1 = { history := pruneHistory s.history now, pending := none, previous := s.previous }
      ∧ ∀ r, (aIdle s now).2 ≠ .message r := by
  have := idle_of_waiting s now (by intro t ht; rw [hp] at ht; cases ht)
  rwa [hp] at this

theorem idle_of_not_due (s : AState) (t : Timed MsgResult) (now : Nat) (hp : s.pending = some t)
    (hd : now < t.deadline) :
    (aIdle s now).1 = { history := pruneHistory s.history now, pending := some t, previous := s.previous }
      ∧ ∀ r, (aIdle s now).2 ≠ .message r := by
  have := idle_of_waiting s now (by intro t' ht; rw [hp] at ht; cases ht; exact hd)
  rwa [hp] at this

theorem idle_of_due (s : AState) (t : Timed MsgResult) (now : Nat)
    (hp : s.pending = some t) (hd : t.deadline ≤ now) :
    aIdle s now = ({ history := pruneHistory s.history now, pending := none,
                     previous := match t.data with
                       | .ok m => some ⟨m, now + HIST⟩
                       | .error _ => s.previous }, .message t.data) := by
  rcases idle_cases s now with ⟨t', m', h, _, hdat, he⟩ | ⟨t', _, h, _, hdat, he⟩ | ⟨h, _⟩
  · rw [hp] at h; cases h
    rw [he, hdat]
  · rw [hp] at h; cases h
    rw [he, hdat]
  · rcases h with h | ⟨t', h, hd'⟩
    · rw [hp] at h; cases h
    · rw [hp] at h; cases h; omega

/-- the state `aIdle` is applied to inside an operation -/
def preIdle (s : AState) : AOp → AState
  | .poll _ => s
  | .burst b t =>
    if b.isEmpty then s
    else { history := historyAfter s b t, pending := pendingAfter s b t,
           previous := prunePrevious s.previous t }

theorem preIdle_poll (s : AState) (t : Nat) : preIdle s (.poll t) = s := rfl

theorem preIdle_burst_empty (s : AState) (b : List Byte) (t : Nat) (hb : b.isEmpty = true) :
    preIdle s (.burst b t) = s := by
  simp [preIdle, hb]

theorem preIdle_burst (s : AState) (b : List Byte) (t : Nat) (hb : b.isEmpty = false) :
    preIdle s (.burst b t)
      = { history := historyAfter s b t, pending := pendingAfter s b t,
          previous := prunePrevious s.previous t } := by
  simp [preIdle, hb]

theorem stepOp_eq (s : AState) (op : AOp) : stepOp s op = aIdle (preIdle s op) op.time := by
  cases op with
  | poll t => rfl
  | burst b t =>
    simp only [stepOp, aAssemble, preIdle, AOp.time]
    split <;> rfl

theorem step_burst_history (s : AState) (b : List Byte) (now : Nat) (hne : b.isEmpty = false) :
    (stepOp s (.burst b now)).1.history = pruneHistory (historyAfter s b now) now := by
  rw [stepOp_eq, preIdle_burst _ _ _ hne, idle_history]
  rfl

theorem burst_quiet (s : AState) (b : List Byte) (now : Nat) (hne : b.isEmpty = false)
    (hp : s.pending = none) (hest : estimateOf s b now = none) :
    (stepOp s (.burst b now)).1
        = { history := pruneHistory (historyAfter s b now) now, pending := none,
            previous := prunePrevious s.previous now }
      ∧ ∀ r, (stepOp s (.burst b now)).2 ≠ .message r := by
  rw [stepOp_eq, preIdle_burst _ _ _ hne, pendingAfter_none s b now hest, hp]
  exact idle_of_pending_none _ now rfl

theorem burst_held (s : AState) (b : List Byte) (now : Nat) (r : MsgResult) (hne : b.isEmpty = false)
    (hest : estimateOf s b now = some r) (hr : r ≠ .ok .eom)
    (hp : ∀ old, s.pending = some old → acceptReplaces old.data r = true) :
    (stepOp s (.burst b now)).1
        = { history := pruneHistory (historyAfter s b now) now, pending := some ⟨r, now + HOLD⟩,
            previous := prunePrevious s.previous now }
      ∧ ∀ r', (stepOp s (.burst b now)).2 ≠ .message r' := by
  rw [stepOp_eq, preIdle_burst _ _ _ hne, pendingAfter_some s b now r hest hp, acceptNew_hold r now hr]
  exact idle_of_not_due _ _ now rfl (by have := HOLD_pos; simp only; omega)

theorem burst_eom (s : AState) (b : List Byte) (now : Nat) (hne : b.isEmpty = false)
    (hest : estimateOf s b now = some (.ok .eom))
    (hp : ∀ old, s.pending = some old → acceptReplaces old.data (.ok .eom) = true) :
    stepOp s (.burst b now)
      = ({ history := pruneHistory (historyAfter s b now) now, pending := none,
           previous := some ⟨.eom, now + HIST⟩ }, .message (.ok .eom)) := by
  rw [stepOp_eq, preIdle_burst _ _ _ hne, pendingAfter_some s b now _ hest hp]
  exact idle_of_due _ ⟨.ok .eom, now⟩ now rfl (Nat.le_refl _)

end SameVerif.Asm
