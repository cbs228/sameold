import SameVerif.Lemmas.AssemblerRuns
/-
  Run lemmas for one transmission: what a completed transmission leaves behind (`LeftBy`, and
  `Calm`, which forgets the report), the state after its first two bursts (`Held`), the two ways
  the third burst can end (replace the held entry, or be suppressed as a duplicate of what was just
  reported), and whole transmissions of two or three bursts.  `combine` results are hypotheses
  here; the theorem files supply them.
-/
namespace SameVerif.Asm

/-- Nothing is held; the report `m` is remembered until `d`; at most two bursts are stored and, at
    any time from `T` on, they prune like `h0`. -/
structure LeftBy (S : AState) (m : Msg) (d : Nat) (h0 : List (Timed (List Byte))) (T : Nat) : Prop where
  pending : S.pending = none
  previous : S.previous = some ⟨m, d⟩
  hlen : S.history.length ≤ 2
  sub : ∀ e ∈ S.history, e ∈ h0
  hist : ∀ now, T ≤ now → pruneHistory S.history now = pruneHistory h0 now

/-- Nothing is held; the previous-report slot is `p`; at most two bursts are stored and, at any
    time from `T` on, they prune like `h0`.  (`LeftBy` without the commitment to a report.) -/
structure Calm (S : AState) (p : Option (Timed Msg)) (h0 : List (Timed (List Byte))) (T : Nat) : Prop where
  pending : S.pending = none
  previous : S.previous = p
  hlen : S.history.length ≤ 2
  hist : ∀ now, T ≤ now → pruneHistory S.history now = pruneHistory h0 now

theorem LeftBy.calm {S : AState} {m : Msg} {d T : Nat} {h0 : List (Timed (List Byte))}
    (h : LeftBy S m d h0 T) : Calm S (some ⟨m, d⟩) h0 T :=
  ⟨h.pending, h.previous, h.hlen, h.hist⟩

theorem Calm.mono {S : AState} {p : Option (Timed Msg)} {h0 : List (Timed (List Byte))} {T T' : Nat}
    (h : Calm S p h0 T) (hT : T ≤ T') : Calm S p h0 T' :=
  ⟨h.pending, h.previous, h.hlen, fun now hn => h.hist now (by omega)⟩

theorem calm_polls (polls : List Nat) (S : AState) (p : Option (Timed Msg))
    (h0 : List (Timed (List Byte))) (T : Nat) (hs : Calm S p h0 T) (hT : ∀ u ∈ polls, u ≤ T) :
    (runOps S (polls.map .poll)).2 = [] ∧ Calm (runOps S (polls.map .poll)).1 p h0 T := by
  obtain ⟨h1, h2, h3⟩ := run_polls_quiet polls S hs.pending
  refine ⟨h1, h2, by rw [h3, hs.previous], run_polls_hlen polls S hs.hlen, ?_⟩
  intro now hnow
  rw [run_polls_prune polls now S hs.hlen (fun v hv => Nat.le_trans (hT v hv) hnow)]
  exact hs.hist now hnow

theorem run_polls_release_st (polls : List Nat) (tm : Timed MsgResult) (m : Msg)
    (hdat : tm.data = .ok m) (s : AState) (h0 : List (Timed (List Byte))) (hp : s.pending = some tm)
    (hh : s.history = h0) (hl : h0.length ≤ 2) (hex : ∃ u ∈ polls, tm.deadline ≤ u) :
    ∃ u ∈ polls, tm.deadline ≤ u ∧ (runOps s (polls.map .poll)).2 = [(u, .ok m)]
      ∧ ∀ T, (∀ u ∈ polls, u ≤ T) → LeftBy (runOps s (polls.map .poll)).1 m (u + HIST) h0 T := by
  subst hh
  obtain ⟨u, hu, hd, hout, hpn, hpv⟩ := run_polls_release polls tm s hp hex
  rw [hdat] at hout hpv
  refine ⟨u, hu, hd, hout, fun T hT => ⟨hpn, hpv, run_polls_hlen polls s hl,
    fun e he => (run_polls_history_sublist polls s).subset he, fun now hnow => ?_⟩⟩
  exact run_polls_prune polls now s hl (fun v hv => Nat.le_trans (hT v hv) hnow)

theorem run_polls_quiet_st (polls : List Nat) (m : Msg) (d T : Nat) (h0 : List (Timed (List Byte)))
    (s : AState) (hs : LeftBy s m d h0 T) (hT : ∀ u ∈ polls, u ≤ T) :
    (runOps s (polls.map .poll)).2 = [] ∧ LeftBy (runOps s (polls.map .poll)).1 m d h0 T := by
  obtain ⟨h1, hc⟩ := calm_polls polls s _ h0 T hs.calm hT
  exact ⟨h1, hc.pending, hc.previous, hc.hlen,
    fun e he => hs.sub e ((run_polls_history_sublist polls s).subset he), hc.hist⟩

theorem third_burst_replaces (S : AState) (b3 : List Byte) (e1 e2 : Timed (List Byte)) (t3 d : Nat)
    (hold hnew : Header) (polls : List Nat)
    (hne : b3.isEmpty = false)
    (hh : pruneHistory S.history t3 = [e1, e2])
    (hpend : S.pending = some ⟨.ok (.som hold), d⟩)
    (hc : combine MAXLEN [e1.data, e2.data, b3.take MAXLEN] = some (.ok (.som hnew)))
    (hvote : hold.voting ≤ hnew.voting)
    (hprev : ∀ p, S.previous = some p → p.data.text ≠ hnew.text)
    (hex : ∃ u ∈ polls, t3 + HOLD ≤ u) :
    ∃ u ∈ polls, t3 + HOLD ≤ u
      ∧ (runOps S (.burst b3 t3 :: polls.map .poll)).2 = [(u, .ok (.som hnew))]
      ∧ ∀ T, (∀ u ∈ polls, u ≤ T) →
          LeftBy (runOps S (.burst b3 t3 :: polls.map .poll)).1 (.som hnew) (u + HIST)
            [e2, ⟨b3.take MAXLEN, t3 + HIST⟩] T := by
  have hist := historyAfter_of_prune S b3 t3 _ hh
  obtain ⟨hs, hq⟩ := burst_held S b3 t3 _ hne
    (estimateOf_pass S b3 t3 (.som hnew) (by rw [hist]; exact hc) hprev) (by simp)
    (by intro old ho; rw [hpend] at ho; cases ho; simp [acceptReplaces, hvote])
  rw [prune_historyAfter, hist] at hs
  rw [runOps_cons_quiet _ _ _ hq]
  exact run_polls_release_st polls ⟨.ok (.som hnew), t3 + HOLD⟩ (.som hnew) rfl _ _ (by rw [hs])
    (by rw [hs]; rfl) (Nat.le_refl 2) hex

theorem third_burst_suppressed (S : AState) (b3 : List Byte) (e1 e2 : Timed (List Byte)) (t3 d : Nat)
    (m : Msg) (hnew : Header) (polls : List Nat)
    (hne : b3.isEmpty = false)
    (hh : pruneHistory S.history t3 = [e1, e2])
    (hpend : S.pending = none)
    (hc : combine MAXLEN [e1.data, e2.data, b3.take MAXLEN] = some (.ok (.som hnew)))
    (hprev : S.previous = some ⟨m, d⟩) (hlive : t3 < d)
    (htext : m.text = hnew.text) :
    (runOps S (.burst b3 t3 :: polls.map .poll)).2 = []
      ∧ ∀ T, (∀ u ∈ polls, u ≤ T) →
          LeftBy (runOps S (.burst b3 t3 :: polls.map .poll)).1 m d
            [e2, ⟨b3.take MAXLEN, t3 + HIST⟩] T := by
  have hist := historyAfter_of_prune S b3 t3 _ hh
  obtain ⟨hs, hq⟩ := burst_quiet S b3 t3 hne hpend
    (estimateOf_dup S b3 t3 d (.som hnew) m (by rw [hist]; exact hc) hprev hlive htext)
  rw [prune_historyAfter, hist, hprev, prunePrevious_live m d t3 hlive] at hs
  have hL : ∀ T, LeftBy (stepOp S (.burst b3 t3)).1 m d [e2, ⟨b3.take MAXLEN, t3 + HIST⟩] T := by
    intro T
    rw [hs]
    exact ⟨rfl, rfl, Nat.le_refl 2, fun _ he => he, fun _ _ => rfl⟩
  rw [runOps_cons_quiet _ _ _ hq]
  exact ⟨(run_polls_quiet polls _ (hL 0).pending).1,
    fun T hT => (run_polls_quiet_st polls m d T _ _ (hL T) hT).2⟩

/-- The state after the first two bursts of a transmission: both are stored, the StartOfMessage `h`
    voted from them is held until `d`, and the previous report (if any) has another text. -/
structure Held (S : AState) (e1 e2 : Timed (List Byte)) (h : Header) (d : Nat) : Prop where
  history : S.history = [e1, e2]
  pending : S.pending = some ⟨.ok (.som h), d⟩
  previous : ∀ p, S.previous = some p → p.data.text ≠ h.text

theorem held_release (S : AState) (e1 e2 : Timed (List Byte)) (h : Header) (d : Nat)
    (polls : List Nat) (hS : Held S e1 e2 h d) (hex : ∃ u ∈ polls, d ≤ u) :
    ∃ u ∈ polls, d ≤ u ∧ (runOps S (polls.map .poll)).2 = [(u, .ok (.som h))]
      ∧ ∀ T, (∀ u ∈ polls, u ≤ T) → LeftBy (runOps S (polls.map .poll)).1 (.som h) (u + HIST) [e1, e2] T :=
  run_polls_release_st polls ⟨.ok (.som h), d⟩ (.som h) rfl S _ hS.pending hS.history (Nat.le_refl 2) hex

theorem held_then_third (S : AState) (b3 : List Byte) (e1 e2 : Timed (List Byte)) (t2 t3 : Nat)
    (hold hnew : Header) (polls2 polls : List Nat)
    (hne : b3.isEmpty = false)
    (hS : Held S e1 e2 hold (t2 + HOLD)) (hf1 : t3 < e1.deadline) (hf2 : t3 < e2.deadline)
    (hp2 : ∀ u ∈ polls2, u ≤ t3)
    (hc : combine MAXLEN [e1.data, e2.data, b3.take MAXLEN] = some (.ok (.som hnew)))
    (hvote : hold.voting ≤ hnew.voting)
    (htext : hold.text = hnew.text)
    (hwin : t3 < t2 + HOLD + HIST)
    (hex : ∃ u ∈ polls, t3 + HOLD ≤ u) :
    (∃ u ∈ polls2, t2 + HOLD ≤ u
        ∧ (runOps S (polls2.map .poll ++ .burst b3 t3 :: polls.map .poll)).2 = [(u, .ok (.som hold))]
        ∧ ∀ T, (∀ u ∈ polls, u ≤ T) →
            LeftBy (runOps S (polls2.map .poll ++ .burst b3 t3 :: polls.map .poll)).1 (.som hold)
              (u + HIST) [e2, ⟨b3.take MAXLEN, t3 + HIST⟩] T)
    ∨ ((∀ u ∈ polls2, u < t2 + HOLD) ∧ ∃ u ∈ polls, t3 + HOLD ≤ u
        ∧ (runOps S (polls2.map .poll ++ .burst b3 t3 :: polls.map .poll)).2 = [(u, .ok (.som hnew))]
        ∧ ∀ T, (∀ u ∈ polls, u ≤ T) →
            LeftBy (runOps S (polls2.map .poll ++ .burst b3 t3 :: polls.map .poll)).1 (.som hnew)
              (u + HIST) [e2, ⟨b3.take MAXLEN, t3 + HIST⟩] T) := by
  have hprune : pruneHistory (runOps S (polls2.map .poll)).1.history t3 = [e1, e2] := by
    rw [run_polls_prune polls2 t3 S (by rw [hS.history]; exact Nat.le_refl 2) hp2, hS.history,
      prune_two_fresh _ _ _ hf1 hf2]
  rw [runOps_append]
  rcases run_polls_cases polls2 S with ⟨hout, hpn, hpv, hA⟩ | ⟨tm, u, htm, hu, hd, hout, hpn, hpv⟩
  · right
    rw [hS.pending] at hpn
    obtain ⟨u, hu, hd, h3, hL⟩ := third_burst_replaces _ b3 e1 e2 t3 _ hold hnew polls hne hprune hpn hc
      hvote (by rw [hpv, ← htext]; exact hS.previous) hex
    exact ⟨hA _ hS.pending, u, hu, hd, by rw [hout, h3]; rfl, hL⟩
  · left
    rw [hS.pending] at htm
    cases htm
    have hd' : t2 + HOLD ≤ u := hd
    obtain ⟨h3, hL⟩ := third_burst_suppressed _ b3 e1 e2 t3 (u + HIST) (.som hold) hnew polls hne hprune
      hpn hc hpv (by omega) htext
    exact ⟨u, hu, hd', by rw [hout, h3]; rfl, hL⟩

theorem two_bursts_held (s : AState) (b1 b2 : List Byte) (t1 t2 : Nat) (h2 : Header) (polls1 : List Nat)
    (hne1 : b1.isEmpty = false) (hne2 : b2.isEmpty = false)
    (hc1 : combine MAXLEN [b1.take MAXLEN] = none)
    (hc2 : combine MAXLEN [b1.take MAXLEN, b2.take MAXLEN] = some (.ok (.som h2)))
    (hh : pruneHistory s.history t1 = []) (hp : s.pending = none)
    (hprev : ∀ p, s.previous = some p → t1 < p.deadline → p.data.text ≠ h2.text)
    (h21 : t2 < t1 + HIST)
    (hp1 : ∀ u ∈ polls1, u ≤ t2) :
    ∃ S2 : AState,
      (∀ rest, runOps s (.burst b1 t1 :: (polls1.map .poll ++ .burst b2 t2 :: rest)) = runOps S2 rest)
      ∧ Held S2 ⟨b1.take MAXLEN, t1 + HIST⟩ ⟨b2.take MAXLEN, t2 + HIST⟩ h2 (t2 + HOLD) := by
  -- first burst: stored
  have hist1 := historyAfter_of_prune s b1 t1 _ hh
  obtain ⟨hs1, hq1⟩ := burst_quiet s b1 t1 hne1 hp (estimateOf_none s b1 t1 (by rw [hist1]; exact hc1))
  rw [prune_historyAfter, hist1] at hs1
  generalize hS1 : (stepOp s (.burst b1 t1)).1 = S1 at hs1
  -- polls: nothing held, nothing happens; the burst is still alive at `t2`
  obtain ⟨hq, hpn, hpv⟩ := run_polls_quiet polls1 S1 (by rw [hs1])
  have hprune : pruneHistory (runOps S1 (polls1.map .poll)).1.history t2
      = [⟨b1.take MAXLEN, t1 + HIST⟩] := by
    rw [run_polls_prune polls1 t2 S1 (by rw [hs1]; exact Nat.le_succ 1) hp1, hs1]
    exact prune_one_fresh _ _ h21
  generalize hS1' : (runOps S1 (polls1.map .poll)).1 = S1' at hpn hpv hprune
  have hpv' : ∀ p, S1'.previous = some p → p.data.text ≠ h2.text := by
    intro p hpp
    rw [hpv, hs1] at hpp
    have h := prunePrevious_some _ _ _ hpp
    exact hprev p h.1 h.2
  -- second burst: accepted, held
  have hist2 := historyAfter_of_prune S1' b2 t2 _ hprune
  obtain ⟨hs2, hq2⟩ := burst_held S1' b2 t2 _ hne2
    (estimateOf_pass S1' b2 t2 (.som h2) (by rw [hist2]; exact hc2) hpv') (by simp)
    (by intro old ho; rw [hpn] at ho; cases ho)
  rw [prune_historyAfter, hist2] at hs2
  refine ⟨(stepOp S1' (.burst b2 t2)).1, ?_, ?_⟩
  · intro rest
    rw [runOps_cons_quiet _ _ _ hq1, hS1, runOps_append, hq, hS1', runOps_cons_quiet _ _ _ hq2]
    rfl
  · rw [hs2]
    exact ⟨rfl, rfl, fun p hpp => hpv' p (prunePrevious_some _ _ _ hpp).1⟩

theorem transmission3_st (s : AState) (b1 b2 b3 : List Byte) (t1 t2 t3 t : Nat) (h2 h3 : Header)
    (polls1 polls2 polls3 : List Nat)
    (hne1 : b1.isEmpty = false) (hne2 : b2.isEmpty = false) (hne3 : b3.isEmpty = false)
    (hc1 : combine MAXLEN [b1.take MAXLEN] = none)
    (hc2 : combine MAXLEN [b1.take MAXLEN, b2.take MAXLEN] = some (.ok (.som h2)))
    (hc3 : combine MAXLEN [b1.take MAXLEN, b2.take MAXLEN, b3.take MAXLEN] = some (.ok (.som h3)))
    (hvote : h2.voting ≤ h3.voting) (htext : h2.text = h3.text)
    (hh : pruneHistory s.history t1 = []) (hp : s.pending = none)
    (hprev : ∀ p, s.previous = some p → t1 < p.deadline → p.data.text ≠ h2.text)
    (h12 : t1 ≤ t2) (h23 : t2 ≤ t3) (h31 : t3 < t1 + HIST)
    (hp1 : ∀ u ∈ polls1, u ≤ t2) (hp2 : ∀ u ∈ polls2, u ≤ t3) (ht : t3 + HOLD ≤ t) :
    ∃ u h, ((h = h2 ∧ u ∈ polls2) ∨ (h = h3 ∧ u ∈ polls3 ++ [t] ∧ t3 + HOLD ≤ u
          ∧ ∀ v ∈ polls2, v < t2 + HOLD)) ∧ t2 + HOLD ≤ u
      ∧ (runOps s (.burst b1 t1 :: (polls1.map .poll ++ .burst b2 t2 ::
          (polls2.map .poll ++ .burst b3 t3 :: (polls3.map .poll ++ [.poll t]))))).2
          = [(u, .ok (.som h))]
      ∧ ∀ T, (∀ v ∈ polls3 ++ [t], v ≤ T) →
          LeftBy (runOps s (.burst b1 t1 :: (polls1.map .poll ++ .burst b2 t2 ::
            (polls2.map .poll ++ .burst b3 t3 :: (polls3.map .poll ++ [.poll t]))))).1
            (.som h) (u + HIST) [⟨b2.take MAXLEN, t2 + HIST⟩, ⟨b3.take MAXLEN, t3 + HIST⟩] T := by
  obtain ⟨S2, hrun, hS2⟩ := two_bursts_held s b1 b2 t1 t2 h2 polls1 hne1 hne2 hc1 hc2 hh hp hprev
    (by omega) hp1
  rw [hrun, polls_snoc]
  rcases held_then_third S2 b3 _ _ t2 t3 h2 h3 polls2 (polls3 ++ [t]) hne3 hS2 (by simp only; omega)
    (by simp only; omega) hp2 hc3 hvote htext (by omega) ⟨t, by simp, ht⟩
    with ⟨u, hu, hd, hout, hL⟩ | ⟨hA, u, hu, hd, hout, hL⟩
  · exact ⟨u, h2, Or.inl ⟨rfl, hu⟩, hd, hout, hL⟩
  · exact ⟨u, h3, Or.inr ⟨rfl, hu, hd, hA⟩, by omega, hout, hL⟩

theorem transmission2_st (s : AState) (b1 b2 : List Byte) (t1 t2 t : Nat) (h2 : Header)
    (polls1 polls2 : List Nat)
    (hne1 : b1.isEmpty = false) (hne2 : b2.isEmpty = false)
    (hc1 : combine MAXLEN [b1.take MAXLEN] = none)
    (hc2 : combine MAXLEN [b1.take MAXLEN, b2.take MAXLEN] = some (.ok (.som h2)))
    (hh : pruneHistory s.history t1 = []) (hp : s.pending = none)
    (hprev : ∀ p, s.previous = some p → t1 < p.deadline → p.data.text ≠ h2.text)
    (h21 : t2 < t1 + HIST) (hp1 : ∀ u ∈ polls1, u ≤ t2) (ht : t2 + HOLD ≤ t) :
    ∃ u ∈ polls2 ++ [t], t2 + HOLD ≤ u
      ∧ (runOps s (.burst b1 t1 :: (polls1.map .poll ++ .burst b2 t2 ::
          (polls2.map .poll ++ [.poll t])))).2 = [(u, .ok (.som h2))]
      ∧ ∀ T, (∀ v ∈ polls2 ++ [t], v ≤ T) →
          LeftBy (runOps s (.burst b1 t1 :: (polls1.map .poll ++ .burst b2 t2 ::
            (polls2.map .poll ++ [.poll t])))).1
            (.som h2) (u + HIST) [⟨b1.take MAXLEN, t1 + HIST⟩, ⟨b2.take MAXLEN, t2 + HIST⟩] T := by
  obtain ⟨S2, hrun, hS2⟩ := two_bursts_held s b1 b2 t1 t2 h2 polls1 hne1 hne2 hc1 hc2 hh hp hprev
    h21 hp1
  rw [hrun, polls_snoc]
  exact held_release S2 _ _ h2 _ (polls2 ++ [t]) hS2 ⟨t, by simp, ht⟩

theorem polls_snoc_le (p : List Nat) (t T : Nat) (hp : ∀ u ∈ p, u ≤ T) (ht : t ≤ T) :
    ∀ v ∈ p ++ [t], v ≤ T := by
  intro v hv
  rcases List.mem_append.mp hv with hv | hv
  · exact hp v hv
  · rw [List.mem_singleton.mp hv]; exact ht

end SameVerif.Asm
