import SameVerif.Model.Combiner
/- Bits of a byte under the bitwise operations, zero bits counted over the eight positions, and the
   facts about allowed characters that are checked over all 256 bytes. -/
namespace SameVerif

theorem bitOf_and (a b : Byte) (i : Nat) : bitOf (a &&& b) i = (bitOf a i && bitOf b i) := by
  simp [bitOf, UInt8.toBitVec_and]

theorem bitOf_or (a b : Byte) (i : Nat) : bitOf (a ||| b) i = (bitOf a i || bitOf b i) := by
  simp [bitOf, UInt8.toBitVec_or]

theorem bitOf_xor (a b : Byte) (i : Nat) : bitOf (a ^^^ b) i = (bitOf a i != bitOf b i) := by
  simp [bitOf, UInt8.toBitVec_xor]

theorem bitOf_not (a : Byte) (i : Nat) (hi : i < 8) : bitOf (~~~a) i = !bitOf a i := by
  simp [bitOf, UInt8.toBitVec_not, hi]

theorem bitOf_ge (a : Byte) (i : Nat) (hi : 8 ≤ i) : bitOf a i = false := by
  simp [bitOf]; exact BitVec.getLsbD_of_ge _ _ hi

theorem byte_ext (a b : Byte) (h : ∀ i, i < 8 → bitOf a i = bitOf b i) : a = b := by
  apply UInt8.eq_of_toBitVec_eq
  apply BitVec.eq_of_getLsbD_eq
  intro i hi
  exact h i hi

theorem countP_range8_congr (p q : Nat → Bool) (h : ∀ i, i < 8 → p i = q i) :
    (List.range 8).countP p = (List.range 8).countP q := by
  apply List.countP_congr
  intro i hi
  have : i < 8 := List.mem_range.mp hi
  simp [h i this]

theorem countZeros8_eq (x : Byte) : countZeros8 x = (List.range 8).countP (fun i => !bitOf x i) := by
  unfold countZeros8 popcount8
  have h := List.length_eq_countP_add_countP (bitOf x) (l := List.range 8)
  simp only [List.length_range] at h
  have : (List.range 8).countP (fun i => !bitOf x i) = (List.range 8).countP (fun a => ¬ bitOf x a = true) := by
    apply List.countP_congr; intro i _; simp
  omega

theorem forall_byte (p : Byte → Bool)
    (h : (List.range 256).all (fun n => p (UInt8.ofNat n)) = true) : ∀ b, p b = true := by
  intro b
  have hb : b.toNat < 256 := UInt8.toNat_lt b
  have := List.all_eq_true.mp h b.toNat (List.mem_range.mpr hb)
  simpa using this

theorem allowed_lt_128 : ∀ b : Byte, isAllowed b = true → b < 128 := by
  have := forall_byte (fun b => !isAllowed b || decide (b < 128)) (by decide +kernel)
  intro b hb
  have h := this b
  simp [hb] at h
  exact h

theorem allowed_mask : ∀ b : Byte, isAllowed b = true → (b &&& ~~~(0x80 : Byte)) = b := by
  have := forall_byte (fun b => !isAllowed b || ((b &&& ~~~(0x80 : Byte)) == b)) (by decide +kernel)
  intro b hb
  have h := this b
  simp [hb] at h
  exact h

theorem allowed_msb : ∀ b : Byte, isAllowed b = true → ((b &&& 0x80) != 0) = false := by
  have := forall_byte (fun b => !isAllowed b || !((b &&& 0x80) != 0)) (by decide +kernel)
  intro b hb
  have h := this b
  simp [hb] at h
  simp [h]

end SameVerif
