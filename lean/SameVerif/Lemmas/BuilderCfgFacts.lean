/-
  For Thm/BuilderCfg.lean: the shape of `eqSetters` / `applySetters` under `OrderLaws`
  (every `clamp` they perform succeeds, and what is stored), and `rat_div_nonneg`.
-/
import SameVerif.Model.BuilderCfg
import SameVerif.Lemmas.DspLaws

namespace SameVerif.Dsp
open Arith

section Order
variable {F : Type} [Arith F] [OrderLaws F]

theorem eqSetters_spec {fmaxVal : F} (hmax : le zero fmaxVal = true) (e : Nat × Nat × F × F) :
    ∃ relax reg, clamp e.2.2.1 zero one = some relax ∧ clamp e.2.2.2 zero fmaxVal = some reg ∧
      eqSetters fmaxVal e = some (max e.1 1, min (max e.2.1 1) (max e.1 1), relax, reg) := by
  obtain ⟨relax, h1⟩ := clamp_isSome_of_le (x := e.2.2.1) (OrderLaws.zero_le_one (F := F))
  obtain ⟨reg, h2⟩ := clamp_isSome_of_le (x := e.2.2.2) hmax
  refine ⟨relax, reg, h1, h2, ?_⟩
  unfold eqSetters
  simp only [h1, h2]

theorem applySetters_spec {fmaxVal : F} (hmax : le zero fmaxVal = true) (a : BuilderArgs F) :
    ∃ agcBw tbu tbl dev sqo eq,
      clamp a.agcBw zero one = some agcBw ∧ clamp a.timingBwUnlocked zero one = some tbu ∧
      clamp a.timingBwLocked zero tbu = some tbl ∧ clamp a.timingMaxDev zero half = some dev ∧
      clamp a.squelchOpen zero one = some sqo ∧
      (match a.eq with
        | none => eq = none
        | some e => ∃ relax reg, clamp e.2.2.1 zero one = some relax ∧
            clamp e.2.2.2 zero fmaxVal = some reg ∧
            eq = some (max e.1 1, min (max e.2.1 1) (max e.1 1), relax, reg)) ∧
      applySetters fmaxVal a = some
        { rate := a.rate, dcLen := fmax zero a.dcLen, agcBw, agcMin := a.agcMin, agcMax := a.agcMax,
          timingBwUnlocked := tbu, timingBwLocked := tbl, timingMaxDev := dev,
          squelchOpen := sqo, squelchClose := fmin a.squelchClose a.squelchOpen, squelchBw := a.squelchBw,
          preambleMaxErrors := a.preambleMaxErrors, eq,
          framePrefixMaxErrors := min a.framePrefixMaxErrors 7, frameMaxInvalid := a.frameMaxInvalid } := by
  have h01 := OrderLaws.zero_le_one (F := F)
  obtain ⟨agcBw, h1⟩ := clamp_isSome_of_le (x := a.agcBw) h01
  obtain ⟨tbu, h2⟩ := clamp_isSome_of_le (x := a.timingBwUnlocked) h01
  obtain ⟨_, h0tbu, _⟩ := clamp_bounds' h2
  obtain ⟨tbl, h3⟩ := clamp_isSome_of_le (x := a.timingBwLocked) h0tbu
  obtain ⟨dev, h4⟩ := clamp_isSome_of_le (x := a.timingMaxDev) (OrderLaws.zero_le_half (F := F))
  obtain ⟨sqo, h5⟩ := clamp_isSome_of_le (x := a.squelchOpen) h01
  cases hq : a.eq with
  | none =>
    refine ⟨agcBw, tbu, tbl, dev, sqo, none, h1, h2, h3, h4, h5, rfl, ?_⟩
    unfold applySetters
    simp only [h1, h2, h3, h4, h5, hq]
  | some e =>
    obtain ⟨relax, reg, q1, q2, q3⟩ := eqSetters_spec hmax e
    refine ⟨agcBw, tbu, tbl, dev, sqo, _, h1, h2, h3, h4, h5, ⟨relax, reg, q1, q2, rfl⟩, ?_⟩
    unfold applySetters
    simp only [h1, h2, h3, h4, h5, hq, q3, Option.map_some]

end Order

theorem rat_div_nonneg {a b : Rat} (ha : 0 ≤ a) (hb : 0 < b) : 0 ≤ a / b := by
  rw [Rat.div_def]
  exact Rat.mul_nonneg ha (Rat.le_of_lt (Rat.inv_pos.2 hb))

end SameVerif.Dsp
