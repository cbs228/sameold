import SameVerif.Model.Chain
import SameVerif.Lemmas.ReceiverFacts
import SameVerif.Lemmas.AssemblerThree
/-
  The receiver bridge of the digital chain: a receiver run in which the forced end-of-message timer does not
  fire is the assembler run over `opsOfTicks` — the assembler state (`run_asm`) and, when the
  assembler outputs at most one EndOfMessage, the message events (`run_events`).
-/
namespace SameVerif.Chain
open SameVerif SameVerif.Asm SameVerif.C08

abbrev TIMEOUT (rate : Nat) : Nat := Gen.MAX_MESSAGE_DURATION_SECS * rate

/-- the timer, if armed, does not expire before sample `smax` -/
def NoFire (smax : Nat) (s : RState) : Prop := ∀ T, s.forceEomAt = some T → smax ≤ T

/-- all samples of the run are at most `smax`, and `smax` is less than one timeout after each of
    them: a timer armed during the run cannot expire within it -/
structure SamplesWithin (rate smax : Nat) (ticks : List RTick) : Prop where
  hi : ∀ tk ∈ ticks, tk.1 ≤ smax
  lo : ∀ tk ∈ ticks, smax ≤ tk.1 + TIMEOUT rate

theorem samplesWithin_nil (rate smax : Nat) : SamplesWithin rate smax [] :=
  ⟨(by intro tk h; cases h), (by intro tk h; cases h)⟩

theorem Forall₂.append {α β : Type} {R : α → β → Prop} {a1 a2 : List α} {b1 b2 : List β}
    (h1 : Forall₂ R a1 b1) (h2 : Forall₂ R a2 b2) : Forall₂ R (a1 ++ a2) (b1 ++ b2) := by
  induction h1 with
  | nil => exact h2
  | cons h _ ih => exact .cons h ih

theorem SamplesWithin.tail {rate smax : Nat} {tk : RTick} {ts : List RTick}
    (h : SamplesWithin rate smax (tk :: ts)) : SamplesWithin rate smax ts :=
  ⟨fun x hx => h.hi x (List.mem_cons_of_mem _ hx), fun x hx => h.lo x (List.mem_cons_of_mem _ hx)⟩

theorem noFire_init (smax : Nat) : NoFire smax {} := by
  intro T h; cases h

theorem tlCore_noforce (s : RState) (sample sym : Nat) (ls : LinkSt)
    (hnf : ∀ T, s.forceEomAt = some T → sample ≤ T) :
    tlCore s sample sym ls
      = match ls with
        | .burst b => ((stepOp s.asm (.burst b sym)).1, some (stepOp s.asm (.burst b sym)).2)
        | .noCarrier => ((stepOp s.asm (.poll sym)).1, some (stepOp s.asm (.poll sym)).2)
        | .searching => (s.asm, none)
        | .reading => (s.asm, none) := by
  cases ls with
  | searching => rfl
  | reading => rfl
  | burst b => rfl
  | noCarrier =>
    cases hf : s.forceEomAt with
    | none => simp [tlCore, hf, stepOp]
    | some T =>
      have := hnf T hf
      simp [tlCore, hf, stepOp, Nat.not_lt.mpr this]

theorem tlCore_asm (s : RState) (sample sym : Nat) (ls : LinkSt)
    (hnf : ∀ T, s.forceEomAt = some T → sample ≤ T) :
    (tlCore s sample sym ls).1 = (runOps s.asm (opOfTick (sample, sym, ls))).1 := by
  rw [tlCore_noforce s sample sym ls hnf]
  cases ls <;> rfl

theorem noFire_next (rate smax : Nat) (s : RState) (sample sym : Nat) (ls : LinkSt)
    (h : NoFire smax s) (hlo : smax ≤ sample + TIMEOUT rate) :
    NoFire smax (rNext rate s sample sym ls) := by
  intro T hT
  simp only [rNext] at hT
  generalize (tlCore s sample sym ls).2 = out at hT
  unfold forceAfter at hT
  split at hT
  · cases hT; exact hlo
  · cases hT
  · exact h T hT

theorem msgEvents_append (a b : List Event) : msgEvents (a ++ b) = msgEvents a ++ msgEvents b := by
  simp [msgEvents]

theorem msgEvents_linkEv (s : RState) (sample : Nat) (ls : LinkSt) : msgEvents (linkEv s sample ls) = [] := by
  unfold linkEv
  split <;> rfl

/-- a message answered by the assembler, other than EndOfMessage, is the pending result and so
    differs from the reported transport state: the change filter lets it through -/
theorem msg_out_ne_state (s : RState) (hinv : RInv s) (sample sym : Nat) (ls : LinkSt) (r : MsgResult)
    (hr : r ≠ .ok .eom) (hout : (tlCore s sample sym ls).2 = some (.message r)) :
    Transport.message r ≠ s.transportState := by
  rcases tlCore_cases s sample sym ls with ⟨h1, _⟩ | ⟨_, h1⟩ | ⟨_, ⟨_, h1⟩ | ⟨b, _, h1⟩⟩ <;> rw [h1] at hout
  · cases hout
  · simp only [Option.some.injEq, Transport.message.injEq] at hout
    exact absurd hout.symm hr
  · simp only [Option.some.injEq] at hout
    rcases aIdle_cases s.asm sym with ⟨t, h2, _, h3, _⟩ | ⟨_, h3, _⟩
    · rw [h3] at hout
      injection hout with hout
      rw [← hout]
      exact pending_ne_state s t h2 hinv.2.1 hinv.2.2
    · rcases h3 with h3 | h3 <;> rw [h3] at hout <;> cases hout
  · simp only [Option.some.injEq] at hout
    rcases (aAssemble_message s.asm b sym _ hout).2 with h2 | ⟨t, h2, _, h3⟩
    · exact absurd h2 hr
    · rw [← h3]
      exact pending_ne_state s t h2 hinv.2.1 hinv.2.2

/-- is this assembler output an EndOfMessage? -/
def isEomOut : Nat × MsgResult → Bool
  | (_, .ok .eom) => true
  | _ => false

/-- number of EndOfMessage outputs -/
def eomCount (os : List (Nat × MsgResult)) : Nat := (os.filter isEomOut).length

theorem eomCount_append (a b : List (Nat × MsgResult)) : eomCount (a ++ b) = eomCount a + eomCount b := by
  simp [eomCount]

theorem isEomOut_iff (o : Nat × MsgResult) : isEomOut o = true ↔ o.2 = .ok .eom := by
  obtain ⟨t, r⟩ := o
  cases r with
  | error e => simp [isEomOut]
  | ok m => cases m <;> simp [isEomOut]

theorem eomCount_eq_zero_iff (os : List (Nat × MsgResult)) :
    eomCount os = 0 ↔ ∀ o ∈ os, o.2 ≠ .ok .eom := by
  unfold eomCount
  rw [List.length_eq_zero_iff, List.filter_eq_nil_iff]
  simp only [isEomOut_iff, ne_eq]

theorem msgEvents_trEv (s : RState) (hinv : RInv s) (sample sym : Nat) (ls : LinkSt)
    (hne : (tlCore s sample sym ls).2 = some (.message (.ok .eom)) →
      s.transportState ≠ .message (.ok .eom)) :
    msgEvents (trEv s sample (tlCore s sample sym ls).2)
      = match (tlCore s sample sym ls).2 with
        | some (.message r) => [(sample, r)]
        | _ => [] := by
  cases hout : (tlCore s sample sym ls).2 with
  | none => rfl
  | some t =>
    cases t with
    | idle => simp only [trEv]; split <;> rfl
    | assembling => simp only [trEv]; split <;> rfl
    | message r =>
      have hn : Transport.message r ≠ s.transportState := by
        by_cases hr : r = .ok .eom
        · subst hr; exact fun h => hne hout h.symm
        · exact msg_out_ne_state s hinv sample sym ls r hr hout
      have hb : (Transport.message r).beq' s.transportState = false :=
        (Transport.beq'_false_iff _ _).2 hn
      simp [trEv, hb, msgEvents, msgOfEvent]

theorem opsOfTicks_cons (tk : RTick) (ts : List RTick) :
    opsOfTicks (tk :: ts) = opOfTick tk ++ opsOfTicks ts := by
  simp [opsOfTicks]

theorem opsOfTicks_append (a b : List RTick) : opsOfTicks (a ++ b) = opsOfTicks a ++ opsOfTicks b := by
  simp [opsOfTicks]

theorem run_asm (rate smax : Nat) (ticks : List RTick) : ∀ (s : RState), NoFire smax s →
    SamplesWithin rate smax ticks →
    (rRun rate s ticks).1.asm = (runOps s.asm (opsOfTicks ticks)).1 ∧ NoFire smax (rRun rate s ticks).1 := by
  induction ticks with
  | nil => intro s h _; exact ⟨rfl, h⟩
  | cons tk ts ih =>
    intro s hnf hsw
    obtain ⟨sample, sym, ls⟩ := tk
    have hhi := hsw.hi _ List.mem_cons_self
    have hlo := hsw.lo _ List.mem_cons_self
    simp only at hhi hlo
    have hnf' : ∀ T, s.forceEomAt = some T → sample ≤ T := fun T hT => Nat.le_trans hhi (hnf T hT)
    rw [rRun_cons, rTick_eq]
    simp only
    obtain ⟨i1, i2⟩ := ih (rNext rate s sample sym ls) (noFire_next rate smax s sample sym ls hnf hlo) hsw.tail
    refine ⟨?_, i2⟩
    rw [i1, opsOfTicks_cons, runOps_append_fst]
    simp only [rNext]
    rw [tlCore_asm s sample sym ls hnf']

/-- how a message event of the run corresponds to an output of the assembler run: same result,
    and the event's sample and the output's time are the sample and the symbol count of one tick -/
def Matches (ticks : List RTick) (e o : Nat × MsgResult) : Prop :=
  e.2 = o.2 ∧ ∃ ls, (e.1, o.1, ls) ∈ ticks

theorem Forall₂.imp {α β : Type} {R S : α → β → Prop} (h : ∀ a b, R a b → S a b) {as : List α}
    {bs : List β} (hf : Forall₂ R as bs) : Forall₂ S as bs := by
  induction hf with
  | nil => exact .nil
  | cons hr _ ih => exact .cons (h _ _ hr) ih

theorem forall2_matches_mono (a : List RTick) (b : List RTick) (h : ∀ x ∈ a, x ∈ b)
    (es os : List (Nat × MsgResult)) (hf : Forall₂ (Matches a) es os) :
    Forall₂ (Matches b) es os :=
  Forall₂.imp (fun _ _ ⟨h1, ls, h2⟩ => ⟨h1, ls, h _ h2⟩) hf

theorem tick_events (s : RState) (hinv : RInv s) (sample sym : Nat) (ls : LinkSt)
    (hnf : ∀ T, s.forceEomAt = some T → sample ≤ T)
    (hne : s.transportState = .message (.ok .eom) →
      eomCount (runOps s.asm (opOfTick (sample, sym, ls))).2 = 0) :
    Forall₂ (Matches [(sample, sym, ls)])
      (msgEvents (linkEv s sample ls ++ trEv s sample (tlCore s sample sym ls).2))
      (runOps s.asm (opOfTick (sample, sym, ls))).2 := by
  have hcore := tlCore_noforce s sample sym ls hnf
  have hne' : (tlCore s sample sym ls).2 = some (.message (.ok .eom)) →
      s.transportState ≠ .message (.ok .eom) := by
    intro hr hts
    have hz := (eomCount_eq_zero_iff _).1 (hne hts)
    rw [hcore] at hr
    cases ls with
    | searching => cases hr
    | reading => cases hr
    | burst b =>
      simp only [Option.some.injEq] at hr
      apply hz (sym, .ok .eom) _ rfl
      simp [opOfTick, runOps, hr, outOf, AOp.time]
    | noCarrier =>
      simp only [Option.some.injEq] at hr
      apply hz (sym, .ok .eom) _ rfl
      simp [opOfTick, runOps, hr, outOf, AOp.time]
  rw [msgEvents_append, msgEvents_linkEv, List.nil_append, msgEvents_trEv s hinv sample sym ls hne', hcore]
  cases ls with
  | searching => exact .nil
  | reading => exact .nil
  | burst b =>
    simp only [opOfTick, runOps, AOp.time, List.append_nil]
    cases (stepOp s.asm (.burst b sym)).2 with
    | idle => exact .nil
    | assembling => exact .nil
    | message r => exact .cons ⟨rfl, _, List.mem_singleton.2 rfl⟩ .nil
  | noCarrier =>
    simp only [opOfTick, runOps, AOp.time, List.append_nil]
    cases (stepOp s.asm (.poll sym)).2 with
    | idle => exact .nil
    | assembling => exact .nil
    | message r => exact .cons ⟨rfl, _, List.mem_singleton.2 rfl⟩ .nil

theorem next_state_not_eom (rate : Nat) (s : RState) (sample sym : Nat) (ls : LinkSt)
    (hnf : ∀ T, s.forceEomAt = some T → sample ≤ T)
    (hts : s.transportState ≠ .message (.ok .eom))
    (h0 : eomCount (runOps s.asm (opOfTick (sample, sym, ls))).2 = 0) :
    (rNext rate s sample sym ls).transportState ≠ .message (.ok .eom) := by
  have hcore := tlCore_noforce s sample sym ls hnf
  have hz := (eomCount_eq_zero_iff _).1 h0
  simp only [rNext]
  rw [hcore]
  cases ls with
  | searching => exact hts
  | reading => exact hts
  | burst b =>
    simp only
    intro heq
    apply hz (sym, .ok .eom) _ rfl
    simp [opOfTick, runOps, heq, outOf, AOp.time]
  | noCarrier =>
    simp only
    intro heq
    apply hz (sym, .ok .eom) _ rfl
    simp [opOfTick, runOps, heq, outOf, AOp.time]

/-- The two hypotheses on EndOfMessage outputs are what makes the correspondence exact: a
    StartOfMessage or an error always comes out of the pending slot and differs from the reported
    transport state, whereas an EndOfMessage answered while the reported state already is
    EndOfMessage produces no event (`C04rx.eom_event_tick`).  Each event carries the sample of the
    tick whose operation (identified by its symbol count) produced the output. -/
theorem run_events (rate smax : Nat) (ticks : List RTick) : ∀ (s : RState), RInv s → NoFire smax s →
    SamplesWithin rate smax ticks →
    eomCount (runOps s.asm (opsOfTicks ticks)).2 ≤ 1 →
    (s.transportState = .message (.ok .eom) → eomCount (runOps s.asm (opsOfTicks ticks)).2 = 0) →
    Forall₂ (Matches ticks) (msgEvents (rRun rate s ticks).2) (runOps s.asm (opsOfTicks ticks)).2 := by
  induction ticks with
  | nil => intro s _ _ _ _ _; exact .nil
  | cons tk ts ih =>
    intro s hinv hnf hsw hone hzero
    obtain ⟨sample, sym, ls⟩ := tk
    have hhi := hsw.hi _ List.mem_cons_self
    have hlo := hsw.lo _ List.mem_cons_self
    simp only at hhi hlo
    have hnf' : ∀ T, s.forceEomAt = some T → sample ≤ T := fun T hT => Nat.le_trans hhi (hnf T hT)
    rw [opsOfTicks_cons, runOps_append_snd, eomCount_append] at hone hzero
    have hasm : (rNext rate s sample sym ls).asm = (runOps s.asm (opOfTick (sample, sym, ls))).1 := by
      simp only [rNext]; exact tlCore_asm s sample sym ls hnf'
    rw [rRun_cons, rTick_eq, opsOfTicks_cons, runOps_append_snd]
    simp only
    rw [msgEvents_append]
    apply Forall₂.append
    · apply forall2_matches_mono [(sample, sym, ls)] _ (by simp)
      refine tick_events s hinv sample sym ls hnf' (fun hts => ?_)
      have := hzero hts
      omega
    · apply forall2_matches_mono ts _ (fun x hx => List.mem_cons_of_mem _ hx)
      rw [← hasm] at hone hzero ⊢
      apply ih _ (rInv_next rate s sample sym ls hinv) (noFire_next rate smax s sample sym ls hnf hlo)
        hsw.tail (by omega)
      -- an EndOfMessage output of this tick uses up the allowance; without one the reported state
      -- becomes EndOfMessage only if it was
      intro hnext
      by_cases h0 : eomCount (runOps s.asm (opOfTick (sample, sym, ls))).2 = 0
      · by_cases hts : s.transportState = .message (.ok .eom)
        · have := hzero hts
          omega
        · exact absurd hnext (next_state_not_eom rate s sample sym ls hnf' hts h0)
      · omega

theorem forall2_matches_results (ticks : List RTick) (es os : List (Nat × MsgResult))
    (h : Forall₂ (Matches ticks) es os) : es.map (·.2) = os.map (·.2) := by
  induction h with
  | nil => rfl
  | cons hm _ ih => simp only [List.map_cons, hm.1, ih]

theorem forall2_singleton {α β : Type} {R : α → β → Prop} {es : List α} {o : β}
    (h : Forall₂ R es [o]) : ∃ e, es = [e] ∧ R e o := by
  cases h with
  | cons hr ht => cases ht; exact ⟨_, rfl, hr⟩

theorem forall2_pair {α β : Type} {R : α → β → Prop} {es : List α} {o1 o2 : β}
    (h : Forall₂ R es [o1, o2]) : ∃ e1 e2, es = [e1, e2] ∧ R e1 o1 ∧ R e2 o2 := by
  cases h with
  | cons hr ht =>
    cases ht with
    | cons hr2 ht2 => cases ht2; exact ⟨_, _, rfl, hr, hr2⟩


end SameVerif.Chain
