import SameVerif.Lemmas.ChainOps
import SameVerif.Thm.TransportFull
import SameVerif.Lemmas.StreamLink2
/-
  The composition link model → receiver glue → assembler, with the timing (property C08 at model
  level, in symbol ticks); every chain theorem of `Thm/Chain*.lean` is an instance.

  * `TailsNoDash`: the condition on the link-layer tails under which the transport layer
    (`C02.three_bursts_left`) reports the header;
  * `TimedFull`, `TimedOnce`: the conclusions — which ticks report the bursts, which tick's sample
    the StartOfMessage (and EndOfMessage) event carries;
  * `full_of_split`, `decoded_of_split`: from the link model's per-tick output cut at its bursts,
    the header part (`header_of_split`, over `C02.three_bursts_left`) common to both;
  * `transmission_full_timed`, `transmission_decoded_timed`: from segments delivered with the
    timing (`DeliversT`), however that was established.
-/
namespace SameVerif.Chain
open SameVerif SameVerif.Spec SameVerif.Asm SameVerif.Full

/-- the vote over the tails, wherever two or more of them have a byte, is never `-` — the
    conditions `hd2`, `hd3` of `C02.three_bursts_report_tails` (they can fail: F7,
    `C02.tail_extension_witness`) -/
def TailsNoDash (H t1 t2 t3 : List Byte) : Prop :=
  (∀ e ∈ estimateLoop (MAXLEN - H.length) [t1, t2], 2 ≤ e.nbursts → e.byte ≠ 45)
    ∧ (∀ e ∈ estimateLoop (MAXLEN - H.length) [t1, t2, t3], 2 ≤ e.nbursts → e.byte ≠ 45)

theorem tailsNoDash_nil (H : List Byte) : TailsNoDash H [] [] [] := by
  constructor
  · rw [estimateLoop_nils2]; intro e he; cases he
  · rw [estimateLoop_nils3]; intro e he; cases he

/-- the conclusion of the latency theorems.  `L`: the link model's per-tick output.  The second
    and third header burst and the first and second trailer burst are reported at ticks `b2 b3 b4
    b5` within the given windows; from tick `c3` (the adjusting sync hit of the third header burst)
    to `b3` the link is busy (no `.noCarrier`); exactly two message events:
    * StartOfMessage (text exactly `H`) carrying the sample of tick `i`, where EITHER `i` is a
      `.noCarrier` tick with `b2 + HOLD ≤ i < b3` (`voting = 0`), OR there is no such tick and
      `i = b3 + HOLD` (`voting = |H|`);
    * EndOfMessage carrying the sample of tick `j`, the tick of the second trailer burst if the
      first comes less than a history time after the third header burst, else of the first. -/
def TimedFull (evs : List Event) (samples : Nat → Nat) (L : List LinkSt) (H : List Byte) (off : Nat)
    (lo2 hi2 c3 lo3 hi3 lo4 hi4 lo5 hi5 : Nat) : Prop :=
  ∃ b2 b3 b4 b5 i j h t2 t3 x1 x2,
    (lo2 ≤ b2 ∧ b2 ≤ hi2 ∧ L[b2]? = some (.burst (H ++ t2)))
    ∧ (lo3 ≤ b3 ∧ b3 ≤ hi3 ∧ L[b3]? = some (.burst (H ++ t3)))
    ∧ (∀ k, c3 ≤ k → k < b3 → L[k]? ≠ some .noCarrier)
    ∧ (lo4 ≤ b4 ∧ b4 ≤ hi4 ∧ L[b4]? = some (.burst (litNNNN ++ x1)))
    ∧ (lo5 ≤ b5 ∧ b5 ≤ hi5 ∧ L[b5]? = some (.burst (litNNNN ++ x2)))
    ∧ msgEvents evs = [(samples i, .ok (.som h)), (samples j, .ok .eom)]
    ∧ h.text = H ∧ h.offsetTime = off ∧ h.parity = 0
    ∧ j = (if b4 < b3 + HIST then b5 else b4)
    ∧ ((h.voting = 0 ∧ b2 + HOLD ≤ i ∧ i < b3 ∧ L[i]? = some .noCarrier)
      ∨ (h.voting = H.length ∧ i = b3 + HOLD
          ∧ ∀ k, b2 + HOLD ≤ k → k < b3 → L[k]? ≠ some .noCarrier))

theorem TimedFull.mono {evs : List Event} {samples : Nat → Nat} {L : List LinkSt} {H : List Byte}
    {off lo2 hi2 c3 lo3 hi3 lo4 hi4 lo5 hi5 lo2' hi2' c3' lo3' hi3' lo4' hi4' lo5' hi5' : Nat}
    (h : TimedFull evs samples L H off lo2 hi2 c3 lo3 hi3 lo4 hi4 lo5 hi5)
    (a2 : lo2' ≤ lo2) (c2 : hi2 ≤ hi2') (cc : c3 ≤ c3') (a3 : lo3' ≤ lo3) (c3 : hi3 ≤ hi3')
    (a4 : lo4' ≤ lo4) (c4 : hi4 ≤ hi4') (a5 : lo5' ≤ lo5) (c5 : hi5 ≤ hi5') :
    TimedFull evs samples L H off lo2' hi2' c3' lo3' hi3' lo4' hi4' lo5' hi5' := by
  obtain ⟨b2, b3, b4, b5, i, j, hh, t2, t3, x1, x2, ⟨p1, p2, p3⟩, ⟨q1, q2, q3⟩, hbusy, ⟨r1, r2, r3⟩,
    ⟨s1, s2, s3⟩, rest⟩ := h
  exact ⟨b2, b3, b4, b5, i, j, hh, t2, t3, x1, x2, ⟨by omega, by omega, p3⟩, ⟨by omega, by omega, q3⟩,
    fun k hk1 hk2 => hbusy k (by omega) hk2,
    ⟨by omega, by omega, r3⟩, ⟨by omega, by omega, s3⟩, rest⟩

/-- the conclusion of the header-only latency theorems: exactly one message event, the
    StartOfMessage (clauses as in `TimedFull`) -/
def TimedOnce (evs : List Event) (samples : Nat → Nat) (L : List LinkSt) (H : List Byte) (off : Nat)
    (lo2 hi2 c3 lo3 hi3 : Nat) : Prop :=
  ∃ b2 b3 i h t2 t3,
    (lo2 ≤ b2 ∧ b2 ≤ hi2 ∧ L[b2]? = some (.burst (H ++ t2)))
    ∧ (lo3 ≤ b3 ∧ b3 ≤ hi3 ∧ L[b3]? = some (.burst (H ++ t3)))
    ∧ (∀ k, c3 ≤ k → k < b3 → L[k]? ≠ some .noCarrier)
    ∧ msgEvents evs = [(samples i, .ok (.som h))]
    ∧ h.text = H ∧ h.offsetTime = off ∧ h.parity = 0
    ∧ ((h.voting = 0 ∧ b2 + HOLD ≤ i ∧ i < b3 ∧ L[i]? = some .noCarrier)
      ∨ (h.voting = H.length ∧ i = b3 + HOLD
          ∧ ∀ k, b2 + HOLD ≤ k → k < b3 → L[k]? ≠ some .noCarrier))

theorem TimedOnce.mono {evs : List Event} {samples : Nat → Nat} {L : List LinkSt} {H : List Byte}
    {off lo2 hi2 c3 lo3 hi3 lo2' hi2' c3' lo3' hi3' : Nat}
    (h : TimedOnce evs samples L H off lo2 hi2 c3 lo3 hi3)
    (a2 : lo2' ≤ lo2) (c2 : hi2 ≤ hi2') (cc : c3 ≤ c3') (a3 : lo3' ≤ lo3) (c3 : hi3 ≤ hi3') :
    TimedOnce evs samples L H off lo2' hi2' c3' lo3' hi3' := by
  obtain ⟨b2, b3, i, hh, t2, t3, ⟨p1, p2, p3⟩, ⟨q1, q2, q3⟩, hbusy, rest⟩ := h
  exact ⟨b2, b3, i, hh, t2, t3, ⟨by omega, by omega, p3⟩, ⟨by omega, by omega, q3⟩,
    fun k hk1 hk2 => hbusy k (by omega) hk2, rest⟩

/-- the clauses of `TimedFull`/`TimedOnce` about the StartOfMessage tick `i` (`v`: the voting count,
    `n = |H|`), read together with the busy clause: `b2 + HOLD ≤ i ≤ b3 + HOLD`; and when the link
    is already busy with the third burst when the hold of the second could first expire
    (`c3 ≤ lo2 + HOLD`) a two-burst release is excluded -/
theorem som_tick {L : List LinkSt} {v n i b2 b3 c3 lo2 : Nat}
    (hi : (v = 0 ∧ b2 + HOLD ≤ i ∧ i < b3 ∧ L[i]? = some .noCarrier)
      ∨ (v = n ∧ i = b3 + HOLD ∧ ∀ k, b2 + HOLD ≤ k → k < b3 → L[k]? ≠ some .noCarrier))
    (hbusy : ∀ k, c3 ≤ k → k < b3 → L[k]? ≠ some .noCarrier) (p1 : lo2 ≤ b2) :
    (v = 0 ∨ v = n) ∧ ((b2 + HOLD ≤ i ∧ i < b3) ∨ i = b3 + HOLD)
      ∧ (c3 ≤ lo2 + HOLD → v = n ∧ i = b3 + HOLD) := by
  rcases hi with ⟨hv, i1, i2, i3⟩ | ⟨hv, i1, _⟩
  · exact ⟨Or.inl hv, Or.inl ⟨i1, i2⟩, fun hc => absurd i3 (hbusy i (by omega) i2)⟩
  · exact ⟨Or.inr hv, Or.inr i1, fun _ => ⟨hv, i1⟩⟩

/-- the windows of `TimedOnce` counted within the segments (`t_k` ticks long, lead-in `l_k`, body
    `b_k`) are the windows in ticks of the whole run when the segments follow one another: segment
    `k` begins at tick `s_(k-1)`, its body at `o_k`, its tail at `e_k` -/
theorem TimedOnce.of_windows {evs : List Event} {samples : Nat → Nat} {L : List LinkSt} {H : List Byte}
    {off t1 t2 l2 b2 r2 l3 b3 r3 q3 s1 s2 o2 e2 o3 e3 : Nat}
    (h : TimedOnce evs samples L H off (t1 + (l2 + b2 + 31)) (t1 + (l2 + b2 + r2 + 31))
      (t1 + t2 + (l3 + q3)) (t1 + t2 + (l3 + b3 + 31)) (t1 + t2 + (l3 + b3 + r3 + 31)))
    (S1 : 0 + t1 = s1) (S2 : s1 + t2 = s2)
    (A2 : s1 + l2 = o2) (B2 : o2 + b2 = e2) (A3 : s2 + l3 = o3) (B3 : o3 + b3 = e3) :
    TimedOnce evs samples L H off (e2 + 31) (e2 + r2 + 31) (o3 + q3) (e3 + 31) (e3 + r3 + 31) := by
  refine h.mono ?_ ?_ ?_ ?_ ?_ <;> omega

theorem TimedFull.of_windows {evs : List Event} {samples : Nat → Nat} {L : List LinkSt} {H : List Byte}
    {off t1 t2 t3 t4 l2 b2 r2 l3 b3 r3 q3 l4 b4 r4 l5 b5 r5 s1 s2 s3 s4 o2 e2 o3 e3 o4 e4 o5 e5 : Nat}
    (h : TimedFull evs samples L H off (t1 + (l2 + b2 + 31)) (t1 + (l2 + b2 + r2 + 31))
      (t1 + t2 + (l3 + q3)) (t1 + t2 + (l3 + b3 + 31)) (t1 + t2 + (l3 + b3 + r3 + 31))
      (t1 + t2 + t3 + (l4 + b4 + 31)) (t1 + t2 + t3 + (l4 + b4 + r4 + 31))
      (t1 + t2 + t3 + t4 + (l5 + b5 + 31)) (t1 + t2 + t3 + t4 + (l5 + b5 + r5 + 31)))
    (S1 : 0 + t1 = s1) (S2 : s1 + t2 = s2) (S3 : s2 + t3 = s3) (S4 : s3 + t4 = s4)
    (A2 : s1 + l2 = o2) (B2 : o2 + b2 = e2) (A3 : s2 + l3 = o3) (B3 : o3 + b3 = e3)
    (A4 : s3 + l4 = o4) (B4 : o4 + b4 = e4) (A5 : s4 + l5 = o5) (B5 : o5 + b5 = e5) :
    TimedFull evs samples L H off (e2 + 31) (e2 + r2 + 31) (o3 + q3) (e3 + 31) (e3 + r3 + 31)
      (e4 + 31) (e4 + r4 + 31) (e5 + 31) (e5 + r5 + 31) := by
  refine h.mono ?_ ?_ ?_ ?_ ?_ ?_ ?_ ?_ ?_ <;> omega

/-- three consecutive segments from the end of the first body (`e1`) to the end of the third (`s3`) -/
theorem span_le {u1 t2 t3 e1 r1 s1 s2 s3 : Nat} (U1 : u1 = r1 + 40) (hs1 : s1 = e1 + (r1 + 40))
    (S2 : s1 + t2 = s2) (S3 : s2 + t3 = s3) (h : s3 ≤ e1 + HIST) : u1 + t2 + t3 ≤ HIST := by
  omega

/-! ## from the link model's output cut at its bursts -/

theorem split_at_getElem? (P : List LinkSt) (k : Nat) (x : LinkSt) (h : P[k]? = some x) (n : NoBurst P) :
    ∃ A B, P = A ++ x :: B ∧ A.length = k ∧ NoBurst A ∧ NoBurst B := by
  obtain ⟨hk, rfl⟩ := List.getElem?_eq_some_iff.1 h
  have hP : P = P.take k ++ P[k] :: P.drop (k + 1) := by
    rw [← List.drop_eq_getElem_cons hk, List.take_append_drop]
  refine ⟨P.take k, P.drop (k + 1), hP, by rw [List.length_take]; omega, ?_, ?_⟩
  · exact fun ls hls => n ls (by rw [hP]; exact List.mem_append_left _ hls)
  · exact fun ls hls => n ls (by rw [hP]; exact List.mem_append_right _ (List.mem_cons_of_mem _ hls))

theorem mem_pollsAt_mid (sym0 : Nat) (A : List LinkSt) (x : LinkSt) (P R : List LinkSt) (i : Nat) :
    sym0 + 1 + i ∈ pollsAt sym0 (A.length + 1) P
      ↔ A.length + 1 ≤ i ∧ i < A.length + 1 + P.length ∧ (A ++ x :: (P ++ R))[i]? = some .noCarrier := by
  rw [mem_pollsAt]
  constructor
  · rintro ⟨k, hk, hik⟩
    have hkl := (List.getElem?_eq_some_iff.1 hk).1
    obtain rfl : i = A.length + 1 + k := by omega
    exact ⟨by omega, by omega, by rw [getElem?_skip, List.getElem?_append_left hkl]; exact hk⟩
  · rintro ⟨h1, h2, h3⟩
    obtain ⟨k, rfl⟩ : ∃ k, i = A.length + 1 + k := ⟨i - (A.length + 1), by omega⟩
    rw [getElem?_skip, List.getElem?_append_left (by omega)] at h3
    exact ⟨k, h3, by omega⟩

/-- **the release tick, by position.**  `L` cut at the second and third header burst (ticks `b2`,
    `b3`); the stretch after the third begins with `HOLD - 1` burst-free ticks `P3` and then a
    `.noCarrier` tick.  `hbr`, `hlo`: what `C02.three_bursts_left` says about the released header
    `h` and the releasing operation's time `sym0 + 1 + i`, the polls being those of the
    `.noCarrier` ticks.  Then tick `i` is EITHER a `.noCarrier` tick with `b2 + HOLD ≤ i < b3`, OR
    there is no such tick and `i = b3 + HOLD`. -/
theorem release_tick (sym0 : Nat) (A P2 P3 R L : List LinkSt) (x y : LinkSt)
    (hL : L = A ++ x :: (P2 ++ y :: (P3 ++ .noCarrier :: R)))
    (b2 b3 : Nat) (hb2 : b2 = A.length) (hb3 : b3 = b2 + 1 + P2.length) (hP3 : P3.length + 1 = HOLD)
    (i off : Nat) (H : List Byte) (h : Header)
    (hbr : (h = ⟨H, off, 0, 0⟩ ∧ sym0 + 1 + i ∈ pollsAt sym0 (b2 + 1) P2)
      ∨ (h = ⟨H, off, 0, H.length⟩
          ∧ sym0 + 1 + i ∈ pollsAt sym0 (b3 + 1) P3 ++ [sym0 + 1 + (b3 + HOLD)]
          ∧ sym0 + 1 + b3 + HOLD ≤ sym0 + 1 + i
          ∧ ∀ w ∈ pollsAt sym0 (b2 + 1) P2, w < sym0 + 1 + b2 + HOLD))
    (hlo : sym0 + 1 + b2 + HOLD ≤ sym0 + 1 + i) :
    h.text = H ∧ h.offsetTime = off ∧ h.parity = 0
      ∧ ((h.voting = 0 ∧ b2 + HOLD ≤ i ∧ i < b3 ∧ L[i]? = some .noCarrier)
        ∨ (h.voting = H.length ∧ i = b3 + HOLD
            ∧ ∀ k, b2 + HOLD ≤ k → k < b3 → L[k]? ≠ some .noCarrier)) := by
  subst hb2
  rcases hbr with ⟨rfl, hmem⟩ | ⟨rfl, hmem, hlo3, hnone⟩
  · obtain ⟨_, h2, h3⟩ := (mem_pollsAt_mid sym0 A x P2 _ i).1 hmem
    exact ⟨rfl, rfl, rfl, Or.inl ⟨rfl, by omega, by omega, by rw [hL]; exact h3⟩⟩
  · refine ⟨rfl, rfl, rfl, Or.inr ⟨rfl, ?_, ?_⟩⟩
    · rcases List.mem_append.1 hmem with hm | hm
      · obtain ⟨k, hk, huk⟩ := (mem_pollsAt sym0 P3 (b3 + 1) _).1 hm
        have := (List.getElem?_eq_some_iff.1 hk).1
        omega
      · have := List.mem_singleton.1 hm
        omega
    · intro k hk1 hk2 hnc
      rw [hL] at hnc
      have := hnone _ ((mem_pollsAt_mid sym0 A x P2 _ k).2 ⟨by omega, by omega, hnc⟩)
      omega

/-- **The header part of a run cut at its bursts.**  The link model's per-tick output `L` begins
    with burst-free stretches `P0 P1 P2` around three bursts of `H` (ticks `b1 b2 b3`, within one
    history time); after the third come `HOLD - 1` burst-free ticks `A`, a `.noCarrier` tick (the
    poll that releases the StartOfMessage at the latest) and any rest `R`.  The operations up to
    that tick are a `headerOps` schedule after the polls of `P0`, which leave the initial state's
    history, pending and previous report untouched; the schedule outputs exactly the
    StartOfMessage and holds nothing afterwards; the releasing operation is that of the tick
    `TimedFull` names. -/
theorem header_of_split (samples : Nat → Nat) (sym0 : Nat) (H : List Byte) (off : Nat)
    (hcan : checkHeader H = some (off, H.length))
    (hall : ∀ b ∈ H, isAllowed b = true)
    (hfit : H.length ≤ MAXLEN)
    (t1 t2 t3 : List Byte) (P0 P1 P2 A R : List LinkSt)
    (n0 : NoBurst P0) (n1 : NoBurst P1) (n2 : NoBurst P2) (nA : NoBurst A)
    (b1 b2 b3 : Nat)
    (hb1 : b1 = P0.length) (hb2 : b2 = b1 + 1 + P1.length) (hb3 : b3 = b2 + 1 + P2.length)
    (hA : A.length + 1 = HOLD)
    (L : List LinkSt)
    (hL : L = P0 ++ .burst (H ++ t1) :: (P1 ++ .burst (H ++ t2) :: (P2 ++ .burst (H ++ t3) ::
      (A ++ .noCarrier :: R))))
    (hspanH : b3 < b1 + HIST) (htd : TailsNoDash H t1 t2 t3) :
    let S := (runOps {} ((pollsAt sym0 0 P0).map .poll)).1
    let ops := headerOps H t1 t2 t3 (sym0 + 1 + b1) (sym0 + 1 + b2) (sym0 + 1 + b3)
      (sym0 + 1 + (b3 + HOLD)) (pollsAt sym0 (b1 + 1) P1) (pollsAt sym0 (b2 + 1) P2)
      (pollsAt sym0 (b3 + 1) A)
    opsAt samples sym0 0 L
        = (pollsAt sym0 0 P0).map .poll ++ (ops ++ opsAt samples sym0 (b3 + HOLD + 1) R)
      ∧ (runOps {} ((pollsAt sym0 0 P0).map .poll)).2 = []
      ∧ S.history = [] ∧ S.pending = none ∧ (∀ p, S.previous = some p → p.data.text ≠ H)
      ∧ L[b2]? = some (.burst (H ++ t2)) ∧ L[b3]? = some (.burst (H ++ t3))
      ∧ ∃ u h, (runOps S ops).2 = [(u, .ok (.som h))] ∧ (runOps S ops).1.pending = none
        ∧ ∀ i, u = sym0 + 1 + i → h.text = H ∧ h.offsetTime = off ∧ h.parity = 0
          ∧ ((h.voting = 0 ∧ b2 + HOLD ≤ i ∧ i < b3 ∧ L[i]? = some .noCarrier)
            ∨ (h.voting = H.length ∧ i = b3 + HOLD
                ∧ ∀ k, b2 + HOLD ≤ k → k < b3 → L[k]? ≠ some .noCarrier)) := by
  have hHOLD := HOLD_pos
  intro S ops
  have hcut : opsAt samples sym0 0 L
      = (pollsAt sym0 0 P0).map .poll ++ (headerOps H t1 t2 t3 (sym0 + 1 + b1) (sym0 + 1 + b2)
            (sym0 + 1 + b3) (sym0 + 1 + (b3 + HOLD))
            (pollsAt sym0 (b1 + 1) P1) (pollsAt sym0 (b2 + 1) P2) (pollsAt sym0 (b3 + 1) A)
          ++ opsAt samples sym0 (b3 + HOLD + 1) R) := by
    rw [hL, opsAt_cut _ _ _ _ _ _ n0, opsAt_cut _ _ _ _ _ _ n1, opsAt_cut _ _ _ _ _ _ n2,
      opsAt_cut _ _ _ _ _ _ nA]
    simp only [Nat.zero_add]
    rw [← hb1, ← hb2, ← hb3, show b3 + 1 + A.length = b3 + HOLD by omega]
    unfold headerOps
    simp only [opOfTick, List.append_assoc, List.cons_append, List.nil_append]
  have hsorted := opsAt_sorted samples sym0 L 0
  rw [hcut] at hsorted
  obtain ⟨hsH, _, _⟩ := sorted_append _ _ (sorted_append _ _ hsorted).2.1
  obtain ⟨h12, h23, hp1, hp2, hrest⟩ := sorted_three _ _ _ _ _ _ _ _ _ hsH
  obtain ⟨z1, z2, z3, z4⟩ := run_polls_init (pollsAt sym0 0 P0)
  have hprev : ∀ p, (runOps {} ((pollsAt sym0 0 P0).map .poll)).1.previous = some p → p.data.text ≠ H := by
    intro p hp; rw [z4] at hp; cases hp
  obtain ⟨u, h, hc, hu, hout, hleft⟩ := C02.three_bursts_left _ H t1 t2 t3 off
    (sym0 + 1 + b1) (sym0 + 1 + b2) (sym0 + 1 + b3) (sym0 + 1 + (b3 + HOLD))
    (pollsAt sym0 (b1 + 1) P1) (pollsAt sym0 (b2 + 1) P2) (pollsAt sym0 (b3 + 1) A)
    hall hcan hfit htd.1 htd.2 z2 z3 hprev h12 h23 (by omega) hp1 hp2 (by omega)
  have hLm : L = (P0 ++ .burst (H ++ t1) :: P1) ++ .burst (H ++ t2) :: (P2 ++ .burst (H ++ t3) ::
      (A ++ .noCarrier :: R)) := by
    rw [hL]; simp only [List.append_assoc, List.cons_append]
  refine ⟨hcut, z1, z2, z3, hprev, ?_, ?_, u, h, hout,
    (hleft _ (polls_snoc_le _ _ _ (sorted_polls_last _ _ hrest) (Nat.le_refl _))).pending, ?_⟩
  · rw [hL, show b2 = P0.length + 1 + P1.length by omega, getElem?_skip, getElem?_at]
  · rw [hL, show b3 = P0.length + 1 + (P1.length + 1 + P2.length) by omega, getElem?_skip,
      getElem?_skip, getElem?_at]
  · rintro i rfl
    exact release_tick sym0 _ P2 A R L _ _ hLm b2 b3
      (by rw [List.length_append, List.length_cons]; omega) hb3 hA i off H h hc hu

/-- **The chain on a run cut at its six bursts.**  The link model's per-tick output `L`:
    burst-free stretches `P0 … P6` around three bursts of `H` (ticks `b1 b2 b3`) and three of
    `NNNN` (ticks `b4 b5 b6`); tick `HOLD - 1` of the stretch between the third header burst and
    the first trailer burst is `.noCarrier` (the poll that releases the StartOfMessage before the
    trailer arrives); from tick `c3` to `b3` no `.noCarrier`.  Timing: each group of three within
    one history time. -/
theorem full_of_split (rate sym0 smax : Nat) (samples : Nat → Nat) (H : List Byte) (off : Nat)
    (hcan : checkHeader H = some (off, H.length))
    (hall : ∀ b ∈ H, isAllowed b = true)
    (hfit : H.length ≤ MAXLEN)
    (t1 t2 t3 x1 x2 x3 : List Byte) (P0 P1 P2 P3 P4 P5 P6 : List LinkSt)
    (n0 : NoBurst P0) (n1 : NoBurst P1) (n2 : NoBurst P2) (n3 : NoBurst P3)
    (n4 : NoBurst P4) (n5 : NoBurst P5) (n6 : NoBurst P6)
    (b1 b2 b3 b4 b5 b6 : Nat)
    (hb1 : b1 = P0.length) (hb2 : b2 = b1 + 1 + P1.length) (hb3 : b3 = b2 + 1 + P2.length)
    (hb4 : b4 = b3 + 1 + P3.length) (hb5 : b5 = b4 + 1 + P4.length) (hb6 : b6 = b5 + 1 + P5.length)
    (L : List LinkSt)
    (hL : L = P0 ++ .burst (H ++ t1) :: (P1 ++ .burst (H ++ t2) :: (P2 ++ .burst (H ++ t3) ::
      (P3 ++ .burst (litNNNN ++ x1) :: (P4 ++ .burst (litNNNN ++ x2) ::
      (P5 ++ .burst (litNNNN ++ x3) :: P6))))))
    (hnc : P3[HOLD - 1]? = some .noCarrier)
    (c3 : Nat) (hbusy : ∀ k, c3 ≤ k → k < b3 → L[k]? ≠ some .noCarrier)
    (hspanH : b3 < b1 + HIST) (hspanT : b6 < b4 + HIST)
    (htd : TailsNoDash H t1 t2 t3) (hshort : x1.length + 4 ≤ H.length)
    (hsamp : ∀ i, i < L.length → samples i ≤ smax ∧ smax ≤ samples i + TIMEOUT rate) :
    TimedFull (rRun rate {} (mkTicks samples sym0 0 L)).2 samples L H off b2 b2 c3 b3 b3 b4 b4 b5 b5 := by
  have hHOLD := HOLD_pos
  obtain ⟨A, B, hAB, hA, nA, nB⟩ := split_at_getElem? P3 (HOLD - 1) _ hnc n3
  have lP3 : P3.length = A.length + 1 + B.length := by
    rw [hAB, List.length_append, List.length_cons]; omega
  obtain ⟨hops, z1, z2, z3, z4, hg2, hg3, u, h, hout, _, hrel⟩ := header_of_split samples sym0 H off
    hcan hall hfit t1 t2 t3 P0 P1 P2 A (B ++ .burst (litNNNN ++ x1) :: (P4 ++ .burst (litNNNN ++ x2) ::
      (P5 ++ .burst (litNNNN ++ x3) :: P6))) n0 n1 n2 nA b1 b2 b3 hb1 hb2 hb3 (by omega) L
    (by rw [hL, hAB]; simp only [List.append_assoc, List.cons_append]) hspanH htd
  have htr : opsAt samples sym0 (b3 + HOLD + 1) (B ++ .burst (litNNNN ++ x1) ::
        (P4 ++ .burst (litNNNN ++ x2) :: (P5 ++ .burst (litNNNN ++ x3) :: P6)))
      = trailerOps x1 x2 x3 (sym0 + 1 + b4) (sym0 + 1 + b5) (sym0 + 1 + b6)
          (pollsAt sym0 (b3 + HOLD + 1) B) (pollsAt sym0 (b4 + 1) P4) (pollsAt sym0 (b5 + 1) P5)
          (pollsAt sym0 (b6 + 1) P6) := by
    rw [opsAt_cut _ _ _ _ _ _ nB, opsAt_cut _ _ _ _ _ _ n4, opsAt_cut _ _ _ _ _ _ n5,
      opsAt_pollsAt _ _ _ n6, show b3 + HOLD + 1 + B.length = b4 by omega, ← hb5, ← hb6]
    unfold trailerOps
    simp only [opOfTick, List.cons_append, List.nil_append]
  rw [htr] at hops
  have hsorted := opsAt_sorted samples sym0 L 0
  rw [hops] at hsorted
  obtain ⟨u', v, h', hres, _, _, _, _, _, _, _, _, hv⟩ :=
    full_transmission (runOps {} ((pollsAt sym0 0 P0).map .poll)).1 H t1 t2 t3 x1 x2 x3 off
      (sym0 + 1 + b1) (sym0 + 1 + b2) (sym0 + 1 + b3) (sym0 + 1 + (b3 + HOLD)) (sym0 + 1 + b4)
      (sym0 + 1 + b5) (sym0 + 1 + b6) _ _ _ _ _ _ _
      hall hcan hfit htd.1 htd.2 (fun _ => trailer_tail_cond H t1 t2 t3 x1 hshort htd.2)
      z2 z3 z4 (sorted_append _ _ hsorted).2.1 (by omega) (by omega) (by omega)
  -- its first output is that of the header part
  have hhead := hres
  rw [runOps_append_snd, hout, List.singleton_append] at hhead
  injection hhead with hhead _
  cases hhead
  have hrun : (runOps {} (opsAt samples sym0 0 L)).2
      = [(u, .ok (.som h)), (eomTick (sym0 + 1 + b3) (sym0 + 1 + b4) (sym0 + 1 + b5), .ok .eom)] := by
    rw [hops, runOps_append_snd, z1, List.nil_append, hres, hv]
  -- the receiver run
  have hev := chain_events rate sym0 smax samples L hsamp (by rw [hrun]; exact Nat.le_refl 1)
  rw [hrun] at hev
  obtain ⟨_, _, he, ⟨i, _, rfl, hi⟩, ⟨j, _, rfl, hj⟩⟩ := forall2_pair hev
  obtain ⟨hx1, hx2, hx3, hr⟩ := hrel i hi
  refine ⟨b2, b3, b4, b5, i, j, h, t2, t3, x1, x2, ⟨Nat.le_refl _, Nat.le_refl _, hg2⟩,
    ⟨Nat.le_refl _, Nat.le_refl _, hg3⟩, hbusy, ⟨Nat.le_refl _, Nat.le_refl _, ?_⟩,
    ⟨Nat.le_refl _, Nat.le_refl _, ?_⟩, he, hx1, hx2, hx3, ?_, hr⟩
  · rw [hL, show b4 = P0.length + 1 + (P1.length + 1 + (P2.length + 1 + P3.length)) by omega,
      getElem?_skip, getElem?_skip, getElem?_skip, getElem?_at]
  · rw [hL, show b5 = P0.length + 1 + (P1.length + 1 + (P2.length + 1 + (P3.length + 1 + P4.length)))
      by omega, getElem?_skip, getElem?_skip, getElem?_skip, getElem?_skip, getElem?_at]
  · simp only [eomTick] at hj
    by_cases hz : b4 < b3 + HIST
    · rw [if_pos (by omega)] at hj; rw [if_pos hz]; omega
    · rw [if_neg (by omega)] at hj; rw [if_neg hz]; omega

/-- **The chain on a run cut at its three header bursts** (`full_of_split` without a trailer):
    after the third burst a burst-free rest whose tick `HOLD - 1` is `.noCarrier`. -/
theorem decoded_of_split (rate sym0 smax : Nat) (samples : Nat → Nat) (H : List Byte) (off : Nat)
    (hcan : checkHeader H = some (off, H.length))
    (hall : ∀ b ∈ H, isAllowed b = true)
    (hfit : H.length ≤ MAXLEN)
    (t1 t2 t3 : List Byte) (P0 P1 P2 P3 : List LinkSt)
    (n0 : NoBurst P0) (n1 : NoBurst P1) (n2 : NoBurst P2) (n3 : NoBurst P3)
    (b1 b2 b3 : Nat)
    (hb1 : b1 = P0.length) (hb2 : b2 = b1 + 1 + P1.length) (hb3 : b3 = b2 + 1 + P2.length)
    (L : List LinkSt)
    (hL : L = P0 ++ .burst (H ++ t1) :: (P1 ++ .burst (H ++ t2) :: (P2 ++ .burst (H ++ t3) :: P3)))
    (hnc : P3[HOLD - 1]? = some .noCarrier)
    (c3 : Nat) (hbusy : ∀ k, c3 ≤ k → k < b3 → L[k]? ≠ some .noCarrier)
    (hspanH : b3 < b1 + HIST)
    (htd : TailsNoDash H t1 t2 t3)
    (hsamp : ∀ i, i < L.length → samples i ≤ smax ∧ smax ≤ samples i + TIMEOUT rate) :
    TimedOnce (rRun rate {} (mkTicks samples sym0 0 L)).2 samples L H off b2 b2 c3 b3 b3 := by
  have hHOLD := HOLD_pos
  obtain ⟨A, B, hAB, hA, nA, nB⟩ := split_at_getElem? P3 (HOLD - 1) _ hnc n3
  obtain ⟨hops, z1, _, _, _, hg2, hg3, u, h, hout, hpend, hrel⟩ := header_of_split samples sym0 H off
    hcan hall hfit t1 t2 t3 P0 P1 P2 A B n0 n1 n2 nA b1 b2 b3 hb1 hb2 hb3 (by omega) L
    (by rw [hL, hAB]) hspanH htd
  -- nothing is held after the release: the polls of the rest output nothing
  have hrun : (runOps {} (opsAt samples sym0 0 L)).2 = [(u, .ok (.som h))] := by
    rw [hops, opsAt_pollsAt _ _ _ nB, runOps_append_snd, z1, runOps_append_snd, hout,
      (run_polls_quiet _ _ hpend).1]
    rfl
  have hev := chain_events rate sym0 smax samples L hsamp (by rw [hrun]; exact Nat.zero_le 1)
  rw [hrun] at hev
  obtain ⟨_, he, i, _, rfl, hi⟩ := forall2_singleton hev
  obtain ⟨hx1, hx2, hx3, hr⟩ := hrel i hi
  exact ⟨b2, b3, i, h, t2, t3, ⟨Nat.le_refl _, Nat.le_refl _, hg2⟩,
    ⟨Nat.le_refl _, Nat.le_refl _, hg3⟩, hbusy, he, hx1, hx2, hx3, hr⟩

/-! ## from segments delivered with the timing -/

theorem noCarrier_after (m : Nat) (pre : List LinkSt) (k : Nat)
    (h : ∀ j, j ≤ k → pre[j]? = some .noCarrier) :
    (List.replicate m LinkSt.noCarrier ++ pre)[k]? = some .noCarrier := by
  by_cases hlt : k < m
  · rw [List.getElem?_append_left (by rw [List.length_replicate]; exact hlt), List.getElem?_replicate,
      if_pos hlt]
  · rw [List.getElem?_append_right (by rw [List.length_replicate]; omega), List.length_replicate]
    exact h _ (by omega)

/-- the link is busy in the third stretch of a cut list, from `SegBusy` of the segment behind it
    (`a`: the tick at which that segment begins) -/
theorem busy_in_third {c : LCfg} {s : LState} {g : Seg} {q : Nat} (hb : SegBusy c s g q)
    {pre post : List LinkSt} {x : LinkSt} (hg : lrun c s g.ticks = pre ++ x :: post) (hn : NoBurst pre)
    {L P0 P1 R : List LinkSt} {x1 x2 : LinkSt} {m : Nat}
    (hL : L = P0 ++ x1 :: (P1 ++ x2 :: ((List.replicate m .noCarrier ++ pre) ++ R)))
    {a : Nat} (ha : a = P0.length + 1 + P1.length + 1 + m) (k : Nat)
    (h1 : a + (g.lead.length + q) ≤ k)
    (h2 : k < P0.length + 1 + P1.length + 1 + (List.replicate m LinkSt.noCarrier ++ pre).length) :
    L[k]? ≠ some .noCarrier := by
  rw [List.length_append, List.length_replicate] at h2
  obtain ⟨t, rfl⟩ : ∃ t, k = P0.length + 1 + (P1.length + 1 + (m + t)) := ⟨k - a, by omega⟩
  rw [hL, getElem?_skip, getElem?_skip,
    List.getElem?_append_left (by rw [List.length_append, List.length_replicate]; omega),
    List.getElem?_append_right (by rw [List.length_replicate]; omega), List.length_replicate,
    show m + t - m = t by omega]
  exact hb.pre hg hn t (by omega) (by omega)

/-- **The header chain with the timing, from three delivered bursts.**  `DeliversT` facts for three
    segments of `H` (however obtained), each entered in the state the previous one left; a quiet
    rest of at least `HOLD` ticks; the third segment busy from its tick `|lead| + q3` to its burst
    (`SegBusy`; void for `q3 = |body| + |tail|`).  Timing: the three bursts within one history
    time (`hspan`).  The tails that the link layer appends to the bursts do not vote to a `-`
    (`htails`).  The sample counter stays within one forced-EOM timeout over the run (`hsamp`). -/
theorem transmission_decoded_timed (c : LCfg)
    (rate sym0 smax : Nat) (samples : Nat → Nat) (H : List Byte) (off : Nat)
    (hcan : checkHeader H = some (off, H.length))
    (hall : ∀ b ∈ H, isAllowed b = true)
    (hfits : H.length ≤ Gen.MAX_BURST_LENGTH)
    (g1 g2 g3 : Seg) (quiet : List Tick) (ls0 : LState)
    (d1 : DeliversT c ls0 g1 H) (d2 : DeliversT c (lrunState c ls0 g1.ticks) g2 H)
    (d3 : DeliversT c (lrunState c (lrunState c ls0 g1.ticks) g2.ticks) g3 H)
    (q3 : Nat) (hb3 : SegBusy c (lrunState c (lrunState c ls0 g1.ticks) g2.ticks) g3 q3)
    (hq : QuietNoHit c (lrunState c (lrunState c (lrunState c ls0 g1.ticks) g2.ticks) g3.ticks) quiet)
    (hqlen : HOLD ≤ quiet.length)
    (hspan : g1.tail.length + g2.ticks.length + g3.ticks.length ≤ HIST)
    (htails : ∀ t1 t2 t3, t1.length ≤ (g1.rel + 7) / 8 → t2.length ≤ (g2.rel + 7) / 8 →
      t3.length ≤ (g3.rel + 7) / 8 →
      lrunBursts c ls0 (transmission g1 g2 g3 quiet) = [H ++ t1, H ++ t2, H ++ t3] →
      TailsNoDash H t1 t2 t3)
    (hsamp : ∀ i, i < (transmission g1 g2 g3 quiet).length →
      samples i ≤ smax ∧ smax ≤ samples i + TIMEOUT rate) :
    TimedOnce (chain c rate ls0 {} sym0 samples (transmission g1 g2 g3 quiet)) samples
      (lrun c ls0 (transmission g1 g2 g3 quiet)) H off
      (g1.ticks.length + (g2.lead.length + g2.body.length + 31))
      (g1.ticks.length + (g2.lead.length + g2.body.length + g2.rel + 31))
      (g1.ticks.length + g2.ticks.length + (g3.lead.length + q3))
      (g1.ticks.length + g2.ticks.length + (g3.lead.length + g3.body.length + 31))
      (g1.ticks.length + g2.ticks.length + (g3.lead.length + g3.body.length + g3.rel + 31)) := by
  have hHOLD := HOLD_pos
  obtain ⟨t1, o1, hb1, r1⟩ := d1
  obtain ⟨t2, o2, hb2, r2⟩ := d2
  obtain ⟨t3, o3, hb3', r3⟩ := d3
  obtain ⟨hqo, _⟩ := quiet_out_r c _ r3.ready quiet hq
  have htd := htails t1 t2 t3 o1.tail_len o2.tail_len o3.tail_len (by
    simp only [transmission, lrunBursts_append, lrunState_append, hb1, hb2, hb3']
    rw [lrunBursts_eq, hqo, (noBurst_iff _).2 (noBurst_replicate _)]
    rfl)
  -- the link model's output, cut at its bursts
  obtain ⟨pre1, m1, h1, np1, lo1, hi1, k1⟩ := o1.cut
  obtain ⟨pre2, m2, h2, np2, lo2, hi2, k2⟩ := o2.cut
  obtain ⟨pre3, m3, h3, np3, lo3, hi3, k3⟩ := o3.cut
  have ht1 := g1.ticks_length
  have hrun : lrun c ls0 (transmission g1 g2 g3 quiet)
      = pre1 ++ .burst (H ++ t1) :: ((List.replicate m1 .noCarrier ++ pre2) ++ .burst (H ++ t2) ::
        ((List.replicate m2 .noCarrier ++ pre3) ++ .burst (H ++ t3) ::
        (List.replicate m3 .noCarrier ++ List.replicate quiet.length .noCarrier))) := by
    simp only [transmission, lrun_append, lrunState_append]
    rw [h1, h2, h3, hqo]
    simp only [List.append_assoc, List.cons_append]
  have hlen := lrun_length c (transmission g1 g2 g3 quiet) ls0
  have := decoded_of_split rate sym0 smax samples H off hcan hall (Nat.le_trans hfits (by decide)) t1 t2 t3
    pre1 (List.replicate m1 .noCarrier ++ pre2) (List.replicate m2 .noCarrier ++ pre3)
    (List.replicate m3 .noCarrier ++ List.replicate quiet.length .noCarrier)
    np1 (noBurst_append _ _ (noBurst_replicate _) np2) (noBurst_append _ _ (noBurst_replicate _) np3)
    (noBurst_append _ _ (noBurst_replicate _) (noBurst_replicate _))
    _ _ _ rfl rfl rfl _ hrun
    (noCarrier_after m3 _ _ (fun j hj => by rw [List.getElem?_replicate, if_pos (by omega)]))
    (g1.ticks.length + g2.ticks.length + (g3.lead.length + q3))
    (fun k hk1 hk2 => busy_in_third hb3 h3 np3 hrun
      (by simp only [List.length_append, List.length_replicate]; omega) k hk1 hk2)
    (by simp only [List.length_append, List.length_replicate]; omega) htd
    (fun i hi => hsamp i (by rw [← hlen]; exact hi))
  simp only [List.length_append, List.length_replicate] at this
  unfold chain chainTicks
  refine this.mono ?_ ?_ ?_ ?_ ?_ <;> omega

/-- **The chain with the timing, from six delivered bursts.**  `DeliversT` facts for three segments
    of `H` and three of `NNNN` (`ps`, however obtained), each entered in the state the previous one
    left; the first `HOLD` ticks of the fourth segment — part of its lead-in — hold no possible
    sync hit (`hgap`); a quiet rest; the third segment busy from its tick `|lead| + q3` to its
    burst (`SegBusy`; void for `q3 = |body| + |tail|`).  Timing: the three header bursts within
    one history time, likewise the three trailer bursts (`hspanH`, `hspanT`).  Tails: the header
    tails do not vote to a `-` (`htails`); the first trailer burst with its tail is no longer than
    the header (`hshort`). -/
theorem transmission_full_timed (c : LCfg)
    (rate sym0 smax : Nat) (samples : Nat → Nat) (H : List Byte) (off : Nat)
    (hcan : checkHeader H = some (off, H.length))
    (hall : ∀ b ∈ H, isAllowed b = true)
    (hfits : H.length ≤ Gen.MAX_BURST_LENGTH)
    (g1 g2 g3 g4 g5 g6 : Seg) (quiet : List Tick) (ls0 : LState) (ps : List (List Byte × Seg))
    (hps : ps = [(H, g1), (H, g2), (H, g3), (litNNNN, g4), (litNNNN, g5), (litNNNN, g6)])
    (hd : DeliversAllT c ls0 ps)
    (hq : QuietNoHit c (lrunState c ls0 (ps.flatMap (fun p => p.2.ticks))) quiet)
    (hlead : HOLD ≤ g4.lead.length)
    (hgap : QuietNoHit c (lrunState c (lrunState c (lrunState c ls0 g1.ticks) g2.ticks) g3.ticks)
      (g4.ticks.take HOLD))
    (q3 : Nat) (hb3 : SegBusy c (lrunState c (lrunState c ls0 g1.ticks) g2.ticks) g3 q3)
    (hspanH : g1.tail.length + g2.ticks.length + g3.ticks.length ≤ HIST)
    (hspanT : g4.tail.length + g5.ticks.length + g6.ticks.length ≤ HIST)
    (hshort : (g4.rel + 7) / 8 + 4 ≤ H.length)
    (htails : ∀ t1 t2 t3 x1 x2 x3, t1.length ≤ (g1.rel + 7) / 8 → t2.length ≤ (g2.rel + 7) / 8 →
      t3.length ≤ (g3.rel + 7) / 8 →
      lrunBursts c ls0 (ps.flatMap (fun p => p.2.ticks) ++ quiet)
        = [H ++ t1, H ++ t2, H ++ t3, litNNNN ++ x1, litNNNN ++ x2, litNNNN ++ x3] →
      TailsNoDash H t1 t2 t3)
    (hsamp : ∀ i, i < (ps.flatMap (fun p => p.2.ticks) ++ quiet).length →
      samples i ≤ smax ∧ smax ≤ samples i + TIMEOUT rate) :
    TimedFull (chain c rate ls0 {} sym0 samples (ps.flatMap (fun p => p.2.ticks) ++ quiet)) samples
      (lrun c ls0 (ps.flatMap (fun p => p.2.ticks) ++ quiet)) H off
      (g1.ticks.length + (g2.lead.length + g2.body.length + 31))
      (g1.ticks.length + (g2.lead.length + g2.body.length + g2.rel + 31))
      (g1.ticks.length + g2.ticks.length + (g3.lead.length + q3))
      (g1.ticks.length + g2.ticks.length + (g3.lead.length + g3.body.length + 31))
      (g1.ticks.length + g2.ticks.length + (g3.lead.length + g3.body.length + g3.rel + 31))
      (g1.ticks.length + g2.ticks.length + g3.ticks.length + (g4.lead.length + g4.body.length + 31))
      (g1.ticks.length + g2.ticks.length + g3.ticks.length
        + (g4.lead.length + g4.body.length + g4.rel + 31))
      (g1.ticks.length + g2.ticks.length + g3.ticks.length + g4.ticks.length
        + (g5.lead.length + g5.body.length + 31))
      (g1.ticks.length + g2.ticks.length + g3.ticks.length + g4.ticks.length
        + (g5.lead.length + g5.body.length + g5.rel + 31)) := by
  have hHOLD := HOLD_pos
  subst hps
  simp only [List.flatMap_cons, List.flatMap_nil, List.append_nil] at hq htails hsamp ⊢
  simp only [DeliversAllT] at hd
  obtain ⟨⟨t1, o1, hb1, r1⟩, ⟨t2, o2, hb2, r2⟩, ⟨t3, o3, hb3', r3⟩, ⟨x1, o4, hb4, r4⟩, ⟨x2, o5, hb5, r5⟩,
    ⟨x3, o6, hb6, r6⟩, _⟩ := hd
  simp only [lrunState_append] at hq
  obtain ⟨hqo, _⟩ := quiet_out_r c _ r6.ready quiet hq
  obtain ⟨hgo, _⟩ := quiet_out_r c _ r3.ready _ hgap
  have htd := htails t1 t2 t3 x1 x2 x3 o1.tail_len o2.tail_len o3.tail_len (by
    simp only [lrunBursts_append, lrunState_append, hb1, hb2, hb3', hb4, hb5, hb6]
    rw [lrunBursts_eq, hqo, (noBurst_iff _).2 (noBurst_replicate _)]
    rfl)
  -- the link model's output, cut at its bursts
  obtain ⟨pre1, m1, h1, np1, lo1, hi1, k1⟩ := o1.cut
  obtain ⟨pre2, m2, h2, np2, lo2, hi2, k2⟩ := o2.cut
  obtain ⟨pre3, m3, h3, np3, lo3, hi3, k3⟩ := o3.cut
  obtain ⟨pre4, m4, h4, np4, lo4, hi4, k4⟩ := o4.cut
  obtain ⟨pre5, m5, h5, np5, lo5, hi5, k5⟩ := o5.cut
  obtain ⟨pre6, m6, h6, np6, lo6, hi6, k6⟩ := o6.cut
  have ht1 := g1.ticks_length
  have ht4 := g4.ticks_length
  have hrun : lrun c ls0 (g1.ticks ++ (g2.ticks ++ (g3.ticks ++ (g4.ticks ++ (g5.ticks ++ g6.ticks))))
        ++ quiet)
      = pre1 ++ .burst (H ++ t1) :: ((List.replicate m1 .noCarrier ++ pre2) ++ .burst (H ++ t2) ::
        ((List.replicate m2 .noCarrier ++ pre3) ++ .burst (H ++ t3) ::
        ((List.replicate m3 .noCarrier ++ pre4) ++ .burst (litNNNN ++ x1) ::
        ((List.replicate m4 .noCarrier ++ pre5) ++ .burst (litNNNN ++ x2) ::
        ((List.replicate m5 .noCarrier ++ pre6) ++ .burst (litNNNN ++ x3) ::
        (List.replicate m6 .noCarrier ++ List.replicate quiet.length .noCarrier)))))) := by
    simp only [lrun_append, lrunState_append]
    rw [h1, h2, h3, h4, h5, h6, hqo]
    simp only [List.append_assoc, List.cons_append]
  -- the first `HOLD` ticks of the fourth segment report `.noCarrier`
  have hnc4 : ∀ j, j < HOLD → pre4[j]? = some .noCarrier := by
    intro j hj
    rw [lrun_take, h4, List.take_append_of_le_length (by omega)] at hgo
    rw [← List.getElem?_take_of_lt hj, hgo, List.getElem?_replicate,
      if_pos (by rw [List.length_take]; omega)]
  have hlen := lrun_length c (g1.ticks ++ (g2.ticks ++ (g3.ticks ++ (g4.ticks ++ (g5.ticks ++ g6.ticks))))
    ++ quiet) ls0
  have hx1 := o4.tail_len
  have := full_of_split rate sym0 smax samples H off hcan hall (Nat.le_trans hfits (by decide))
    t1 t2 t3 x1 x2 x3
    pre1 (List.replicate m1 .noCarrier ++ pre2) (List.replicate m2 .noCarrier ++ pre3)
    (List.replicate m3 .noCarrier ++ pre4) (List.replicate m4 .noCarrier ++ pre5)
    (List.replicate m5 .noCarrier ++ pre6)
    (List.replicate m6 .noCarrier ++ List.replicate quiet.length .noCarrier)
    np1 (noBurst_append _ _ (noBurst_replicate _) np2) (noBurst_append _ _ (noBurst_replicate _) np3)
    (noBurst_append _ _ (noBurst_replicate _) np4) (noBurst_append _ _ (noBurst_replicate _) np5)
    (noBurst_append _ _ (noBurst_replicate _) np6)
    (noBurst_append _ _ (noBurst_replicate _) (noBurst_replicate _))
    _ _ _ _ _ _ rfl rfl rfl rfl rfl rfl _ hrun
    (noCarrier_after m3 _ _ (fun j hj => hnc4 j (by omega)))
    (g1.ticks.length + g2.ticks.length + (g3.lead.length + q3))
    (fun k hk1 hk2 => busy_in_third hb3 h3 np3 hrun
      (by simp only [List.length_append, List.length_replicate]; omega) k hk1 hk2)
    (by simp only [List.length_append, List.length_replicate]; omega)
    (by simp only [List.length_append, List.length_replicate]; omega) htd (by omega)
    (fun i hi => hsamp i (by rw [← hlen]; exact hi))
  simp only [List.length_append, List.length_replicate] at this
  unfold chain chainTicks
  refine this.mono ?_ ?_ ?_ ?_ ?_ ?_ ?_ ?_ ?_ <;> omega

end SameVerif.Chain
