import SameVerif.Model.Chain
import SameVerif.Thm.C01
/-
  The link layer of the digital chain, basics: lists of link states, and what the link model reports over
  one segment (`SegOut`) from where it reports bursts.
-/
namespace SameVerif.Chain
open SameVerif SameVerif.Spec

/-- `Spec.BurstObserved` for a segment -/
abbrev Observed (payload : List Byte) (g : Seg) : Prop :=
  BurstObserved payload g.lead g.body g.tail g.acq g.rel

/-- the side conditions `C01.burst_delivered` puts on the payload and the configuration -/
structure PayloadCond (c : LCfg) (payload : List Byte) : Prop where
  ok : PayloadOk payload
  dash : ∀ h : 4 < payload.length, payload[4] = 45
  p4 : payload.take 4 = [78, 78, 78, 78] → c.fc.maxPrefixErr ≤ 4

/-! ### lists of link states -/

theorem noBurst_iff (L : List LinkSt) : L.flatMap burstOf = [] ↔ NoBurst L := by
  induction L with
  | nil => simp [NoBurst]
  | cons x L ih =>
    cases x <;> simp [burstOf, NoBurst, ih] <;> intro h <;> exact h

theorem noBurst_append (a b : List LinkSt) (ha : NoBurst a) (hb : NoBurst b) : NoBurst (a ++ b) := by
  intro ls h
  rcases List.mem_append.1 h with h | h
  · exact ha ls h
  · exact hb ls h

theorem noBurst_replicate (n : Nat) : NoBurst (List.replicate n .noCarrier) := by
  intro ls h b
  rw [(List.mem_replicate.1 h).2]
  simp

theorem flatMap_burstOf_take_of_noBurst (pre : List LinkSt) (h : NoBurst pre) (k : Nat) :
    (pre.take k).flatMap burstOf = [] :=
  (noBurst_iff _).2 (fun ls hls => h ls (List.mem_of_mem_take hls))

theorem split_single (L : List LinkSt) (b : List Byte) (h : L.flatMap burstOf = [b]) :
    ∃ pre post, L = pre ++ .burst b :: post ∧ NoBurst pre ∧ NoBurst post := by
  induction L with
  | nil => cases h
  | cons x L ih =>
    by_cases hx : ∃ b', x = .burst b'
    · obtain ⟨b', rfl⟩ := hx
      simp only [List.flatMap_cons, burstOf, List.cons_append, List.nil_append, List.cons.injEq] at h
      exact ⟨[], L, by rw [h.1]; rfl, (by intro ls h; cases h), (noBurst_iff L).1 h.2⟩
    · have hx0 : burstOf x = [] := by
        cases x with
        | burst b' => exact absurd ⟨b', rfl⟩ hx
        | noCarrier => rfl
        | searching => rfl
        | reading => rfl
      rw [List.flatMap_cons, hx0, List.nil_append] at h
      obtain ⟨pre, post, h1, h2, h3⟩ := ih h
      refine ⟨x :: pre, post, by rw [h1]; rfl, ?_, h3⟩
      intro ls hls b'
      rcases List.mem_cons.1 hls with rfl | h'
      · exact fun e => hx ⟨b', e⟩
      · exact h2 ls h' b'

/-! ### one segment -/

theorem _root_.SameVerif.Seg.ticks_eq (g : Seg) : g.ticks = g.lead ++ (g.body ++ g.tail) := by
  simp only [Seg.ticks, List.append_assoc]

theorem _root_.SameVerif.Seg.ticks_length (g : Seg) : g.ticks.length = g.lead.length + g.body.length + g.tail.length := by
  simp only [Seg.ticks, List.length_append]

theorem _root_.SameVerif.Seg.take_ticks (g : Seg) (m : Nat) :
    g.ticks.take (g.lead.length + m) = g.lead ++ (g.body ++ g.tail).take m := by
  rw [g.ticks_eq, List.take_append, List.take_of_length_le (by omega)]
  congr 2
  omega

theorem segOut_of_facts (c : LCfg) (s : LState) (g : Seg) (payload t : List Byte)
    (hb : lrunBursts c s g.ticks = [payload ++ t])
    (hlead : lrunBursts c s g.lead = [])
    (hf : lrunBursts c (lrunState c s g.lead) ((g.body ++ g.tail).take (g.body.length + 31)) = [])
    (htl : 31 ≤ g.tail.length) (hlen : t.length ≤ (g.rel + 7) / 8) :
    SegOut g payload t (lrun c s g.ticks) := by
  refine ⟨lrun_length c _ s, ?_, hlen⟩
  have hk := g.ticks_length
  have hpre : ((lrun c s g.ticks).take (g.lead.length + (g.body.length + 31))).flatMap burstOf = [] := by
    rw [← lrun_take, ← lrunBursts_eq, g.take_ticks, lrunBursts_append, hlead, hf]; rfl
  have hall : (lrun c s g.ticks).flatMap burstOf = [payload ++ t] := by
    rw [← lrunBursts_eq]; exact hb
  rw [← List.take_append_drop (g.lead.length + (g.body.length + 31)) (lrun c s g.ticks),
    List.flatMap_append, hpre, List.nil_append] at hall
  obtain ⟨pre, post, h1, h2, h3⟩ := split_single _ _ hall
  refine ⟨(lrun c s g.ticks).take (g.lead.length + (g.body.length + 31)) ++ pre, post, ?_, ?_, h3, ?_⟩
  · rw [List.append_assoc, ← h1, List.take_append_drop]
  · exact noBurst_append _ _ ((noBurst_iff _).1 hpre) h2
  · rw [List.length_append, List.length_take, lrun_length]
    omega

theorem quiet_out (c : LCfg) (s : LState) (hs : Quiescent s) (quiet : List Tick)
    (hq : ∀ x ∈ quiet, x.1.openOk = false) :
    lrun c s quiet = List.replicate quiet.length .noCarrier ∧ Quiescent (lrunState c s quiet) := by
  obtain ⟨h1, _, h3⟩ := C01.lead_quiet c s hs quiet hq
  exact ⟨List.eq_replicate_iff.2 ⟨lrun_length c quiet s, h1⟩, h3⟩

end SameVerif.Chain
