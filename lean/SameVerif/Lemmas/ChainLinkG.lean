import SameVerif.Lemmas.ChainLinkR
import SameVerif.Lemmas.LinkPhases2
/-
  The link layer of the digital chain, generic in HOW each burst is shown to be delivered: everything
  downstream needs only `DeliversT c s g payload` — over the ticks of segment `g`, entered in state
  `s`, the link model reports exactly one burst `payload ++ t`, `|t| ≤ ⌈rel / 8⌉`, at a tick `k` with
  `|lead| + |body| + 31 ≤ k ≤ |lead| + |body| + rel + 31` (tail tick `rel + 31` is the tick at
  which the oldest entry of the 32-tick power history is the first sub-threshold one), reports
  `.noCarrier` for the rest of the segment (`SegOutT`) and is quiescent again.  `Delivers` is the
  same without the upper bound (`SegOut`).  `Spec.BurstObserved` (`deliversT_of_observed`),
  the realistic assumptions (`deliversT_of_observed_r`) and the generalised synchronisation
  (`burst_of_stream2`, `Lemmas/StreamLink2.lean`) all establish it.
-/
namespace SameVerif.Chain
open SameVerif SameVerif.Spec

/-- segment `g`, entered in link state `s`, delivers `payload` -/
def Delivers (c : LCfg) (s : LState) (g : Seg) (payload : List Byte) : Prop :=
  ∃ t, SegOut g payload t (lrun c s g.ticks) ∧ lrunBursts c s g.ticks = [payload ++ t]
    ∧ Quiescent (lrunState c s g.ticks)

theorem delivers_of_observed_r (c : LCfg) (hE : c.maxErrors ≤ 6) (hP : c.fc.maxPrefixErr ≤ 7)
    (payload : List Byte) (hc : PayloadCond c payload) (g : Seg) (hg : Observed' payload g)
    (s : LState) (hs : Ready s) (hw : 32 ≤ s.nsym + g.lead.length) (hn : NoFalse c s g) :
    Delivers c s g payload := seg_out_r c hE hP payload hc g hg s hs hw hn

/-! ## the timing of the report -/

theorem Fst_ne_idle (a : Nat) (pl : List Byte) (m : Nat) : Fst a pl m ≠ .idle := by
  unfold Fst
  repeat' split
  all_goals simp

/-- timing of the link model over `body ++ tail`, entered in `s1`: a burst has been reported by the
    end of tail tick `rel + 31`; once a burst has been reported, every further tick of the tail
    reports `.noCarrier` -/
structure BTTiming (c : LCfg) (s1 : LState) (body tail : List Tick) (rel : Nat) : Prop where
  prompt : lrunBursts c s1 ((body ++ tail).take (body.length + (rel + 32))) ≠ []
  after : ∀ t, body.length + 31 ≤ t → t < (body ++ tail).length →
    lrunBursts c s1 ((body ++ tail).take t) ≠ [] → (lrun c s1 (body ++ tail))[t]? = some .noCarrier

section
variable {pl : List Byte} {body tail : List Tick} {acq rel : Nat}

/-- **burst-termination latency, the garbage phase.**  From the state before the byte tick that
    follows the last payload byte (`hbase`, as in `phase_garbage`): the burst is out by the end of
    tail tick `rel + 31`, and afterwards the link reports `.noCarrier`. -/
theorem garbage_timing (H : BurstTracked pl body tail acq rel)
    (c : LCfg) (s1 : LState) (hw : 32 ≤ s1.nsym)
    (N : ∀ t, body.length ≤ t → NoHitAt c s1 (body ++ tail) t)
    (hbase : PayloadRead c s1 (body ++ tail) pl (body.length + 31)) :
    BTTiming c s1 body tail rel := by
  have htl := H.tail_len
  constructor
  · have hg := phase_garbage H c s1 hw N hbase (rel + 1) (by omega)
    unfold GarbageInv at hg
    rcases hg with ⟨hk, _⟩ | ⟨_, _, _, g, hb, _⟩
    · omega
    · rw [show body.length + (rel + 32) = body.length + (31 + (rel + 1)) by omega, hb]
      simp
  · intro t h31 hlt hne
    have hlt' : t < body.length + tail.length := by rw [List.length_append] at hlt; exact hlt
    have hg := phase_garbage H c s1 hw N hbase (t - body.length - 31) (by omega)
    unfold GarbageInv at hg
    rw [show body.length + (31 + (t - body.length - 31)) = t by omega] at hg
    rcases hg with ⟨_, _, _, _, _, _, _, _, hb⟩ | ⟨i1, _, i3, _⟩
    · exact absurd hb hne
    · have hns : 31 ≤ (lrunState c s1 ((body ++ tail).take t)).nsym := by
        rw [nsym_run]; omega
      have hno := noHit_tail N t (by omega) hlt
      obtain ⟨o1, _⟩ := lstep_quiet c _ _ ((body ++ tail)[t]).2 hns i1 i3 hno
      rw [lrun_getElem? c _ s1 t hlt, o1]

/-- over `body ++ tail`, entered in `s1`: from tick `q` on, as long as no burst has been reported,
    no tick reports `.noCarrier` (the link is busy: `.searching` or `.reading`) -/
def BTBusy (c : LCfg) (s1 : LState) (body tail : List Tick) (q : Nat) : Prop :=
  ∀ t, q ≤ t → t < (body ++ tail).length → lrunBursts c s1 ((body ++ tail).take (t + 1)) = [] →
    (lrun c s1 (body ++ tail))[t]? ≠ some .noCarrier

/-- **from the adjusting sync hit (body tick `8 q0 + 7`) to the burst the link is busy**, under the
    hypotheses of `burst_body_tail2` -/
theorem bt_busy2 (H : BurstTracked pl body tail acq rel) (hok : PayloadOk pl)
    (hdash : ∀ h : 4 < pl.length, pl[4] = 45)
    (c : LCfg) (hE : c.maxErrors ≤ 6) (hF : PrefixFacts c.fc pl) (s1 : LState) (hw : 32 ≤ s1.nsym)
    (q0 : Nat) (h1 : 1 ≤ q0) (h15 : q0 ≤ 15)
    (Nl : ∀ t, body.length ≤ t → NoHitAt c s1 (body ++ tail) t)
    (Ne : ∀ t, 8 * q0 + 8 ≤ t → t < acq + 31 → t % 8 ≠ 7 → NoHitAt c s1 (body ++ tail) t)
    (Hh : ∀ t, 8 * q0 + 8 ≤ t → t < acq + 31 → HeadAt c s1 (body ++ tail) t)
    (hbase : JustSynced c s1 (body ++ tail) (8 * q0 + 7 + 1)) :
    BTBusy c s1 body tail (8 * q0 + 7) := by
  intro t hq hlt hnb hnc
  have hlt' : t < body.length + tail.length := by rw [List.length_append] at hlt; exact hlt
  rw [lrun_getElem? c _ s1 t hlt] at hnc
  have hidle := lstep_noCarrier_idle c _ _ _ (Option.some.inj hnc)
  rw [← lrunState_take_succ c s1 _ t hlt] at hidle
  by_cases hearly : t + 1 ≤ body.length + 31
  · obtain ⟨d, hd⟩ : ∃ d, t + 1 = 8 * q0 + 8 + d := ⟨t + 1 - (8 * q0 + 8), by omega⟩
    have := phase_synced2 H hok hdash c hE hF s1 hw q0 h1 h15 Nl Ne Hh hbase d (by omega)
    rw [← hd] at this
    rw [this.2.2.1] at hidle
    exact Fst_ne_idle _ _ _ hidle
  · have hb := synced_end2 H hok hdash c hE hF s1 hw q0 h1 h15 Nl Ne Hh hbase
    have hg := phase_garbage H c s1 hw Nl hb (t + 1 - body.length - 31) (by omega)
    unfold GarbageInv at hg
    rw [show body.length + (31 + (t + 1 - body.length - 31)) = t + 1 by omega] at hg
    rcases hg with ⟨_, _, _, _, g, inv, hfr, _⟩ | ⟨_, _, _, g, hb', _⟩
    · rw [hfr] at hidle; cases hidle
    · rw [hb'] at hnb; cases hnb

end

/-! ### one segment -/

/-- timing of the link model over one segment entered in `s`: a burst has been reported by the end
    of tail tick `rel + 31`; once a burst has been reported, every further tick of the segment
    reports `.noCarrier` -/
structure SegTiming (c : LCfg) (s : LState) (g : Seg) : Prop where
  prompt : lrunBursts c s (g.ticks.take (g.lead.length + g.body.length + (g.rel + 32))) ≠ []
  after : ∀ t, g.lead.length + g.body.length + 31 ≤ t → t < g.ticks.length →
    lrunBursts c s (g.ticks.take t) ≠ [] → (lrun c s g.ticks)[t]? = some .noCarrier

theorem seg_local (c : LCfg) (s : LState) (g : Seg) (hlead : lrunBursts c s g.lead = []) (m : Nat) :
    lrunBursts c s (g.ticks.take (g.lead.length + m))
        = lrunBursts c (lrunState c s g.lead) ((g.body ++ g.tail).take m)
      ∧ (lrun c s g.ticks)[g.lead.length + m]? = (lrun c (lrunState c s g.lead) (g.body ++ g.tail))[m]? := by
  constructor
  · rw [g.take_ticks, lrunBursts_append, hlead, List.nil_append]
  · rw [g.ticks_eq, lrun_append, List.getElem?_append_right (by rw [lrun_length]; omega), lrun_length,
      show g.lead.length + m - g.lead.length = m by omega]

theorem segTiming_of_bt (c : LCfg) (s : LState) (g : Seg) (hlead : lrunBursts c s g.lead = [])
    (h : BTTiming c (lrunState c s g.lead) g.body g.tail g.rel) : SegTiming c s g := by
  have hlen := g.ticks_length
  constructor
  · rw [show g.lead.length + g.body.length + (g.rel + 32) = g.lead.length + (g.body.length + (g.rel + 32))
      by omega, (seg_local c s g hlead _).1]
    exact h.prompt
  · intro t h31 hlt hne
    obtain ⟨m, rfl⟩ : ∃ m, t = g.lead.length + m := ⟨t - g.lead.length, by omega⟩
    rw [(seg_local c s g hlead m).1] at hne
    rw [(seg_local c s g hlead m).2]
    exact h.after m (by omega) (by rw [List.length_append]; omega) hne

/-- over one segment entered in `s`: from tick `|lead| + q` on, as long as no burst has been
    reported, no tick reports `.noCarrier` -/
def SegBusy (c : LCfg) (s : LState) (g : Seg) (q : Nat) : Prop :=
  ∀ t, g.lead.length + q ≤ t → t < g.ticks.length → lrunBursts c s (g.ticks.take (t + 1)) = [] →
    (lrun c s g.ticks)[t]? ≠ some .noCarrier

theorem segBusy_of_bt (c : LCfg) (s : LState) (g : Seg) (q : Nat) (hlead : lrunBursts c s g.lead = [])
    (h : BTBusy c (lrunState c s g.lead) g.body g.tail q) : SegBusy c s g q := by
  have hlen := g.ticks_length
  intro t hq hlt hnb
  obtain ⟨m, rfl⟩ : ∃ m, t = g.lead.length + m := ⟨t - g.lead.length, by omega⟩
  rw [Nat.add_assoc, (seg_local c s g hlead (m + 1)).1] at hnb
  rw [(seg_local c s g hlead m).2]
  exact h m (by omega) (by rw [List.length_append]; omega) hnb

/-- no condition from the end of the segment on -/
theorem segBusy_void (c : LCfg) (s : LState) (g : Seg) : SegBusy c s g (g.body.length + g.tail.length) := by
  intro t hq hlt
  have := g.ticks_length
  omega

theorem SegBusy.pre {c : LCfg} {s : LState} {g : Seg} {q : Nat} (h : SegBusy c s g q)
    {pre post : List LinkSt} {x : LinkSt} (hL : lrun c s g.ticks = pre ++ x :: post) (hn : NoBurst pre)
    (t : Nat) (hq : g.lead.length + q ≤ t) (ht : t < pre.length) : pre[t]? ≠ some .noCarrier := by
  have hlt : t < g.ticks.length := by
    rw [← lrun_length c g.ticks s, hL, List.length_append]; omega
  have := h t hq hlt (by
    rw [lrunBursts_eq, lrun_take, hL, List.take_append_of_le_length (by omega)]
    exact flatMap_burstOf_take_of_noBurst pre hn _)
  rwa [hL, List.getElem?_append_left ht] at this

/-- what the link model reports over one segment, with the timing: exactly one `.burst`, at a tick
    `k` with `|lead| + |body| + 31 ≤ k ≤ |lead| + |body| + rel + 31`, nothing but `.noCarrier`
    after it -/
structure SegOutT (g : Seg) (payload t : List Byte) (L : List LinkSt) : Prop where
  len : L.length = g.ticks.length
  split : ∃ pre m, L = pre ++ .burst (payload ++ t) :: List.replicate m .noCarrier ∧ NoBurst pre
    ∧ g.lead.length + g.body.length + 31 ≤ pre.length
    ∧ pre.length ≤ g.lead.length + g.body.length + g.rel + 31
  tail_len : t.length ≤ (g.rel + 7) / 8

theorem SegOutT.toSegOut {g : Seg} {payload t : List Byte} {L : List LinkSt} (h : SegOutT g payload t L) :
    SegOut g payload t L := by
  obtain ⟨pre, m, h1, h2, h3, _⟩ := h.split
  exact ⟨h.len, ⟨pre, _, h1, h2, noBurst_replicate m, h3⟩, h.tail_len⟩

theorem SegOutT.cut {g : Seg} {payload t : List Byte} {L : List LinkSt} (h : SegOutT g payload t L) :
    ∃ pre m, L = pre ++ .burst (payload ++ t) :: List.replicate m .noCarrier ∧ NoBurst pre
      ∧ g.lead.length + g.body.length + 31 ≤ pre.length
      ∧ pre.length ≤ g.lead.length + g.body.length + g.rel + 31
      ∧ pre.length + (m + 1) = g.ticks.length := by
  obtain ⟨pre, m, h1, h2, h3, h4⟩ := h.split
  refine ⟨pre, m, h1, h2, h3, h4, ?_⟩
  rw [← h.len, h1, List.length_append, List.length_cons, List.length_replicate]

theorem segOutT_of (c : LCfg) (s : LState) (g : Seg) (payload t : List Byte)
    (h : SegOut g payload t (lrun c s g.ticks)) (ht : SegTiming c s g) :
    SegOutT g payload t (lrun c s g.ticks) := by
  obtain ⟨pre, post, h1, h2, h3, h4⟩ := h.split
  have hlen := h.len
  have hpl : pre.length + 1 + post.length = g.ticks.length := by
    rw [← hlen, h1, List.length_append, List.length_cons]; omega
  -- bursts among the first `k` ticks
  have hbk : ∀ k, lrunBursts c s (g.ticks.take k) = ((lrun c s g.ticks).take k).flatMap burstOf := by
    intro k; rw [lrunBursts_eq, lrun_take]
  -- the burst is early
  have hhi : pre.length ≤ g.lead.length + g.body.length + g.rel + 31 := by
    refine Nat.le_of_not_lt (fun hlt => ht.prompt ?_)
    rw [hbk, h1, List.take_append_of_le_length (by omega)]
    exact flatMap_burstOf_take_of_noBurst pre h2 _
  -- the ticks after it
  have hpost : ∀ x ∈ post, x = .noCarrier := by
    intro x hx
    obtain ⟨j, hj, rfl⟩ := List.getElem_of_mem hx
    have hne : lrunBursts c s (g.ticks.take (pre.length + 1 + j)) ≠ [] := by
      rw [hbk, h1, show pre.length + 1 + j = pre.length + (1 + j) by omega, List.take_length_add_append,
        List.flatMap_append]
      simp [List.take_succ_cons, burstOf, Nat.add_comm 1 j]
    have := ht.after (pre.length + 1 + j) (by omega) (by omega) hne
    rw [h1, List.getElem?_append_right (by omega),
      show pre.length + 1 + j - pre.length = j + 1 by omega, List.getElem?_cons_succ,
      List.getElem?_eq_getElem hj] at this
    exact Option.some.inj this
  refine ⟨hlen, ⟨pre, post.length, ?_, h2, h4, hhi⟩, h.tail_len⟩
  rw [h1, List.eq_replicate_iff.2 ⟨rfl, hpost⟩, List.length_replicate]

/-! ### delivery with the timing -/

/-- segment `g`, entered in link state `s`, delivers `payload`, with the timing of the report -/
def DeliversT (c : LCfg) (s : LState) (g : Seg) (payload : List Byte) : Prop :=
  ∃ t, SegOutT g payload t (lrun c s g.ticks) ∧ lrunBursts c s g.ticks = [payload ++ t]
    ∧ Quiescent (lrunState c s g.ticks)

theorem DeliversT.toDelivers {c : LCfg} {s : LState} {g : Seg} {payload : List Byte}
    (h : DeliversT c s g payload) : Delivers c s g payload := by
  obtain ⟨t, o, hb, hq⟩ := h
  exact ⟨t, o.toSegOut, hb, hq⟩

theorem DeliversT.quiescent {c : LCfg} {s : LState} {g : Seg} {payload : List Byte}
    (h : DeliversT c s g payload) : Quiescent (lrunState c s g.ticks) := by
  obtain ⟨_, _, _, hq⟩ := h
  exact hq

theorem Delivers.timed {c : LCfg} {s : LState} {g : Seg} {payload : List Byte}
    (h : Delivers c s g payload) (ht : SegTiming c s g) : DeliversT c s g payload := by
  obtain ⟨t, o, hb, hq⟩ := h
  exact ⟨t, segOutT_of c s g payload t o ht, hb, hq⟩

/-- realistic assumptions (`Spec.BurstObserved'` + `Spec.NoFalseHits`): the lead-in is quiet, the
    body and tail go through the synchronised phases and the garbage phase -/
theorem deliversT_of_observed_r (c : LCfg) (hE : c.maxErrors ≤ 6) (hP : c.fc.maxPrefixErr ≤ 7)
    (payload : List Byte) (hc : PayloadCond c payload) (g : Seg) (hg : Observed' payload g)
    (s : LState) (hs : Ready s) (hw : 32 ≤ s.nsym + g.lead.length) (hn : NoFalse c s g) :
    DeliversT c s g payload := by
  obtain ⟨_, l2, l3⟩ := quiet_run c g.lead s hs hn.quiet
  have hq := quiescent_of_ready l3 (by rw [nsym_run]; exact hw)
  exact (delivers_of_observed_r c hE hP payload hc g hg s hs hw hn).timed
    (segTiming_of_bt c s g l2 (garbage_timing hg.tracked c _ hq.warm hn.bt.late
      (synced_end hg hc.ok hc.dash c hE (prefixFacts_of c.fc payload hc.ok hP hc.p4) _ hq hn.bt)))

/-- `Spec.BurstObserved` is an instance -/
theorem deliversT_of_observed (c : LCfg) (hE : c.maxErrors ≤ 6) (hP : c.fc.maxPrefixErr ≤ 7)
    (payload : List Byte) (hc : PayloadCond c payload) (g : Seg) (hg : Observed payload g)
    (s : LState) (hs : Quiescent s) : DeliversT c s g payload :=
  deliversT_of_observed_r c hE hP payload hc g hg.weaken s hs.ready (by have := hs.warm; omega)
    (hg.noFalseHits c s)

/-! ### several segments -/

/-- every segment of a sequence delivers its payload, each entered in the state the previous left -/
def DeliversAll (c : LCfg) : LState → List (List Byte × Seg) → Prop
  | _, [] => True
  | s, p :: ps => Delivers c s p.2 p.1 ∧ DeliversAll c (lrunState c s p.2.ticks) ps

def DeliversAllT (c : LCfg) : LState → List (List Byte × Seg) → Prop
  | _, [] => True
  | s, p :: ps => DeliversT c s p.2 p.1 ∧ DeliversAllT c (lrunState c s p.2.ticks) ps

theorem DeliversAllT.toDeliversAll {c : LCfg} : ∀ {ps : List (List Byte × Seg)} {s : LState},
    DeliversAllT c s ps → DeliversAll c s ps
  | [], _, _ => trivial
  | _ :: _, _, ⟨h, hrest⟩ => ⟨h.toDelivers, hrest.toDeliversAll⟩

/-- **A whole transmission at the link layer.**  Segments, each delivering its own payload (`ps`:
    payload and segment), one after the other: the bursts reported are, in order and one for one,
    `payload_i ++ t_i` with `|t_i| ≤ ⌈rel_i / 8⌉`; and the link is unsynchronised and idle at the
    end. -/
theorem segments_delivered_g (c : LCfg) (ps : List (List Byte × Seg)) : ∀ (s : LState), Ready s →
    DeliversAll c s ps →
    Forall₂ (fun p b => ∃ t, b = p.1 ++ t ∧ t.length ≤ (p.2.rel + 7) / 8) ps
        (lrunBursts c s (ps.flatMap (fun p => p.2.ticks)))
      ∧ Ready (lrunState c s (ps.flatMap (fun p => p.2.ticks))) := by
  induction ps with
  | nil => intro s hs _; exact ⟨.nil, hs⟩
  | cons p ps ih =>
    intro s _ hall
    obtain ⟨⟨t, hso, hb, hq⟩, hrest⟩ := hall
    obtain ⟨i1, i2⟩ := ih _ hq.ready hrest
    simp only [List.flatMap_cons]
    rw [lrunBursts_append, lrunState_append, hb]
    exact ⟨.cons ⟨t, rfl, hso.tail_len⟩ i1, i2⟩

theorem deliversAll_of_segsOk (c : LCfg) (hE : c.maxErrors ≤ 6) (hP : c.fc.maxPrefixErr ≤ 7) :
    ∀ (ps : List (List Byte × Seg)) (s : LState), Ready s → SegsOk c s ps → DeliversAll c s ps
  | [], _, _, _ => trivial
  | p :: ps, s, hs, ⟨hc, ho, hw, hn, hrest⟩ =>
    have hd := delivers_of_observed_r c hE hP p.1 hc p.2 ho s hs hw hn
    ⟨hd, deliversAll_of_segsOk c hE hP ps _ (Exists.elim hd fun _ h => h.2.2.ready) hrest⟩

theorem deliversAll_of_observed (c : LCfg) (hE : c.maxErrors ≤ 6) (hP : c.fc.maxPrefixErr ≤ 7) :
    ∀ (ps : List (List Byte × Seg)) (s : LState), Quiescent s →
      (∀ p ∈ ps, PayloadCond c p.1 ∧ Observed p.1 p.2) → DeliversAll c s ps
  | [], _, _, _ => trivial
  | p :: ps, s, hs, hall =>
    have hd := deliversT_of_observed c hE hP p.1 (hall p List.mem_cons_self).1 p.2
      (hall p List.mem_cons_self).2 s hs
    ⟨hd.toDelivers, deliversAll_of_observed c hE hP ps _ hd.quiescent
      (fun q hq => hall q (List.mem_cons_of_mem _ hq))⟩

/-- **A whole transmission at the link layer, realistic assumptions** -/
theorem segments_delivered_r (c : LCfg) (hE : c.maxErrors ≤ 6) (hP : c.fc.maxPrefixErr ≤ 7)
    (ps : List (List Byte × Seg)) (s : LState) (hs : Ready s) (h : SegsOk c s ps) :
    Forall₂ (fun p b => ∃ t, b = p.1 ++ t ∧ t.length ≤ (p.2.rel + 7) / 8) ps
        (lrunBursts c s (ps.flatMap (fun p => p.2.ticks)))
      ∧ Ready (lrunState c s (ps.flatMap (fun p => p.2.ticks))) :=
  segments_delivered_g c ps s hs (deliversAll_of_segsOk c hE hP ps s hs h)

end SameVerif.Chain
