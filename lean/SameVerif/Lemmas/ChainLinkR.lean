import SameVerif.Lemmas.ChainLink
import SameVerif.Thm.C01r
/-
  The link layer of the digital chain on the realistic front-end assumptions (`Spec.BurstObserved'` +
  `Spec.NoFalseHits`, state-based): one burst, and a stretch without possible hits.  The start
  state need only be `Ready` (e.g. the initial state `{}`) if the lead-in fills the sample history.
-/
namespace SameVerif.Chain
open SameVerif SameVerif.Spec

/-- `Spec.BurstObserved'` for a segment -/
abbrev Observed' (payload : List Byte) (g : Seg) : Prop :=
  BurstObserved' payload g.body g.tail g.acq g.rel

/-- `Spec.NoFalseHits` for a segment entered in state `s` -/
abbrev NoFalse (c : LCfg) (s : LState) (g : Seg) : Prop :=
  NoFalseHits c s g.lead g.body g.tail g.acq

theorem observed_refines {payload : List Byte} {g : Seg} (h : Observed payload g) (c : LCfg) (s : LState) :
    Observed' payload g ∧ NoFalse c s g := C01r.burstObserved_refines h c s

theorem seg_out_r (c : LCfg) (hE : c.maxErrors ≤ 6) (hP : c.fc.maxPrefixErr ≤ 7)
    (payload : List Byte) (hc : PayloadCond c payload) (g : Seg) (hg : Observed' payload g)
    (s : LState) (hs : Ready s) (hw : 32 ≤ s.nsym + g.lead.length) (hn : NoFalse c s g) :
    ∃ t, SegOut g payload t (lrun c s g.ticks) ∧ lrunBursts c s g.ticks = [payload ++ t]
      ∧ Quiescent (lrunState c s g.ticks) := by
  obtain ⟨t, hb, hlen, hq⟩ :=
    C01r.burst_delivered c hE hP s hs payload hc.ok hc.dash hc.p4 g.lead g.body g.tail g.acq g.rel hw hg hn
  obtain ⟨_, hl2, _, _⟩ := C01r.lead_quiet c s hs g.lead hn.quiet
  obtain ⟨_, _, _, _, hf⟩ :=
    C01r.framer_sees c hE hP s hs payload hc.ok hc.dash hc.p4 g.lead g.body g.tail g.acq g.rel hw hg hn
  have htl := hg.tail_len
  exact ⟨t, segOut_of_facts c s g payload t hb hl2 hf (by omega) hlen, hb, hq⟩

/-- the hypotheses for a sequence of segments, each entered in the state the previous one left -/
def SegsOk (c : LCfg) : LState → List (List Byte × Seg) → Prop
  | _, [] => True
  | s, p :: ps => PayloadCond c p.1 ∧ Observed' p.1 p.2 ∧ 32 ≤ s.nsym + p.2.lead.length
      ∧ NoFalse c s p.2 ∧ SegsOk c (lrunState c s p.2.ticks) ps

theorem quiet_out_r (c : LCfg) (s : LState) (hs : Ready s) (quiet : List Tick)
    (hq : QuietNoHit c s quiet) :
    lrun c s quiet = List.replicate quiet.length .noCarrier ∧ Ready (lrunState c s quiet) := by
  obtain ⟨h1, _, h3, _⟩ := C01r.lead_quiet c s hs quiet hq
  exact ⟨List.eq_replicate_iff.2 ⟨lrun_length c quiet s, h1⟩, h3⟩

end SameVerif.Chain
