import SameVerif.Lemmas.ChainBridge
import SameVerif.Lemmas.ChainLink
import SameVerif.Lemmas.CombineTwo
/-
  For the composition of the digital chain: the operation list of the composed run
  (`opsOfTicks ∘ mkTicks`) — times, order, shape over burst-free stretches and around a single
  tick —, the message events of the composed run from the outputs of that operation list, and
  that a header the parser accepts meets the link layer's payload conditions (`header_prefix`,
  `payloadCond_of_header`), as does the trailer (`payloadCond_trailer`).
-/
namespace SameVerif.Chain
open SameVerif SameVerif.Asm SameVerif.Spec

theorem mkTicks_append (samples : Nat → Nat) (sym0 : Nat) (L1 : List LinkSt) : ∀ (i : Nat) (L2 : List LinkSt),
    mkTicks samples sym0 i (L1 ++ L2)
      = mkTicks samples sym0 i L1 ++ mkTicks samples sym0 (i + L1.length) L2 := by
  induction L1 with
  | nil => intro i L2; rfl
  | cons x L1 ih =>
    intro i L2
    simp only [List.cons_append, mkTicks, ih, List.length_cons]
    rw [show i + 1 + L1.length = i + (L1.length + 1) by omega]

theorem mem_mkTicks (samples : Nat → Nat) (sym0 : Nat) (L : List LinkSt) : ∀ (i : Nat) (tk : RTick),
    tk ∈ mkTicks samples sym0 i L →
    ∃ j, i ≤ j ∧ j < i + L.length ∧ tk.1 = samples j ∧ tk.2.1 = sym0 + 1 + j := by
  induction L with
  | nil => intro i tk h; cases h
  | cons x L ih =>
    intro i tk h
    simp only [mkTicks, List.mem_cons] at h
    rcases h with h | h
    · exact ⟨i, Nat.le_refl _, by simp, by rw [h], by rw [h]⟩
    · obtain ⟨j, h1, h2, h3, h4⟩ := ih (i + 1) tk h
      exact ⟨j, by omega, by simp only [List.length_cons]; omega, h3, h4⟩

theorem samplesWithin_mkTicks (rate smax : Nat) (samples : Nat → Nat) (sym0 i : Nat) (L : List LinkSt)
    (h : ∀ j, i ≤ j → j < i + L.length → samples j ≤ smax ∧ smax ≤ samples j + TIMEOUT rate) :
    SamplesWithin rate smax (mkTicks samples sym0 i L) := by
  constructor
  · intro tk htk
    obtain ⟨j, h1, h2, h3, _⟩ := mem_mkTicks samples sym0 L i tk htk
    rw [h3]; exact (h j h1 h2).1
  · intro tk htk
    obtain ⟨j, h1, h2, h3, _⟩ := mem_mkTicks samples sym0 L i tk htk
    rw [h3]; exact (h j h1 h2).2

/-! ### the operations of the composed run -/

/-- the operations of ticks `i …` -/
abbrev opsAt (samples : Nat → Nat) (sym0 i : Nat) (L : List LinkSt) : List AOp :=
  opsOfTicks (mkTicks samples sym0 i L)

theorem opsAt_cons (samples : Nat → Nat) (sym0 i : Nat) (x : LinkSt) (L : List LinkSt) :
    opsAt samples sym0 i (x :: L)
      = opOfTick (samples i, sym0 + 1 + i, x) ++ opsAt samples sym0 (i + 1) L := by
  simp only [opsAt, mkTicks, opsOfTicks_cons]

theorem opsAt_append (samples : Nat → Nat) (sym0 i : Nat) (L1 L2 : List LinkSt) :
    opsAt samples sym0 i (L1 ++ L2)
      = opsAt samples sym0 i L1 ++ opsAt samples sym0 (i + L1.length) L2 := by
  simp only [opsAt, mkTicks_append, opsOfTicks_append]

theorem opsAt_time (samples : Nat → Nat) (sym0 : Nat) (L : List LinkSt) : ∀ (i : Nat),
    ∀ op ∈ opsAt samples sym0 i L, sym0 + 1 + i ≤ op.time ∧ op.time < sym0 + 1 + i + L.length := by
  induction L with
  | nil => intro i op h; cases h
  | cons x L ih =>
    intro i op h
    rw [opsAt_cons] at h
    rcases List.mem_append.1 h with h | h
    · have : op.time = sym0 + 1 + i := by
        cases x <;> simp [opOfTick] at h <;> rw [h] <;> rfl
      simp only [List.length_cons]; omega
    · have := ih (i + 1) op h
      simp only [List.length_cons]; omega

theorem opsAt_sorted (samples : Nat → Nat) (sym0 : Nat) (L : List LinkSt) : ∀ (i : Nat),
    Sorted (opsAt samples sym0 i L) := by
  induction L with
  | nil => intro i; exact List.Pairwise.nil
  | cons x L ih =>
    intro i
    rw [opsAt_cons]
    unfold Sorted
    rw [List.pairwise_append]
    refine ⟨?_, ih (i + 1), ?_⟩
    · cases x <;> simp [opOfTick]
    · intro a ha b hb
      have h1 : a.time = sym0 + 1 + i := by
        cases x <;> simp [opOfTick] at ha <;> rw [ha] <;> rfl
      have h2 := (opsAt_time samples sym0 L (i + 1) b hb).1
      omega

/-! ### the operations of a list of link states cut at a tick -/

/-- the symbol counts of the `.noCarrier` ticks of a stretch that starts at tick `i` -/
def pollsAt (sym0 : Nat) : Nat → List LinkSt → List Nat
  | _, [] => []
  | i, .noCarrier :: L => (sym0 + 1 + i) :: pollsAt sym0 (i + 1) L
  | i, _ :: L => pollsAt sym0 (i + 1) L

theorem opsAt_pollsAt (samples : Nat → Nat) (sym0 : Nat) (L : List LinkSt) (h : NoBurst L) : ∀ (i : Nat),
    opsAt samples sym0 i L = (pollsAt sym0 i L).map .poll := by
  induction L with
  | nil => intro i; rfl
  | cons x L ih =>
    intro i
    have ih' := ih (fun ls hls => h ls (List.mem_cons_of_mem _ hls)) (i + 1)
    rw [opsAt_cons, ih']
    cases x with
    | burst b => exact absurd rfl (h (.burst b) List.mem_cons_self b)
    | noCarrier => rfl
    | searching => rfl
    | reading => rfl

theorem mem_pollsAt (sym0 : Nat) (L : List LinkSt) : ∀ (i u : Nat),
    u ∈ pollsAt sym0 i L ↔ ∃ j, L[j]? = some .noCarrier ∧ u = sym0 + 1 + (i + j) := by
  induction L with
  | nil => intro i u; simp [pollsAt]
  | cons x L ih =>
    intro i u
    have hl : u ∈ pollsAt sym0 i (x :: L)
        ↔ (x = .noCarrier ∧ u = sym0 + 1 + i) ∨ u ∈ pollsAt sym0 (i + 1) L := by
      cases x <;> simp [pollsAt]
    rw [hl, ih]
    constructor
    · rintro (⟨rfl, rfl⟩ | ⟨j, h1, h2⟩)
      · exact ⟨0, rfl, rfl⟩
      · exact ⟨j + 1, by simpa using h1, by omega⟩
    · rintro ⟨j, h1, h2⟩
      cases j with
      | zero => exact Or.inl ⟨by simpa using h1, h2⟩
      | succ j => exact Or.inr ⟨j, by simpa using h1, by omega⟩

theorem opsAt_cut (samples : Nat → Nat) (sym0 i : Nat) (P : List LinkSt) (x : LinkSt) (R : List LinkSt)
    (h : NoBurst P) :
    opsAt samples sym0 i (P ++ x :: R)
      = (pollsAt sym0 i P).map .poll ++ (opOfTick (samples (i + P.length), sym0 + 1 + (i + P.length), x)
          ++ opsAt samples sym0 (i + P.length + 1) R) := by
  rw [opsAt_append, opsAt_cons, opsAt_pollsAt _ _ _ h]

theorem getElem?_skip {α : Type} (A : List α) (x : α) (R : List α) (k : Nat) :
    (A ++ x :: R)[A.length + 1 + k]? = R[k]? := by
  rw [List.getElem?_append_right (by omega), show A.length + 1 + k - A.length = k + 1 by omega,
    List.getElem?_cons_succ]

theorem getElem?_at {α : Type} (A : List α) (x : α) (R : List α) :
    (A ++ x :: R)[A.length]? = some x := by
  rw [List.getElem?_append_right (Nat.le_refl _), Nat.sub_self, List.getElem?_cons_zero]

/-! ### the message events of the composed run -/

theorem chain_events (rate sym0 smax : Nat) (samples : Nat → Nat) (L : List LinkSt)
    (hsamp : ∀ i, i < L.length → samples i ≤ smax ∧ smax ≤ samples i + TIMEOUT rate)
    (hone : eomCount (runOps {} (opsAt samples sym0 0 L)).2 ≤ 1) :
    Forall₂ (fun e o => ∃ i, i < L.length ∧ e = (samples i, o.2) ∧ o.1 = sym0 + 1 + i)
      (msgEvents (rRun rate {} (mkTicks samples sym0 0 L)).2) (runOps {} (opsAt samples sym0 0 L)).2 := by
  have hsw : SamplesWithin rate smax (mkTicks samples sym0 0 L) :=
    samplesWithin_mkTicks rate smax samples sym0 0 L (fun j _ hj => hsamp j (by omega))
  refine Forall₂.imp ?_ (run_events rate smax _ {} rInv_init (noFire_init smax) hsw hone (fun h => by cases h))
  rintro ⟨smp, r⟩ ⟨u, r'⟩ ⟨hr, ls, hm⟩
  obtain ⟨i, _, hi, h1, h2⟩ := mem_mkTicks samples sym0 L 0 _ hm
  simp only at hr h1 h2
  exact ⟨i, by omega, by rw [h1, hr], h2⟩

/-! ### leading polls -/

theorem run_polls_init (polls : List Nat) :
    (runOps {} (polls.map .poll)).2 = []
      ∧ (runOps {} (polls.map .poll)).1.history = []
      ∧ (runOps {} (polls.map .poll)).1.pending = none
      ∧ (runOps {} (polls.map .poll)).1.previous = none := by
  obtain ⟨h1, h2, h3⟩ := run_polls_quiet polls {} rfl
  have h4 := run_polls_history_sublist polls {}
  exact ⟨h1, List.eq_nil_of_sublist_nil h4, h2, h3⟩

/-! ### canonical headers and the trailer meet the link layer's payload conditions -/

theorem stripLit_cons_isSome (l : Byte) (ls s : List Byte) (h : (stripLit (l :: ls) s).isSome = true) :
    ∃ cs, s = l :: cs ∧ (stripLit ls cs).isSome = true := by
  cases s with
  | nil => simp [stripLit] at h
  | cons c cs =>
    by_cases hc : l = c
    · subst hc
      exact ⟨cs, rfl, by simpa [stripLit] using h⟩
    · simp [stripLit, hc] at h

theorem header_prefix (H : List Byte) (r : Nat × Nat) (h : checkHeader H = some r) :
    ∃ rest, H = 90 :: 67 :: 90 :: 67 :: 45 :: rest := by
  have hs := startsWith_of_checkHeader H r h
  simp only [startsWith, litZCZC] at hs
  obtain ⟨s1, rfl, hs1⟩ := stripLit_cons_isSome _ _ _ hs
  obtain ⟨s2, rfl, hs2⟩ := stripLit_cons_isSome _ _ _ hs1
  obtain ⟨s3, rfl, hs3⟩ := stripLit_cons_isSome _ _ _ hs2
  obtain ⟨s4, rfl, hs4⟩ := stripLit_cons_isSome _ _ _ hs3
  obtain ⟨s5, rfl, _⟩ := stripLit_cons_isSome _ _ _ hs4
  exact ⟨s5, rfl⟩

theorem payloadCond_of_header (c : LCfg) (H : List Byte) (r : Nat × Nat) (hcan : checkHeader H = some r)
    (hall : ∀ b ∈ H, isAllowed b = true) (hfits : H.length ≤ Gen.MAX_BURST_LENGTH) :
    PayloadCond c H := by
  obtain ⟨rest, rfl⟩ := header_prefix H r hcan
  refine ⟨⟨Or.inl rfl, hall, hfits⟩, fun _ => rfl, ?_⟩
  intro h
  simp at h

/-- a trailer burst meets the link layer's payload conditions when the prefix budget is at most 4
    (`C01.nnnn_prefix_budget5`: with budget 5 it would not; the shipped budget is 2) -/
theorem payloadCond_trailer (c : LCfg) (hP4 : c.fc.maxPrefixErr ≤ 4) : PayloadCond c litNNNN :=
  ⟨⟨Or.inr rfl, by decide, by decide⟩, fun h => absurd h (by decide), fun _ => hP4⟩

end SameVerif.Chain
