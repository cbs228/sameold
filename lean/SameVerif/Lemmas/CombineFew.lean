import SameVerif.Lemmas.CombineTwo
/-
  `estimate_message` / `combine` on one and on two bursts, by reduction to the three-burst lemmas:
  an exhausted burst in front of the others changes nothing.
-/
namespace SameVerif.Asm
open SameVerif.Spec

theorem estimateLoop_nil_cons (cap : Nat) : ∀ bs : List (List Byte),
    estimateLoop cap ([] :: bs) = estimateLoop cap bs := by
  induction cap with
  | zero => intro bs; rfl
  | succ c ih =>
    intro bs
    simp only [estimateLoop, List.filterMap_cons, List.head?_nil, List.map_cons, List.tail_nil, ih]
    rfl

theorem combine_congr (maxLen : Nat) (a b : List (List Byte))
    (h : estimateMessage maxLen a = estimateMessage maxLen b) : combine maxLen a = combine maxLen b := by
  unfold combine
  rw [h]

theorem estimateMessage_pair (maxLen : Nat) (H : List Byte) :
    estimateMessage maxLen [H, H] = estimateMessage maxLen (arrange 0 H []) := by
  simp only [estimateMessage, arrange, List.take]
  rw [estimateLoop_nil_cons]

theorem estimateMessage_single (maxLen : Nat) (b : List Byte) :
    estimateMessage maxLen [b] = estimateLoop maxLen (arrange 2 [] b) := by
  simp only [estimateMessage, arrange, List.take]
  rw [estimateLoop_nil_cons, estimateLoop_nil_cons]

theorem estimateLoop_single_head (cap : Nat) (b : List Byte) (e : EstByte) (es : List EstByte)
    (h : estimateLoop cap [b] = e :: es) : ∃ x xs, b = x :: xs ∧ e.byte = x &&& ~~~(0x80 : Byte) := by
  cases cap with
  | zero => simp [estimateLoop] at h
  | succ c =>
    cases b with
    | nil => simp [estimateLoop, voteAt, List.filterMap] at h
    | cons x xs =>
      refine ⟨x, xs, rfl, ?_⟩
      simp only [estimateLoop, List.filterMap_cons, List.head?_cons, List.filterMap_nil, List.map_cons,
        List.map_nil, voteAt] at h
      split at h
      · cases h
      · cases h; rfl

theorem truncLen_ones (counts : List Nat) (h : ∀ c ∈ counts, c = 1) : truncLen counts 2 = 0 := by
  cases counts with
  | nil => rfl
  | cons c cs =>
    have : c = 1 := h c (by simp)
    subst this
    simp [truncLen]

/-- nothing of a single burst is backed by two bursts, so the parser sees the empty text: only
    the trailer test on the raw estimate can succeed -/
theorem combine_single_eq (maxLen : Nat) (b : List Byte) :
    combine maxLen [b]
      = if prefixIsEom ((estimateMessage maxLen [b]).map (·.byte)) then some (.ok .eom) else none := by
  unfold combine
  simp only
  split
  · rename_i he
    rw [List.isEmpty_iff.mp he]
    rfl
  · have hc : truncLen ((estimateMessage maxLen [b]).map (·.nbursts)) 2 = 0 := by
      apply truncLen_ones
      intro c hc
      obtain ⟨e, he, rfl⟩ := List.mem_map.mp hc
      rw [estimateMessage_single] at he
      exact estimateLoop_tail_single 2 maxLen b e he
    have ht : ∀ errs counts, Msg.tryFromBytes [] errs counts = .error .unrecognizedPrefix :=
      fun _ _ => rfl
    simp only [hc, List.take_zero, ht]
    split <;> rfl

theorem combine_single (maxLen : Nat) (b : List Byte) :
    combine maxLen [b] = none ∨ combine maxLen [b] = some (.ok .eom) := by
  rw [combine_single_eq]
  split
  · exact Or.inr rfl
  · exact Or.inl rfl

theorem combine_single_eom (maxLen : Nat) (b : List Byte) (h : combine maxLen [b] = some (.ok .eom)) :
    ∃ x xs, b = x :: xs ∧ (x &&& ~~~(0x80 : Byte)) = 78 := by
  rw [combine_single_eq] at h
  split at h
  · rename_i hp
    cases hest : estimateMessage maxLen [b] with
    | nil => rw [hest] at hp; simp [prefixIsEom] at hp
    | cons e es =>
      have hest' : estimateLoop maxLen [b] = e :: es := by
        simpa [estimateMessage] using hest
      obtain ⟨x, xs, hb, hx⟩ := estimateLoop_single_head maxLen b e es hest'
      refine ⟨x, xs, hb, ?_⟩
      rw [hest] at hp
      cases es with
      | nil => simp [prefixIsEom] at hp
      | cons e2 es2 =>
        simp [prefixIsEom] at hp
        rw [← hx]; exact hp.1
  · cases h

theorem head_of_checkHeader (H : List Byte) (r : Nat × Nat) (h : checkHeader H = some r) :
    ∃ rest, H = 90 :: rest := by
  have hs := startsWith_of_checkHeader H r h
  cases H with
  | nil => simp [startsWith, stripLit, litZCZC] at hs
  | cons c cs =>
    by_cases hc : (90 : Byte) = c
    · exact ⟨cs, by rw [hc]⟩
    · simp [startsWith, stripLit, litZCZC, hc] at hs

theorem combine_single_prefixed (maxLen : Nat) (H g : List Byte) (r : Nat × Nat)
    (hcan : checkHeader H = some r) : combine maxLen [H ++ g] = none := by
  rcases combine_single maxLen (H ++ g) with h | h
  · exact h
  · obtain ⟨x, xs, hb, hx⟩ := combine_single_eom maxLen (H ++ g) h
    obtain ⟨rest, hr⟩ := head_of_checkHeader H r hcan
    rw [hr] at hb
    cases hb
    exact absurd hx (by decide)

theorem combine_single_header (maxLen : Nat) (H : List Byte) (r : Nat × Nat)
    (hcan : checkHeader H = some r) : combine maxLen [H] = none := by
  simpa using combine_single_prefixed maxLen H [] r hcan

end SameVerif.Asm
