import SameVerif.Lemmas.CombineFew
import SameVerif.Lemmas.DashFreeTail
import SameVerif.Model.Assembler
/-
  `estimate_message` / `combine` on bursts `H ++ g_i` that share the canonical header `H` and
  differ only in what follows it, and on bursts that begin `NN`; the condition on the tails of two
  bursts that follows from the condition on three.
-/
namespace SameVerif
open SameVerif.Spec

/-- the estimate over a stretch on which `n` bursts hold the same allowed bytes -/
def agreePart (n : Nat) (H : List Byte) : List EstByte := H.map (fun h => ⟨h, n, 0⟩)

theorem agreePart_length (n : Nat) (H : List Byte) : (agreePart n H).length = H.length := by
  simp [agreePart]

theorem agreePart_cons (n : Nat) (h : Byte) (hs : List Byte) :
    agreePart n (h :: hs) = ⟨h, n, 0⟩ :: agreePart n hs := rfl

theorem agreePart_bytes (n : Nat) (H : List Byte) : (agreePart n H).map (·.byte) = H := by
  induction H with
  | nil => rfl
  | cons h hs ih => simp [agreePart_cons, ih]

theorem disputes2_self (h : Byte) : disputes2 h h = 0 := by
  simp [disputes2]

theorem voteCorrect_same (h : Byte) : voteCorrect h h h = (h, 0) := by
  rw [voteCorrect_hhx, disputes2_self]

theorem estimateLoop_cons_agree (cap : Nat) (h : Byte) (gs : List (List Byte))
    (hh : isAllowed h = true) (hn : gs.length = 2 ∨ gs.length = 3) :
    estimateLoop (cap + 1) (gs.map (h :: ·)) = ⟨h, gs.length, 0⟩ :: estimateLoop cap gs := by
  have hm : h &&& ~~~(0x80 : Byte) = h := allowed_mask h hh
  have hmsb : ((h &&& 0x80) != 0) = false := allowed_msb h hh
  match gs, hn with
  | [a, b], _ => simp [estimateLoop, voteAt, List.filterMap, hm, hmsb, voteDetect_same, hh]
  | [a, b, c], _ => simp [estimateLoop, voteAt, List.filterMap, hm, hmsb, voteCorrect_same, hh]
  | [], hn => simp at hn
  | [_], hn => simp at hn
  | _ :: _ :: _ :: _ :: _, hn => simp at hn

theorem estimateLoop_prefix (H : List Byte) : ∀ (gs : List (List Byte)) (cap : Nat),
    (∀ b ∈ H, isAllowed b = true) → H.length ≤ cap → (gs.length = 2 ∨ gs.length = 3) →
    estimateLoop cap (gs.map (H ++ ·)) = agreePart gs.length H ++ estimateLoop (cap - H.length) gs := by
  induction H with
  | nil => intro gs cap _ _ _; simp [agreePart]
  | cons h hs ih =>
    intro gs cap hall hcap hn
    obtain ⟨cap', rfl⟩ : ∃ c, cap = c + 1 := ⟨cap - 1, by simp at hcap; omega⟩
    have hmap : gs.map ((h :: hs) ++ ·) = (gs.map (hs ++ ·)).map (h :: ·) := by
      rw [List.map_map]; rfl
    rw [hmap, estimateLoop_cons_agree cap' h _ (hall h (by simp)) (by rw [List.length_map]; exact hn),
      ih gs cap' (fun b hb => hall b (by simp [hb])) (by simp at hcap; omega) hn, List.length_map,
      agreePart_cons]
    simp

theorem estimateLoop_allowed (cap : Nat) (bs : List (List Byte)) :
    ∀ e ∈ estimateLoop cap bs, isAllowed e.byte = true := by
  intro e he
  obtain ⟨i, hi⟩ := List.getElem?_of_mem he
  exact (estimateLoop_entry cap bs i e hi).2.2

/-- the bytes (eighth bit cleared) that the bursts hold at position `j`, in burst order -/
def columnAt (gs : List (List Byte)) (j : Nat) : List Byte :=
  (gs.filterMap (fun g => g[j]?)).map mask7

theorem columnAt_eq_column (gs : List (List Byte)) (j : Nat) : columnAt gs j = column gs j := by
  unfold columnAt column
  rw [List.map_filterMap]
  rfl

theorem estimateLoop_mem_vote (cap : Nat) (gs : List (List Byte)) (e : EstByte)
    (he : e ∈ estimateLoop cap gs) :
    ∃ j v, voteAt (columnAt gs j) = some (e.byte, v) ∧ e.nbursts = (columnAt gs j).length := by
  obtain ⟨i, hi⟩ := List.getElem?_of_mem he
  obtain ⟨⟨n, hv⟩, hn, _⟩ := estimateLoop_entry cap gs i e hi
  rw [← columnAt_eq_column] at hv hn
  exact ⟨i, n, hv, hn⟩

theorem estimateLoop_take : ∀ (cap : Nat) (gs : List (List Byte)),
    estimateLoop cap (gs.map (List.take cap)) = estimateLoop cap gs := by
  intro cap
  induction cap with
  | zero => intro gs; rfl
  | succ c ih =>
    intro gs
    have h1 : (gs.map (List.take (c + 1))).filterMap List.head? = gs.filterMap List.head? := by
      rw [List.filterMap_map]
      congr 1
      funext g
      cases g <;> rfl
    have h2 : (gs.map (List.take (c + 1))).map List.tail = (gs.map List.tail).map (List.take c) := by
      rw [List.map_map, List.map_map]
      congr 1
      funext g
      cases g <;> simp
    simp only [estimateLoop, h1, h2, ih]

theorem combine_clip (n : Nat) (bs : List (List Byte)) :
    combine n (bs.map (List.take n)) = combine n bs := by
  apply Asm.combine_congr
  unfold estimateMessage
  rw [← List.map_take, estimateLoop_take]

theorem take_header_tail (H g : List Byte) (n : Nat) (h : H.length ≤ n) :
    (H ++ g).take n = H ++ g.take (n - H.length) := by
  rw [List.take_append, List.take_of_length_le h]

theorem take_length_takeWhile {α} (p : α → Bool) (l : List α) :
    l.take (l.takeWhile p).length = l.takeWhile p := by
  induction l with
  | nil => rfl
  | cons a l ih =>
    by_cases h : p a = true
    · simp [h, ih]
    · simp [h]

theorem mem_takeWhile_holds {α} (p : α → Bool) (l : List α) (a : α) (h : a ∈ l.takeWhile p) : p a = true := by
  induction l with
  | nil => simp at h
  | cons b l ih =>
    by_cases hb : p b = true
    · simp only [List.takeWhile_cons, hb, ↓reduceIte, List.mem_cons] at h
      rcases h with rfl | h
      · exact hb
      · exact ih h
    · simp [hb] at h

theorem truncated_prefix (pre tl : List EstByte) (hback : ∀ e ∈ pre, 2 ≤ e.nbursts) :
    ((pre ++ tl).map (·.byte)).take (truncLen ((pre ++ tl).map (·.nbursts)) 2)
      = pre.map (·.byte) ++ (tl.takeWhile (fun e => !(e.nbursts < 2))).map (·.byte) := by
  have h2 : (pre ++ tl).takeWhile ((fun v => !(v < 2)) ∘ (·.nbursts))
      = pre ++ tl.takeWhile (fun e => !(e.nbursts < 2)) :=
    List.takeWhile_append_of_pos (fun a ha => by have := hback a ha; simp; omega)
  unfold truncLen
  rw [List.takeWhile_map, List.length_map, ← List.map_take, take_length_takeWhile, h2, List.map_append]

theorem count_zip_fst {α β} (q : α → Bool) (l : List α) (r : List β) (h : l.length ≤ r.length) :
    ((l.zip r).filter (fun p => q p.1)).length = (l.filter q).length := by
  conv => rhs; rw [← List.map_fst_zip (l₂ := r) h, List.filter_map, List.length_map]
  rfl

theorem newWithErrorInfo_tail (H t : List Byte) (off : Nat) (errs counts : List Nat)
    (hascii : ∀ b ∈ H ++ t, b < 128) (hchk : checkHeader (H ++ t) = some (off, H.length)) :
    Header.newWithErrorInfo (H ++ t) errs counts
      = .ok ⟨H, off, ((errs.zip H).map (·.1)).sum, ((counts.zip H).filter (fun p => !(p.1 < 3))).length⟩ := by
  have hall : (H ++ t).all isAsciiByte = true := by
    rw [List.all_eq_true]
    intro b hb
    simpa [isAsciiByte] using hascii b hb
  simp [Header.newWithErrorInfo, Header.newWithErrors, Header.new, hall, hchk]

/-- The well-backed part of the estimate that is handed to the parser is `H` followed by dash-free
    text, which the header pattern cannot extend into: the result is exactly `H`. -/
theorem combine_of_prefix (maxLen : Nat) (bs : List (List Byte)) (H : List Byte) (off : Nat)
    (pre tl : List EstByte)
    (hest : estimateMessage maxLen bs = pre ++ tl)
    (hpre : pre.map (·.byte) = H)
    (hback : ∀ e ∈ pre, 2 ≤ e.nbursts)
    (hall : ∀ b ∈ H, isAllowed b = true)
    (hcan : checkHeader H = some (off, H.length))
    (htl : ∀ e ∈ tl, isAllowed e.byte = true)
    (hdash : ∀ e ∈ tl, 2 ≤ e.nbursts → e.byte ≠ 45) :
    combine maxLen bs = some (.ok (.som ⟨H, off, (pre.map (·.errs)).sum,
      (pre.filter (fun e => !(e.nbursts < 3))).length⟩)) := by
  have hlen : pre.length = H.length := by rw [← hpre, List.length_map]
  unfold combine
  rw [hest]
  have hempty : (pre ++ tl).isEmpty = false := by
    cases pre with
    | nil => exact absurd (by simpa using hpre.symm) (ne_nil_of_checkHeader H _ hcan)
    | cons a l => rfl
  simp only [hempty]
  rw [truncated_prefix pre tl hback, hpre]
  generalize ht : (tl.takeWhile (fun e => !(e.nbursts < 2))).map (·.byte) = t
  have htmem : ∀ b ∈ t, isAllowed b = true ∧ b ≠ 45 := by
    intro b hb
    rw [← ht] at hb
    obtain ⟨e, he, rfl⟩ := List.mem_map.mp hb
    have hm := (List.takeWhile_sublist _).subset he
    have hp := mem_takeWhile_holds _ _ e he
    exact ⟨htl e hm, hdash e hm (by simp at hp; omega)⟩
  have hascii : ∀ b ∈ H ++ t, b < 128 := by
    intro b hb
    rcases List.mem_append.mp hb with hb | hb
    · exact allowed_lt_128 b (hall b hb)
    · exact allowed_lt_128 b (htmem b hb).1
  have hstart : startsWith (H ++ t) litZCZC = true := by
    obtain ⟨r, hr⟩ := (startsWith_iff H litZCZC).mp (startsWith_of_checkHeader H _ hcan)
    exact (startsWith_iff _ _).mpr ⟨r ++ t, by rw [hr, List.append_assoc]⟩
  have hchk := checkHeader_dashfree_tail H off t hcan (fun b hb => (htmem b hb).2)
  -- the counters are taken over the length of `H`, i.e. over `pre`
  have hzip : ∀ f : EstByte → Nat, ((pre ++ tl).map f).zip H = (pre.map f).zip H := by
    intro f
    have := List.zip_append (l₁ := pre.map f) (r₁ := tl.map f) (l₂ := H) (r₂ := [])
      (by rw [List.length_map, hlen])
    simpa using this
  simp only [Msg.tryFromBytes, validUtf8_of_ascii _ hascii, hstart,
    newWithErrorInfo_tail H t off _ _ hascii hchk, hzip,
    List.map_fst_zip (l₁ := pre.map (·.errs)) (l₂ := H) (by rw [List.length_map, hlen]; exact Nat.le_refl _),
    count_zip_fst (fun n => !(n < 3)) (pre.map (·.nbursts)) H (by rw [List.length_map, hlen]; exact Nat.le_refl _),
    List.filter_map, List.length_map]
  rfl

theorem drop_agreePart (n : Nat) (H : List Byte) (tl : List EstByte) :
    (agreePart n H ++ tl).drop H.length = tl := by
  rw [← agreePart_length n H]
  exact List.drop_left

theorem combine_two_tails_third (maxLen pos : Nat) (H g2 g3 X : List Byte) (off : Nat)
    (hall : ∀ b ∈ H, isAllowed b = true)
    (hcan : checkHeader H = some (off, H.length))
    (hfit : H.length ≤ maxLen)
    (hdash : ∀ e ∈ estimateLoop (maxLen - H.length) (arrange3 pos g2 g3 (X.drop H.length)),
      2 ≤ e.nbursts → e.byte ≠ 45) :
    combine maxLen (arrange3 pos (H ++ g2) (H ++ g3) X)
      = some (.ok (.som ⟨H, off, specParity H X, specVoting H X⟩)) := by
  have htake3 : (arrange3 pos (H ++ g2) (H ++ g3) X).take 3 = arrange3 pos (H ++ g2) (H ++ g3) X := by
    rcases pos with _ | _ | n <;> rfl
  have hest : estimateMessage maxLen (arrange3 pos (H ++ g2) (H ++ g3) X)
      = zipPart H X ++ estimateLoop (maxLen - H.length) (arrange3 pos g2 g3 (X.drop H.length)) := by
    unfold estimateMessage
    rw [htake3]
    exact estimateLoop_two_agree pos H g2 g3 X maxLen hall hfit
  have := combine_of_prefix maxLen _ H off _ _ hest (zipPart_bytes H X) (zipPart_counts_ge H X) hall
    hcan (estimateLoop_allowed _ _) hdash
  rwa [zipPart_errs_sum, zipPart_voting] at this

theorem agreePart_nbursts (n : Nat) (H : List Byte) : ∀ e ∈ agreePart n H, e.nbursts = n := by
  intro e he
  obtain ⟨b, _, rfl⟩ := List.mem_map.mp he
  rfl

theorem agreePart_errs (n : Nat) (H : List Byte) : ((agreePart n H).map (·.errs)).sum = 0 := by
  induction H with
  | nil => rfl
  | cons h hs ih => simpa [agreePart_cons] using ih

theorem agreePart_voting (n : Nat) (H : List Byte) :
    ((agreePart n H).filter (fun e => !(e.nbursts < 3))).length = if n < 3 then 0 else H.length := by
  induction H with
  | nil => simp [agreePart]
  | cons h hs ih =>
    rw [agreePart_cons, List.filter_cons]
    by_cases hn : n < 3
    · simpa [hn] using ih
    · simpa [hn] using ih

theorem combine_of_agree (maxLen : Nat) (bs : List (List Byte)) (H : List Byte) (off n : Nat)
    (tl : List EstByte) (hn : 2 ≤ n)
    (hest : estimateMessage maxLen bs = agreePart n H ++ tl)
    (hall : ∀ b ∈ H, isAllowed b = true)
    (hcan : checkHeader H = some (off, H.length))
    (htl : ∀ e ∈ tl, isAllowed e.byte = true)
    (hdash : ∀ e ∈ tl, 2 ≤ e.nbursts → e.byte ≠ 45) :
    combine maxLen bs = some (.ok (.som ⟨H, off, 0, if n < 3 then 0 else H.length⟩)) := by
  have := combine_of_prefix maxLen bs H off _ tl hest (agreePart_bytes n H)
    (fun e he => by rw [agreePart_nbursts n H e he]; exact hn) hall hcan htl hdash
  rwa [agreePart_errs, agreePart_voting] at this

theorem startsWith_nil_ZCZC : startsWith [] litZCZC = false := rfl

theorem startsWith_78_ZCZC (l : List Byte) : startsWith (78 :: l) litZCZC = false := by
  simp [startsWith, litZCZC, stripLit]

/-- whatever the parser makes of the well-backed part of an estimate that begins `NN`, the
    answer is EndOfMessage: either the parser says so, or the raw-prefix test does -/
theorem combine_eom_of_estimate (maxLen : Nat) (bs : List (List Byte)) (a b : EstByte)
    (rest : List EstByte) (hest : estimateMessage maxLen bs = a :: b :: rest)
    (ha : a.byte = 78) (hb : b.byte = 78) : combine maxLen bs = some (.ok .eom) := by
  unfold combine
  rw [hest]
  simp only [List.isEmpty_cons, Bool.false_eq_true, ↓reduceIte, List.map_cons, ha, hb]
  generalize truncLen (a.nbursts :: b.nbursts :: rest.map (·.nbursts)) 2 = k
  generalize a.errs :: b.errs :: rest.map (·.errs) = errs
  generalize a.nbursts :: b.nbursts :: rest.map (·.nbursts) = counts
  have hpre : prefixIsEom (78 :: 78 :: rest.map (·.byte)) = true := rfl
  have hzc : startsWith ((78 :: 78 :: rest.map (·.byte)).take k) litZCZC = false := by
    cases k with
    | zero => rfl
    | succ k => rw [List.take_succ_cons]; exact startsWith_78_ZCZC _
  have hcases : Msg.tryFromBytes ((78 :: 78 :: rest.map (·.byte)).take k) errs counts = .ok .eom
      ∨ ∃ e, Msg.tryFromBytes ((78 :: 78 :: rest.map (·.byte)).take k) errs counts = .error e := by
    unfold Msg.tryFromBytes
    rw [hzc]
    by_cases hv : validUtf8 ((78 :: 78 :: rest.map (·.byte)).take k) = true
    · by_cases hn : startsWith ((78 :: 78 :: rest.map (·.byte)).take k) litNN = true
      · left; simp [hv, hn]
      · right; exact ⟨.unrecognizedPrefix, by simp [hv, hn]⟩
    · right; exact ⟨.notAscii, by simp [hv]⟩
  rcases hcases with h | ⟨e, h⟩
  · rw [h]
  · rw [h]; simp only [hpre, ↓reduceIte]

theorem mask78 : (78 : Byte) &&& ~~~(0x80 : Byte) = 78 := by decide
theorem msb78 : (((78 : Byte) &&& 0x80) != 0) = false := by decide
theorem allowed78 : isAllowed 78 = true := by decide

theorem est_trailers (c : Nat) (rs : List (List Byte))
    (hn : rs.length = 1 ∨ rs.length = 2 ∨ rs.length = 3) :
    ∃ a b rest, estimateLoop (c + 2) (rs.map (78 :: 78 :: ·)) = a :: b :: rest
      ∧ a.byte = 78 ∧ b.byte = 78 := by
  match rs, hn with
  | [r1], _ =>
    exact ⟨⟨78, 1, 0⟩, ⟨78, 1, 0⟩, estimateLoop c [r1],
      by simp [estimateLoop, voteAt, List.filterMap, mask78, msb78, allowed78], rfl, rfl⟩
  | [r1, r2], _ =>
    exact ⟨⟨78, 2, 0⟩, ⟨78, 2, 0⟩, estimateLoop c [r1, r2],
      by simp [estimateLoop, voteAt, List.filterMap, mask78, msb78, allowed78, voteDetect_same], rfl, rfl⟩
  | [r1, r2, r3], _ =>
    exact ⟨⟨78, 3, 0⟩, ⟨78, 3, 0⟩, estimateLoop c [r1, r2, r3],
      by simp [estimateLoop, voteAt, List.filterMap, mask78, msb78, allowed78, voteCorrect_same], rfl, rfl⟩
  | [], hn => simp at hn
  | _ :: _ :: _ :: _ :: _, hn => simp at hn

theorem est_foreign_trailer2 (c : Nat) (x0 x1 : Byte) (xr r1 r2 : List Byte) :
    ∃ a b rest, estimateLoop (c + 2) [x0 :: x1 :: xr, 78 :: 78 :: r1, 78 :: 78 :: r2] = a :: b :: rest
      ∧ a.byte = 78 ∧ b.byte = 78 := by
  refine ⟨⟨78, 3, disputes2 78 (x0 &&& ~~~(0x80 : Byte)) + (if ((x0 &&& 0x80) != 0) then 1 else 0)⟩,
    ⟨78, 3, disputes2 78 (x1 &&& ~~~(0x80 : Byte)) + (if ((x1 &&& 0x80) != 0) then 1 else 0)⟩,
    estimateLoop c [xr, r1, r2], ?_, rfl, rfl⟩
  simp [estimateLoop, voteAt, List.filterMap, mask78, msb78, allowed78, voteCorrect_xhh]

theorem combine_trailers (c : Nat) (rs : List (List Byte))
    (hn : rs.length = 1 ∨ rs.length = 2 ∨ rs.length = 3) :
    combine (c + 2) (rs.map (78 :: 78 :: ·)) = some (.ok .eom) := by
  obtain ⟨a, b, rest, h, ha, hb⟩ := est_trailers c rs hn
  refine combine_eom_of_estimate (c + 2) _ a b rest ?_ ha hb
  unfold estimateMessage
  rw [List.take_of_length_le (by rw [List.length_map]; omega)]
  exact h

theorem combine_trailers_max (rs : List (List Byte))
    (hn : rs.length = 1 ∨ rs.length = 2 ∨ rs.length = 3) :
    combine MAXLEN (rs.map (78 :: 78 :: ·)) = some (.ok .eom) := by
  have h := combine_trailers (MAXLEN - 2) rs hn
  rwa [show MAXLEN - 2 + 2 = MAXLEN by decide] at h

theorem combine_trailer_one : combine MAXLEN [litNNNN] = some (.ok .eom) :=
  combine_trailers_max [[78, 78]] (by simp)

theorem combine_trailer_two : combine MAXLEN [litNNNN, litNNNN] = some (.ok .eom) :=
  combine_trailers_max [[78, 78], [78, 78]] (by simp)

theorem combine_foreign_trailers2 (c : Nat) (x0 x1 : Byte) (xr r1 r2 : List Byte) :
    combine (c + 2) [x0 :: x1 :: xr, 78 :: 78 :: r1, 78 :: 78 :: r2] = some (.ok .eom) := by
  obtain ⟨a, b, rest, h, ha, hb⟩ := est_foreign_trailer2 c x0 x1 xr r1 r2
  exact combine_eom_of_estimate (c + 2) _ a b rest h ha hb

theorem estimateLoop_nils3 (cap : Nat) : estimateLoop cap [[], [], []] = [] := by
  cases cap <;> simp [estimateLoop, voteAt, List.filterMap]

theorem estimateLoop_nils2 (cap : Nat) : estimateLoop cap [[], []] = [] := by
  cases cap <;> simp [estimateLoop, voteAt, List.filterMap]

theorem estimateLoop_pair_nil (cap : Nat) : ∀ a b : List Byte,
    estimateLoop cap [a, b, []] = estimateLoop cap [a, b] := by
  induction cap with
  | zero => intro a b; rfl
  | succ c ih =>
    intro a b
    have h1 : [a, b, []].filterMap List.head? = [a, b].filterMap List.head? := by
      cases a <;> cases b <;> rfl
    have h2 : [a, b, []].map List.tail = [a.tail, b.tail, []] := rfl
    have h3 : [a, b].map List.tail = [a.tail, b.tail] := rfl
    simp only [estimateLoop, h1, h2, h3, ih]

theorem column_pair_nil_right (g : List Byte) (j : Nat) : (columnAt [g, []] j).length ≤ 1 := by
  unfold columnAt
  cases h : g[j]? <;> simp [h]

theorem column_pair_nil_left (g : List Byte) (j : Nat) : (columnAt [[], g] j).length ≤ 1 := by
  unfold columnAt
  cases h : g[j]? <;> simp [h]

/-- The two-burst "vote" only passes bytes on which both bursts agree, and those win the
    three-burst vote too. -/
theorem pair_of_triple : ∀ (cap : Nat) (g1 g2 g3 : List Byte),
    (∀ e ∈ estimateLoop cap [g1, g2, g3], 2 ≤ e.nbursts → e.byte ≠ 45) →
    ∀ e ∈ estimateLoop cap [g2, g3], 2 ≤ e.nbursts → e.byte ≠ 45 := by
  intro cap
  induction cap with
  | zero => intro g1 g2 g3 _ e he; simp [estimateLoop] at he
  | succ c ih =>
    intro g1 g2 g3 h e he hn
    cases g2 with
    | nil =>
      obtain ⟨j, v, _, h2⟩ := estimateLoop_mem_vote _ _ e he
      have := column_pair_nil_left g3 j
      omega
    | cons a g2' =>
      cases g3 with
      | nil =>
        obtain ⟨j, v, _, h2⟩ := estimateLoop_mem_vote _ _ e he
        have := column_pair_nil_right (a :: g2') j
        omega
      | cons b g3' =>
        cases g1 with
        | nil =>
          rw [Asm.estimateLoop_nil_cons] at h
          exact h e he hn
        | cons z g1' =>
          by_cases hab : (a &&& ~~~(0x80 : Byte)) = (b &&& ~~~(0x80 : Byte))
          · by_cases hal : isAllowed (b &&& ~~~(0x80 : Byte)) = true
            · have k2 : estimateLoop (c + 1) [a :: g2', b :: g3']
                  = ⟨b &&& ~~~(0x80 : Byte), 2, 0 + (if (((a &&& 0x80) != 0) || ((b &&& 0x80) != 0)) then 1 else 0)⟩
                    :: estimateLoop c [g2', g3'] := by
                simp [estimateLoop, voteAt, List.filterMap, hab, voteDetect_same, hal]
              have k3 : ∃ er, estimateLoop (c + 1) [z :: g1', a :: g2', b :: g3']
                  = ⟨b &&& ~~~(0x80 : Byte), 3, er⟩ :: estimateLoop c [g1', g2', g3'] := by
                refine ⟨disputes2 (b &&& ~~~(0x80 : Byte)) (z &&& ~~~(0x80 : Byte))
                  + (if (((z &&& 0x80) != 0) || (((a &&& 0x80) != 0) || ((b &&& 0x80) != 0))) then 1 else 0), ?_⟩
                simp [estimateLoop, voteAt, List.filterMap, hab, voteCorrect_xhh, hal]
              obtain ⟨er, k3⟩ := k3
              rw [k3] at h
              rw [k2] at he
              rcases List.mem_cons.mp he with rfl | he'
              · exact h ⟨_, 3, er⟩ List.mem_cons_self (by simp)
              · exact ih g1' g2' g3' (fun e' he'' => h e' (List.mem_cons_of_mem _ he'')) e he' hn
            · have k2 : estimateLoop (c + 1) [a :: g2', b :: g3'] = [] := by
                simp [estimateLoop, voteAt, List.filterMap, hab, voteDetect_same, hal]
              rw [k2] at he; cases he
          · have k2 : estimateLoop (c + 1) [a :: g2', b :: g3'] = [] := by
              have h0 : isAllowed 0 = false := by decide
              simp [estimateLoop, voteAt, List.filterMap, voteDetect_ne _ _ hab, h0]
            rw [k2] at he; cases he

end SameVerif
