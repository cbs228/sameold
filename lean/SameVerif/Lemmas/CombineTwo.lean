import SameVerif.Lemmas.Estimate
import SameVerif.Model.Message
import SameVerif.Spec.Combine
/- The estimate `zipPart hs xs` read back (its bytes are `hs`, every entry backed by two bursts or
   more), ASCII text is valid UTF-8, and what `checkHeader H = some r` says of `H`. -/
namespace SameVerif
open SameVerif.Spec

theorem zipPart_bytes (hs : List Byte) : ∀ xs, (zipPart hs xs).map (·.byte) = hs := by
  induction hs with
  | nil => intro xs; simp [zipPart]
  | cons h hs ih => intro xs; cases xs <;> simp [zipPart, ih]

theorem zipPart_counts_ge (hs : List Byte) : ∀ xs, ∀ e ∈ zipPart hs xs, 2 ≤ e.nbursts := by
  induction hs with
  | nil => intro xs e he; simp [zipPart] at he
  | cons h hs ih =>
    intro xs e he
    cases xs with
    | nil =>
      simp [zipPart] at he
      rcases he with rfl | he
      · simp
      · exact ih [] e he
    | cons x xs =>
      simp [zipPart] at he
      rcases he with rfl | he
      · simp
      · exact ih xs e he

theorem zipPart_errs_sum (hs : List Byte) : ∀ xs, ((zipPart hs xs).map (·.errs)).sum = specParity hs xs := by
  induction hs with
  | nil => intro xs; simp [zipPart, specParity]
  | cons h hs ih =>
    intro xs
    cases xs with
    | nil =>
      have := ih []
      simp [zipPart, specParity] at this ⊢
      exact this
    | cons x xs =>
      have := ih xs
      simp [zipPart, specParity, perByteErr, mask7] at this ⊢
      omega

theorem zipPart_voting (hs : List Byte) :
    ∀ xs, ((zipPart hs xs).filter (fun e => !(e.nbursts < 3))).length = min hs.length xs.length := by
  induction hs with
  | nil => intro xs; simp [zipPart]
  | cons h hs ih =>
    intro xs
    cases xs with
    | nil =>
      have := ih []
      simp [zipPart] at this ⊢
      exact this
    | cons x xs =>
      have := ih xs
      simp [zipPart] at this ⊢
      omega

theorem validUtf8_of_ascii : ∀ (s : List Byte), (∀ b ∈ s, b < 128) → validUtf8 s = true := by
  intro s
  induction s with
  | nil => intro _; rfl
  | cons b s ih =>
    intro h
    have hb : b < 128 := h b (by simp)
    have hb' : b < 0x80 := hb
    unfold validUtf8
    simp [hb']
    exact ih (fun c hc => h c (by simp [hc]))

theorem startsWith_of_checkHeader (H : List Byte) (r : Nat × Nat) (h : checkHeader H = some r) :
    startsWith H litZCZC = true := by
  unfold checkHeader at h
  cases hp : parseFields H with
  | none => simp [hp] at h
  | some f =>
    unfold parseFields at hp
    cases hs : stripLit litZCZC H with
    | none => simp [hs] at hp
    | some s => simp [startsWith, hs]

theorem ne_nil_of_checkHeader (H : List Byte) (r : Nat × Nat) (h : checkHeader H = some r) : H ≠ [] := by
  intro hn
  subst hn
  simp [checkHeader, parseFields, stripLit, litZCZC] at h

theorem header_ne_trailer (H : List Byte) (r : Nat × Nat) (h : checkHeader H = some r) :
    H ≠ litNNNN := by
  intro he
  have : checkHeader litNNNN = none := by decide
  rw [he, this] at h
  cases h

theorem isEmpty_of_checkHeader (H g : List Byte) (r : Nat × Nat) (h : checkHeader H = some r) :
    (H ++ g).isEmpty = false := by
  cases H with
  | nil => exact absurd rfl (ne_nil_of_checkHeader [] r h)
  | cons _ _ => rfl

end SameVerif
