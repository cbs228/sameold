import SameVerif.Lemmas.HeaderAccessors
/-
  Text appended to a canonical header cannot extend the regex match unless it contains a `-`:
  the location groups are closed by `+`, and the only open end is the greedy callsign `.{3,8}-`,
  which needs one more `-` to grow.
-/
namespace SameVerif

theorem canonical_fields (H : List Byte) (off : Nat) (hcan : checkHeader H = some (off, H.length)) :
    ∃ f, parseFields H = some f ∧ f.WF ∧ H = f.render ∧ f.rest = [] ∧ off = 12 + 7 * f.locs.length := by
  unfold checkHeader at hcan
  cases hp : parseFields H with
  | none => simp [hp] at hcan
  | some f =>
    simp only [hp, Option.some.injEq, Prod.mk.injEq] at hcan
    obtain ⟨hoff, hlen⟩ := hcan
    obtain ⟨hw, hs, _⟩ := parseFields_sound' H f hp
    have hrl := fields_render_length f hw
    have hl := congrArg List.length hs
    rw [List.length_append, hrl] at hl
    have hr : f.rest = [] := List.eq_nil_of_length_eq_zero (by omega)
    refine ⟨f, rfl, hw, ?_, hr, hoff.symm⟩
    rw [hs, hr, List.append_nil]

theorem parseFields_dashfree_tail (H : List Byte) (off : Nat) (t : List Byte)
    (hcan : checkHeader H = some (off, H.length)) (ht : ∀ b ∈ t, b ≠ 45) :
    ∃ f, parseFields H = some f ∧ f.rest = [] ∧ parseFields (H ++ t) = some { f with rest := t } := by
  obtain ⟨f, hp, hw, hH, hr, _⟩ := canonical_fields H off hcan
  refine ⟨f, hp, hr, ?_⟩
  rw [hH]
  exact parseFields_render_append f hw t ht

theorem checkHeader_dashfree_tail (H : List Byte) (off : Nat) (t : List Byte)
    (hcan : checkHeader H = some (off, H.length)) (ht : ∀ b ∈ t, b ≠ 45) :
    checkHeader (H ++ t) = some (off, H.length) := by
  obtain ⟨f, hp, _, hp'⟩ := parseFields_dashfree_tail H off t hcan ht
  have h0 := hcan
  unfold checkHeader at h0 ⊢
  rw [hp] at h0
  rw [hp']
  exact h0

end SameVerif
