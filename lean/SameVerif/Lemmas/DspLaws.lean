/-
  Laws and helper lemmas for the theorems about `Model/Dsp.lean` (Thm/Dsp.lean).

  * `OrderLaws F`: the order/sign facts about `Arith F` that the order-only theorems need.
    Every law is true of the rationals (`instance : OrderLaws Rat` below) and of IEEE floats without
    NaN.  No ring axioms.
  * Run functions over operation lists and the invariants they keep, generic in `F`: `AgcInv`,
    `TlInv` (order only), `DcInv` (window lengths, no law at all).
  * `instance : Arith Rat`: the real-number semantics, and over it: the sample clock, the
    timing-loop invariant `TlRInv` (bounds on the value handed to the sample clock), the exact
    moving average, the DC blocker on a constant input.
  Also used by Lemmas/FullRxFacts.lean, SilenceFacts.lean and BuilderCfgFacts.lean.
-/
import SameVerif.Model.Dsp

namespace SameVerif.Dsp

open Arith

/-- Order-only laws.  Why each one is there:
  * `le_iff_not_lt`   : `<=` is the negation of the flipped `<` (a total preorder; false for NaN) —
                        used by every clamp/min/max bound;
  * `lt_irrefl`       : `le a a` (reflexivity), used when `clamp`/`fmax`/`fmin` return a limit;
  * `lt_trans`        : only through asymmetry (`lt a b → le a b`) in `initialGain`;
  * `lt_neg_trans`    : transitivity of `le` (`periodMin ≤ samplesPerTed ≤ periodMax → periodMin ≤ periodMax`);
  * `zero_le_one`     : the `clamp(bandwidth, 0, 1)` of `Agc::new` cannot panic;
  * `zero_le_half`    : the `clamp(max_deviation, 0, 0.5)` of `TimingLoop::new` cannot panic;
  * `neg_half_le_half`: the `clamp(offset, -0.5, 0.5)` of `advance_loop` cannot panic;
  * `neg_one_le_one`  : the `clamp(err, -1, 1)` of `advance_loop` cannot panic. -/
class OrderLaws (F : Type) [Arith F] : Prop where
  le_iff_not_lt : ∀ a b : F, Arith.le a b = !Arith.lt b a
  lt_irrefl : ∀ a : F, Arith.lt a a = false
  lt_trans : ∀ a b c : F, Arith.lt a b = true → Arith.lt b c = true → Arith.lt a c = true
  lt_neg_trans : ∀ a b c : F, Arith.lt a b = false → Arith.lt b c = false → Arith.lt a c = false
  zero_le_one : Arith.le (Arith.zero : F) Arith.one = true
  zero_le_half : Arith.le (Arith.zero : F) half = true
  neg_half_le_half : Arith.le (Arith.neg (half : F)) half = true
  neg_one_le_one : Arith.le (Arith.neg (Arith.one : F)) Arith.one = true

section Order
variable {F : Type} [Arith F] [OrderLaws F]

theorem le_refl' (a : F) : le a a = true := by
  rw [OrderLaws.le_iff_not_lt, OrderLaws.lt_irrefl]; rfl

theorem le_of_not_lt {a b : F} (h : lt b a = false) : le a b = true := by
  rw [OrderLaws.le_iff_not_lt, h]; rfl

theorem not_lt_of_le {a b : F} (h : le a b = true) : lt b a = false := by
  rw [OrderLaws.le_iff_not_lt] at h; simpa using h

theorem le_of_lt' {a b : F} (h : lt a b = true) : le a b = true := by
  apply le_of_not_lt
  cases hba : lt b a with
  | false => rfl
  | true =>
    have := OrderLaws.lt_trans a b a h hba
    rw [OrderLaws.lt_irrefl] at this; cases this

theorem le_trans' {a b c : F} (h1 : le a b = true) (h2 : le b c = true) : le a c = true :=
  le_of_not_lt (OrderLaws.lt_neg_trans c b a (not_lt_of_le h2) (not_lt_of_le h1))

omit [OrderLaws F] in
theorem clamp_none_iff (x lo hi : F) : clamp x lo hi = none ↔ le lo hi = false := by
  unfold clamp; cases h : le lo hi <;> simp

omit [OrderLaws F] in
theorem clamp_isSome_of_le {x lo hi : F} (h : le lo hi = true) : ∃ y, clamp x lo hi = some y := by
  unfold clamp; simp [h]

theorem clamp_bounds' {x lo hi y : F} (h : clamp x lo hi = some y) :
    le lo hi = true ∧ le lo y = true ∧ le y hi = true := by
  unfold clamp at h
  cases hle : le lo hi with
  | false => simp [hle] at h
  | true =>
    simp only [hle, if_true, Option.some.injEq] at h
    refine ⟨rfl, ?_⟩
    cases h1 : lt x lo <;> simp only [h1] at h
    · cases h2 : lt hi x <;> simp [h2] at h <;> subst h
      · exact ⟨le_of_not_lt h1, le_of_not_lt h2⟩
      · exact ⟨hle, le_refl' _⟩
    · cases h2 : lt hi lo <;> simp [h2] at h <;> subst h
      · exact ⟨le_refl' _, hle⟩
      · exact ⟨hle, le_refl' _⟩

theorem clamp_of_mem {x lo hi : F} (h1 : le lo x = true) (h2 : le x hi = true) (h : le lo hi = true) :
    clamp x lo hi = some x := by
  unfold clamp
  simp [h, not_lt_of_le h1, not_lt_of_le h2]

theorem le_fmax_left (a b : F) : le a (fmax a b) = true := by
  unfold fmax; split
  · rename_i h; exact le_of_lt' h
  · exact le_refl' _

theorem fmin_le_right (a b : F) : le (fmin a b) b = true := by
  unfold fmin; split
  · exact le_refl' _
  · rename_i h; exact le_of_not_lt (by simpa using h)

theorem fmin_le_left (a b : F) : le (fmin a b) a = true := by
  unfold fmin; split
  · rename_i h; exact le_of_lt' h
  · exact le_refl' _

theorem initialGain_bounds {lo hi : F} (h : le lo hi = true) :
    le lo (Agc.initialGain lo hi) = true ∧ le (Agc.initialGain lo hi) hi = true := by
  refine ⟨le_fmax_left _ _, ?_⟩
  unfold Agc.initialGain fmax
  split
  · exact fmin_le_right _ _
  · exact h

end Order

/-! ### operation lists -/

section Runs
variable {F : Type} [Arith F]

inductive AgcOp (F : Type) where
  | input (x : F)
  | lock (b : Bool)
  | reset

/-- run a list of AGC operations; the outputs of `input` are collected; `none` = a panic -/
def agcRun : Agc F → List (AgcOp F) → Option (Agc F × List F)
  | a, [] => some (a, [])
  | a, .input x :: ops =>
    match a.input x with
    | none => none
    | some (a', y) => (agcRun a' ops).map fun (r, ys) => (r, y :: ys)
  | a, .lock b :: ops => agcRun (a.lock b) ops
  | a, .reset :: ops => agcRun a.reset ops

inductive TlOp (F : Type) where
  | input (s o : F)
  | reset
  | setGains (a b : F)

/-- run a list of timing-loop operations; what `input` returned is collected; `none` = a panic -/
def tlRun : TimingLoop F → List (TlOp F) → Option (TimingLoop F × List (F × Option (SymEst F)))
  | l, [] => some (l, [])
  | l, .input s o :: ops =>
    match l.input s o with
    | none => none
    | some (l', u, sym) => (tlRun l' ops).map fun (r, ys) => (r, (u, sym) :: ys)
  | l, .reset :: ops => tlRun l.reset ops
  | l, .setGains a b :: ops => tlRun (l.setGains a b) ops

/-- feed a list of samples to a moving average; outputs collected; `none` = a panic -/
def movavgRun : MovAvg F → List F → Option (MovAvg F × List (F × F))
  | m, [] => some (m, [])
  | m, x :: xs =>
    match m.filter x with
    | none => none
    | some (m', y) => (movavgRun m' xs).map fun (r, ys) => (r, y :: ys)

/-- feed a list of samples (`some x`) and resets (`none`) to a DC blocker -/
def dcRun : DcBlock F → List (Option F) → Option (DcBlock F × List F)
  | d, [] => some (d, [])
  | d, some x :: xs =>
    match d.filter x with
    | none => none
    | some (d', y) => (dcRun d' xs).map fun (r, ys) => (r, y :: ys)
  | d, none :: xs => dcRun d.reset xs

end Runs

section AgcInv
variable {F : Type} [Arith F] [OrderLaws F]

/-- the invariant of a running AGC built with limits `lo ≤ hi` and (clamped) bandwidth `bw` -/
structure AgcInv (lo hi bw : F) (a : Agc F) : Prop where
  minGain : a.minGain = lo
  maxGain : a.maxGain = hi
  bandwidth : a.bandwidth = bw
  lo_le : le lo a.gain = true
  le_hi : le a.gain hi = true

omit [OrderLaws F] in
theorem agc_input_none_iff' (a : Agc F) (x : F) :
    a.input x = none ↔ le a.minGain a.maxGain = false := by
  unfold Agc.input
  simp only [Option.map_eq_none_iff]
  exact clamp_none_iff _ _ _

omit [OrderLaws F] in
theorem agc_output_eq {a a' : Agc F} {x y : F} (h : a.input x = some (a', y)) :
    y = mul x a.gain ∧ a'.minGain = a.minGain ∧ a'.maxGain = a.maxGain ∧
      a'.bandwidth = a.bandwidth ∧ a'.locked = a.locked := by
  unfold Agc.input at h
  simp only [Option.map_eq_some_iff] at h
  obtain ⟨g, _, h⟩ := h
  cases h
  exact ⟨rfl, rfl, rfl, rfl, rfl⟩

theorem agcInv_input {lo hi bw : F} {a : Agc F} (hi' : AgcInv lo hi bw a) (hle : le lo hi = true)
    (x : F) : ∃ a' y, a.input x = some (a', y) ∧ AgcInv lo hi bw a' ∧ a'.locked = a.locked := by
  have hle' : le a.minGain a.maxGain = true := by rw [hi'.minGain, hi'.maxGain]; exact hle
  unfold Agc.input
  simp only []
  obtain ⟨g, hg⟩ := clamp_isSome_of_le (x := add a.gain (mul (mul (ofBool (!a.locked)) (sub one (abs (mul x a.gain)))) a.bandwidth)) hle'
  obtain ⟨_, h1, h2⟩ := clamp_bounds' hg
  rw [hg]
  exact ⟨_, _, rfl, ⟨hi'.minGain, hi'.maxGain, hi'.bandwidth, hi'.minGain ▸ h1, hi'.maxGain ▸ h2⟩, rfl⟩

theorem agcInv_reset {lo hi bw : F} {a : Agc F} (hi' : AgcInv lo hi bw a) (hle : le lo hi = true) :
    AgcInv lo hi bw a.reset := by
  obtain ⟨h1, h2⟩ := initialGain_bounds hle
  refine ⟨hi'.minGain, hi'.maxGain, hi'.bandwidth, ?_, ?_⟩ <;>
    simp only [Agc.reset, hi'.minGain, hi'.maxGain] <;> assumption

omit [OrderLaws F] in
theorem agcInv_lock {lo hi bw : F} {a : Agc F} (hi' : AgcInv lo hi bw a) (b : Bool) :
    AgcInv lo hi bw (a.lock b) :=
  ⟨hi'.minGain, hi'.maxGain, hi'.bandwidth, hi'.lo_le, hi'.le_hi⟩

theorem agcInv_run {lo hi bw : F} (hle : le lo hi = true) (ops : List (AgcOp F)) :
    ∀ a : Agc F, AgcInv lo hi bw a → ∃ a' outs, agcRun a ops = some (a', outs) ∧ AgcInv lo hi bw a' := by
  induction ops with
  | nil => intro a h; exact ⟨a, [], rfl, h⟩
  | cons op ops ih =>
    intro a h
    cases op with
    | input x =>
      obtain ⟨a1, y, h1, hinv, _⟩ := agcInv_input h hle x
      obtain ⟨a', outs, h2, hinv'⟩ := ih a1 hinv
      exact ⟨a', y :: outs, by simp [agcRun, h1, h2], hinv'⟩
    | lock b => exact ih _ (agcInv_lock h b)
    | reset => exact ih _ (agcInv_reset h hle)

theorem agc_new_some (bw lo hi : F) : ∃ bw', clamp bw zero one = some bw' ∧
    Agc.new bw lo hi = some ⟨bw', lo, hi, false, Agc.initialGain lo hi⟩ := by
  obtain ⟨bw', h⟩ := clamp_isSome_of_le (x := bw) (OrderLaws.zero_le_one (F := F))
  exact ⟨bw', h, by simp [Agc.new, h]⟩

theorem agcInv_new {bw lo hi : F} {a0 : Agc F} (h : Agc.new bw lo hi = some a0) (hle : le lo hi = true) :
    AgcInv lo hi a0.bandwidth a0 ∧ a0.locked = false ∧ a0.gain = Agc.initialGain lo hi := by
  obtain ⟨bw', _, h'⟩ := agc_new_some bw lo hi
  rw [h'] at h; cases h
  obtain ⟨h1, h2⟩ := initialGain_bounds hle
  exact ⟨⟨rfl, rfl, rfl, h1, h2⟩, rfl, rfl⟩

omit [OrderLaws F] in
theorem agcInv_reset_eq {lo hi : F} {a0 a : Agc F} (h0 : AgcInv lo hi a0.bandwidth a0)
    (hl : a0.locked = false) (hg : a0.gain = Agc.initialGain lo hi) (h : AgcInv lo hi a0.bandwidth a) :
    a.reset = a0 := by
  cases a0; cases a
  have := h0.minGain; have := h0.maxGain; have := h.minGain; have := h.maxGain; have := h.bandwidth
  simp_all [Agc.reset]

end AgcInv

/-! ### timing loop, order-only part -/

section TlInv
variable {F : Type} [Arith F] [OrderLaws F]

theorem tl_new_some (sps alpha beta maxDev : F) : ∃ dev, clamp maxDev zero half = some dev ∧
    TimingLoop.new sps alpha beta maxDev =
      some ⟨div sps two, sub (div sps two) (mul sps dev), add (div sps two) (mul sps dev),
            alpha, beta, div sps two, div sps two, Ted.init⟩ := by
  obtain ⟨dev, h⟩ := clamp_isSome_of_le (x := maxDev) (OrderLaws.zero_le_half (F := F))
  exact ⟨dev, h, by simp [TimingLoop.new, h]⟩

theorem tl_advance_sym (l : TimingLoop F) (o : F) (s : SymEst F)
    (h : le l.periodMin l.periodMax = true) :
    ∃ o' err avg, clamp o (neg half) half = some o' ∧
      clamp (sub s.err (div o' l.samplesPerTed)) (neg one) one = some err ∧
      clamp (add l.periodAvg (mul l.beta err)) l.periodMin l.periodMax = some avg ∧
      l.advance o (some s) = some { l with
        periodAvg := avg,
        periodInst := if lt (add (add avg (mul l.alpha err)) o') zero then avg
                      else add (add avg (mul l.alpha err)) o' } := by
  obtain ⟨o', h1⟩ := clamp_isSome_of_le (x := o) (OrderLaws.neg_half_le_half (F := F))
  obtain ⟨err, h2⟩ := clamp_isSome_of_le (x := sub s.err (div o' l.samplesPerTed))
    (OrderLaws.neg_one_le_one (F := F))
  obtain ⟨avg, h3⟩ := clamp_isSome_of_le (x := add l.periodAvg (mul l.beta err)) h
  exact ⟨o', err, avg, h1, h2, h3, by simp [TimingLoop.advance, h1, h2, h3]⟩

theorem tl_advance_nosym (l : TimingLoop F) (o : F) :
    ∃ o', clamp o (neg half) half = some o' ∧
      l.advance o none = some { l with periodInst := add l.periodInst o' } := by
  obtain ⟨o', h1⟩ := clamp_isSome_of_le (x := o) (OrderLaws.neg_half_le_half (F := F))
  exact ⟨o', h1, by simp [TimingLoop.advance, h1]⟩

omit [OrderLaws F] in
theorem tl_advance_static {l l' : TimingLoop F} {o : F} {sym : Option (SymEst F)}
    (e : l.advance o sym = some l') :
    l'.samplesPerTed = l.samplesPerTed ∧ l'.periodMin = l.periodMin ∧ l'.periodMax = l.periodMax := by
  unfold TimingLoop.advance at e
  split at e
  · cases e
  · split at e
    · split at e
      · cases e
      · split at e
        · cases e
        · cases e; exact ⟨rfl, rfl, rfl⟩
    · cases e; exact ⟨rfl, rfl, rfl⟩

omit [OrderLaws F] in
theorem tl_input_eq_some {l l' : TimingLoop F} {x o u : F} {sym : Option (SymEst F)}
    (h : l.input x o = some (l', u, sym)) :
    sym = (l.ted.input x).2 ∧ u = l'.periodInst ∧
      TimingLoop.advance { l with ted := (l.ted.input x).1 } o sym = some l' := by
  unfold TimingLoop.input at h
  simp only [Option.map_eq_some_iff] at h
  obtain ⟨l2, e, h⟩ := h
  cases h
  exact ⟨rfl, rfl, e⟩

/-- the order-only invariant of a timing loop -/
structure TlInv (spt pmin pmax : F) (l : TimingLoop F) : Prop where
  samplesPerTed : l.samplesPerTed = spt
  periodMin : l.periodMin = pmin
  periodMax : l.periodMax = pmax
  min_le_avg : le pmin l.periodAvg = true
  avg_le_max : le l.periodAvg pmax = true

theorem tl_advance_inv {spt pmin pmax : F} {l : TimingLoop F} (hinv : TlInv spt pmin pmax l)
    (hle : le pmin pmax = true) (o : F) (sym : Option (SymEst F)) :
    ∃ l', l.advance o sym = some l' ∧ TlInv spt pmin pmax l' ∧ l'.ted = l.ted ∧
      l'.alpha = l.alpha ∧ l'.beta = l.beta := by
  have hle' : le l.periodMin l.periodMax = true := by rw [hinv.periodMin, hinv.periodMax]; exact hle
  cases sym with
  | none =>
    obtain ⟨o', _, h⟩ := tl_advance_nosym l o
    exact ⟨_, h, ⟨hinv.samplesPerTed, hinv.periodMin, hinv.periodMax, hinv.min_le_avg, hinv.avg_le_max⟩,
      rfl, rfl, rfl⟩
  | some s =>
    obtain ⟨o', err, avg, _, _, h3, h⟩ := tl_advance_sym l o s hle'
    obtain ⟨_, b1, b2⟩ := clamp_bounds' h3
    exact ⟨_, h, ⟨hinv.samplesPerTed, hinv.periodMin, hinv.periodMax, hinv.periodMin ▸ b1,
      hinv.periodMax ▸ b2⟩, rfl, rfl, rfl⟩

theorem tl_input_inv {spt pmin pmax : F} {l : TimingLoop F} (hinv : TlInv spt pmin pmax l)
    (hle : le pmin pmax = true) (x o : F) :
    ∃ l', l.input x o = some (l', l'.periodInst, (l.ted.input x).2) ∧ TlInv spt pmin pmax l' ∧
      l'.ted = (l.ted.input x).1 := by
  have hinv' : TlInv spt pmin pmax { l with ted := (l.ted.input x).1 } :=
    ⟨hinv.samplesPerTed, hinv.periodMin, hinv.periodMax, hinv.min_le_avg, hinv.avg_le_max⟩
  obtain ⟨l', h, hi, ht, _⟩ := tl_advance_inv hinv' hle o (l.ted.input x).2
  refine ⟨l', ?_, hi, ht⟩
  unfold TimingLoop.input
  simp only [h, Option.map_some]

omit [OrderLaws F] in
theorem tl_reset_inv {spt pmin pmax : F} {l : TimingLoop F} (hinv : TlInv spt pmin pmax l)
    (h1 : le pmin spt = true) (h2 : le spt pmax = true) : TlInv spt pmin pmax l.reset :=
  ⟨hinv.samplesPerTed, hinv.periodMin, hinv.periodMax,
    by simp only [TimingLoop.reset, hinv.samplesPerTed, h1],
    by simp only [TimingLoop.reset, hinv.samplesPerTed, h2]⟩

omit [OrderLaws F] in
theorem tl_setGains_inv {spt pmin pmax : F} {l : TimingLoop F} (hinv : TlInv spt pmin pmax l)
    (a b : F) : TlInv spt pmin pmax (l.setGains a b) :=
  ⟨hinv.samplesPerTed, hinv.periodMin, hinv.periodMax, hinv.min_le_avg, hinv.avg_le_max⟩

theorem tl_run_inv {spt pmin pmax : F} (h1 : le pmin spt = true) (h2 : le spt pmax = true)
    (ops : List (TlOp F)) : ∀ l : TimingLoop F, TlInv spt pmin pmax l →
    ∃ l' outs, tlRun l ops = some (l', outs) ∧ TlInv spt pmin pmax l' := by
  have hle := le_trans' h1 h2
  induction ops with
  | nil => intro l h; exact ⟨l, [], rfl, h⟩
  | cons op ops ih =>
    intro l h
    cases op with
    | input x o =>
      obtain ⟨l1, e1, hinv, _⟩ := tl_input_inv h hle x o
      obtain ⟨l', outs, e2, hinv'⟩ := ih l1 hinv
      exact ⟨l', (l1.periodInst, (l.ted.input x).2) :: outs, by simp [tlRun, e1, e2], hinv'⟩
    | reset => exact ih _ (tl_reset_inv h h1 h2)
    | setGains a b => exact ih _ (tl_setGains_inv h a b)

end TlInv

/-! ### moving average / DC blocker, structural part -/

section DcInv
variable {F : Type} [Arith F]

theorem movavg_new_eq_some_iff {len : Nat} {m : MovAvg F} :
    MovAvg.new len = some m ↔ 0 < len ∧ m = ⟨List.replicate len zero, div one (ofNat len), zero⟩ := by
  unfold MovAvg.new
  split
  · rename_i h0
    exact ⟨fun h => (by cases h), fun h => absurd h0 (by omega)⟩
  · rename_i h0
    exact ⟨fun h => ⟨by omega, (Option.some.inj h).symm⟩, fun h => by rw [h.2]⟩

theorem movavg_filter_cons (m : MovAvg F) (x aged : F) (rest : List F) (h : m.window = aged :: rest) :
    m.filter x = some ({ m with window := rest ++ [x], sum := add m.sum (sub x aged) },
      mul (add m.sum (sub x aged)) m.invLen, (rest ++ [x]).head (by simp)) := by
  unfold MovAvg.filter
  rw [h]
  simp only []
  cases rest <;> rfl

theorem movavg_filter_some (m : MovAvg F) (x : F) (h : 0 < m.window.length) :
    ∃ m' y, m.filter x = some (m', y) ∧ m'.window.length = m.window.length ∧ m'.invLen = m.invLen := by
  cases hw : m.window with
  | nil => simp [hw] at h
  | cons aged rest =>
    refine ⟨_, _, movavg_filter_cons m x aged rest hw, ?_, rfl⟩
    simp

theorem movavg_filter_length {m m' : MovAvg F} {x : F} {y : F × F} (h : m.filter x = some (m', y)) :
    m'.window.length = m.window.length ∧ m'.invLen = m.invLen ∧ 0 < m.window.length := by
  cases hw : m.window with
  | nil => simp [MovAvg.filter, hw] at h
  | cons aged rest =>
    rw [movavg_filter_cons m x aged rest hw] at h
    cases h
    simp

theorem movavg_reset_length (m : MovAvg F) :
    m.reset.window.length = m.window.length ∧ m.reset.invLen = m.invLen := by
  simp [MovAvg.reset]

theorem movavg_run_some (xs : List F) : ∀ m : MovAvg F, 0 < m.window.length →
    ∃ m' outs, movavgRun m xs = some (m', outs) ∧ m'.window.length = m.window.length ∧
      m'.invLen = m.invLen ∧ outs.length = xs.length := by
  induction xs with
  | nil => intro m _; exact ⟨m, [], rfl, rfl, rfl, rfl⟩
  | cons x xs ih =>
    intro m hm
    obtain ⟨m1, y, e1, hl, hi⟩ := movavg_filter_some m x hm
    obtain ⟨m', outs, e2, hl', hi', ho⟩ := ih m1 (hl ▸ hm)
    exact ⟨m', y :: outs, by simp [movavgRun, e1, e2], hl'.trans hl, hi'.trans hi, by simp [ho]⟩

/-- the structural invariant of a DC blocker of length `len` -/
structure DcInv (len : Nat) (d : DcBlock F) : Prop where
  ff_len : d.ff.window.length = len
  fb_len : d.fb.window.length = len
  ff_inv : d.ff.invLen = div one (ofNat len)
  fb_inv : d.fb.invLen = div one (ofNat len)

theorem dc_new_none_iff' (len : Nat) : (DcBlock.new len : Option (DcBlock F)) = none ↔ len = 0 := by
  unfold DcBlock.new MovAvg.new; split <;> simp_all

theorem dc_new_eq_some_iff {len : Nat} {d : DcBlock F} :
    DcBlock.new len = some d ↔ 0 < len ∧
      d = ⟨⟨List.replicate len zero, div one (ofNat len), zero⟩,
           ⟨List.replicate len zero, div one (ofNat len), zero⟩⟩ := by
  unfold DcBlock.new
  constructor
  · intro h
    split at h
    · rename_i a b e1 e2
      obtain ⟨hl, rfl⟩ := movavg_new_eq_some_iff.1 e1
      obtain ⟨_, rfl⟩ := movavg_new_eq_some_iff.1 e2
      exact ⟨hl, (Option.some.inj h).symm⟩
    · cases h
  · rintro ⟨hl, rfl⟩
    rw [movavg_new_eq_some_iff.2 ⟨hl, rfl⟩]

theorem dcInv_new {len : Nat} {d0 : DcBlock F} (h : DcBlock.new len = some d0) :
    0 < len ∧ DcInv len d0 := by
  obtain ⟨hl, rfl⟩ := dc_new_eq_some_iff.1 h
  exact ⟨hl, by simp, by simp, rfl, rfl⟩

theorem dc_filter_of {d : DcBlock F} {x : F} {ff fb : MovAvg F} {y1 y2 : F × F}
    (e1 : d.ff.filter x = some (ff, y1)) (e2 : d.fb.filter y1.1 = some (fb, y2)) :
    d.filter x = some (⟨ff, fb⟩, sub y1.2 (mul (ofBool (decide (1 < ff.window.length))) y2.1)) := by
  unfold DcBlock.filter
  rw [e1]; simp only []; rw [e2]

theorem dc_filter_inv {d d' : DcBlock F} {x y : F} (e : d.filter x = some (d', y)) :
    ∃ y1 y2, d.ff.filter x = some (d'.ff, y1) ∧ d.fb.filter y1.1 = some (d'.fb, y2) := by
  unfold DcBlock.filter at e
  split at e
  · cases e
  · rename_i ff ma0 sig e1
    split at e
    · cases e
    · rename_i fb ma1 z e2
      cases e
      exact ⟨_, _, e1, e2⟩

theorem dcInv_filter {len : Nat} {d : DcBlock F} (hinv : DcInv len d) (hl : 0 < len) (x : F) :
    ∃ d' y, d.filter x = some (d', y) ∧ DcInv len d' := by
  obtain ⟨ff, y1, e1, l1, i1⟩ := movavg_filter_some d.ff x (hinv.ff_len ▸ hl)
  obtain ⟨fb, y2, e2, l2, i2⟩ := movavg_filter_some d.fb y1.1 (hinv.fb_len ▸ hl)
  exact ⟨⟨ff, fb⟩, _, dc_filter_of e1 e2, ⟨l1.trans hinv.ff_len, l2.trans hinv.fb_len,
    i1.trans hinv.ff_inv, i2.trans hinv.fb_inv⟩⟩

theorem dcInv_reset {len : Nat} {d : DcBlock F} (hinv : DcInv len d) : DcInv len d.reset :=
  ⟨by simp [DcBlock.reset, MovAvg.reset, hinv.ff_len], by simp [DcBlock.reset, MovAvg.reset, hinv.fb_len],
   hinv.ff_inv, hinv.fb_inv⟩

theorem dcInv_run {len : Nat} (hl : 0 < len) (xs : List (Option F)) : ∀ d : DcBlock F, DcInv len d →
    ∃ d' outs, dcRun d xs = some (d', outs) ∧ DcInv len d' := by
  induction xs with
  | nil => intro d h; exact ⟨d, [], rfl, h⟩
  | cons x xs ih =>
    intro d h
    cases x with
    | none => exact ih _ (dcInv_reset h)
    | some x =>
      obtain ⟨d1, y, e1, h1⟩ := dcInv_filter h hl x
      obtain ⟨d', outs, e2, h2⟩ := ih d1 h1
      exact ⟨d', y :: outs, by simp [dcRun, e1, e2], h2⟩

theorem dcInv_reset_eq {len : Nat} {d : DcBlock F} (hinv : DcInv len d) :
    d.reset = ⟨⟨List.replicate len zero, div one (ofNat len), zero⟩,
               ⟨List.replicate len zero, div one (ofNat len), zero⟩⟩ := by
  obtain ⟨⟨w1, i1, s1⟩, ⟨w2, i2, s2⟩⟩ := d
  have := hinv.ff_len; have := hinv.fb_len; have := hinv.ff_inv; have := hinv.fb_inv
  simp_all [DcBlock.reset, MovAvg.reset]

end DcInv

/-! ### generic: the sample-clock search -/

section Clock
variable {F : Type} [Arith F]

theorem clockNext_spec (u : F) : ∀ (fuel n k : Nat), n ≤ k → k < n + fuel → clockFires u k = true →
    ∃ m, clockNext u fuel n = some m ∧ n ≤ m ∧ m ≤ k ∧ clockFires u m = true ∧
      ∀ j, n ≤ j → j < m → clockFires u j = false := by
  intro fuel
  induction fuel with
  | zero => intro n k h1 h2; omega
  | succ fuel ih =>
    intro n k h1 h2 hk
    cases hn : clockFires u n with
    | true =>
      exact ⟨n, by simp [clockNext, hn], Nat.le_refl _, h1, hn, fun j a b => by omega⟩
    | false =>
      have hne : n ≠ k := by intro e; subst e; rw [hn] at hk; cases hk
      obtain ⟨m, e, b1, b2, b3, b4⟩ := ih (n + 1) k (by omega) (by omega) hk
      refine ⟨m, by simp [clockNext, hn, e], by omega, b2, b3, ?_⟩
      intro j hj1 hj2
      by_cases hj : j = n
      · subst hj; exact hn
      · exact b4 j (by omega) hj2

end Clock

/-! ## real-number semantics: `Arith Rat` -/

instance : Arith Rat where
  add := (· + ·)
  sub := (· - ·)
  mul := (· * ·)
  div := (· / ·)
  neg := fun x => -x
  abs := Rat.abs
  lt := fun a b => decide (a < b)
  le := fun a b => decide (a ≤ b)
  signNeg := fun x => decide (x < 0)
  zero := 0
  one := 1
  ofNat := fun n => (n : Rat)

section RatSimp
@[simp] theorem rat_add (a b : Rat) : Arith.add a b = a + b := rfl
@[simp] theorem rat_sub (a b : Rat) : Arith.sub a b = a - b := rfl
@[simp] theorem rat_mul (a b : Rat) : Arith.mul a b = a * b := rfl
@[simp] theorem rat_div (a b : Rat) : Arith.div a b = a / b := rfl
@[simp] theorem rat_neg (a : Rat) : Arith.neg a = -a := rfl
@[simp] theorem rat_abs (a : Rat) : Arith.abs a = a.abs := rfl
@[simp] theorem rat_lt (a b : Rat) : Arith.lt a b = decide (a < b) := rfl
@[simp] theorem rat_le (a b : Rat) : Arith.le a b = decide (a ≤ b) := rfl
@[simp] theorem rat_signNeg (a : Rat) : Arith.signNeg a = decide (a < 0) := rfl
@[simp] theorem rat_zero : (Arith.zero : Rat) = 0 := rfl
@[simp] theorem rat_one : (Arith.one : Rat) = 1 := rfl
@[simp] theorem rat_ofNat (n : Nat) : (Arith.ofNat n : Rat) = (n : Rat) := rfl
@[simp] theorem rat_half : (half : Rat) = 1 / 2 := rfl
@[simp] theorem rat_two : (two : Rat) = 2 := rfl

theorem rat_le_iff (a b : Rat) : Arith.le a b = true ↔ a ≤ b := by simp
theorem rat_lt_iff (a b : Rat) : Arith.lt a b = true ↔ a < b := by simp
end RatSimp

instance : OrderLaws Rat where
  le_iff_not_lt a b := by
    by_cases h : a ≤ b <;> simp [h, Rat.not_lt] <;> grind
  lt_irrefl a := by simp [Rat.lt_irrefl]
  lt_trans a b c := by simp; grind
  lt_neg_trans a b c := by simp; grind
  zero_le_one := by decide
  zero_le_half := by decide +kernel
  neg_half_le_half := by decide +kernel
  neg_one_le_one := by decide

section RatLemmas

theorem clamp_rat {x lo hi : Rat} (h : lo ≤ hi) :
    ∃ y, clamp x lo hi = some y ∧ lo ≤ y ∧ y ≤ hi ∧ (lo ≤ x → x ≤ hi → y = x) := by
  have h' := (rat_le_iff lo hi).2 h
  obtain ⟨y, e⟩ := clamp_isSome_of_le (x := x) h'
  obtain ⟨_, b1, b2⟩ := clamp_bounds' e
  refine ⟨y, e, (rat_le_iff _ _).1 b1, (rat_le_iff _ _).1 b2, ?_⟩
  intro h1 h2
  have := clamp_of_mem ((rat_le_iff _ _).2 h1) ((rat_le_iff _ _).2 h2) h'
  rw [this] at e; cases e; rfl

theorem abs_le_iff_rat (x b : Rat) : x.abs ≤ b ↔ -b ≤ x ∧ x ≤ b := by
  unfold Rat.abs; split <;> grind

theorem mul_bound_rat (a e : Rat) (h1 : -1 ≤ e) (h2 : e ≤ 1) : -a.abs ≤ a * e ∧ a * e ≤ a.abs := by
  unfold Rat.abs
  split
  · rename_i ha
    have p1 := Rat.mul_le_mul_of_nonneg_left h2 ha
    have p2 := Rat.mul_le_mul_of_nonneg_left h1 ha
    grind
  · rename_i ha
    have ha' : 0 ≤ -a := by grind
    have p1 := Rat.mul_le_mul_of_nonneg_left h2 ha'
    have p2 := Rat.mul_le_mul_of_nonneg_left h1 ha'
    grind

theorem natCast_succ_rat (n : Nat) : ((n + 1 : Nat) : Rat) = (n : Rat) + 1 := by grind

/-! ### the sample clock over the rationals -/

theorem clockRemaining_rat (u : Rat) (n : Nat) : clockRemaining u n = u - (n : Rat) := rfl

theorem clockFires_rat (u : Rat) (n : Nat) : clockFires u n = true ↔ u - (n : Rat) < 1 / 2 := by
  unfold clockFires
  simp only [clockRemaining_rat, rat_le, rat_lt, rat_abs, rat_zero, rat_half, Bool.or_eq_true,
    decide_eq_true_eq]
  unfold Rat.abs
  split <;> grind

theorem clockFires_rat_false (u : Rat) (n : Nat) : clockFires u n = false ↔ 1 / 2 ≤ u - (n : Rat) := by
  rw [← Bool.not_eq_true, clockFires_rat]; grind

theorem le_natCast_ceil_toNat (u : Rat) : u ≤ ((u.ceil.toNat : Nat) : Rat) := by
  have h1 := Rat.le_ceil (x := u)
  have h2 : u.ceil ≤ (u.ceil.toNat : Int) := Int.self_le_toNat _
  have h3 := Rat.intCast_le_intCast.2 h2
  rw [Rat.intCast_natCast] at h3
  grind

end RatLemmas

/-! ### the timing error detector alternates -/

section TedAlt
variable {F : Type} [Arith F]

theorem ted_input_counter (t : Ted F) (x : F) : (t.input x).1.counter = (t.counter + 1) % 2 := by
  unfold Ted.input; simp only []; split <;> rfl

theorem ted_input_isSome (t : Ted F) (x : F) :
    (t.input x).2.isSome = true ↔ (t.input x).1.counter = 1 := by
  unfold Ted.input; simp only []; split <;> simp_all

theorem ted_input_of_zero {t : Ted F} (h : t.counter = 0) (x : F) :
    t.input x = (⟨t.h1, t.h2, x, 1⟩, some ⟨t.h2, x, zeroCrossingMetric t.h1 t.h2 x⟩) := by
  unfold Ted.input; simp [h]

theorem ted_input_of_one {t : Ted F} (h : t.counter = 1) (x : F) :
    t.input x = (⟨t.h1, t.h2, x, 0⟩, none) := by
  unfold Ted.input; simp [h]

/-- feed a list of samples to the timing error detector, collecting what it yields -/
def tedRun : Ted F → List F → Ted F × List (Option (SymEst F))
  | t, [] => (t, [])
  | t, x :: xs => let r := tedRun (t.input x).1 xs; (r.1, (t.input x).2 :: r.2)

omit [Arith F] in
theorem succ_mod_two_add (c k : Nat) : ((c + 1) % 2 + k) % 2 = (c + (k + 1)) % 2 := by omega

omit [Arith F] in
theorem succ_mod_two_eq_one (c : Nat) : (c + 1) % 2 = 1 ↔ c % 2 = 0 := by omega

theorem ted_run_spec (xs : List F) : ∀ t : Ted F, t.counter < 2 →
    (tedRun t xs).1.counter = (t.counter + xs.length) % 2 ∧ (tedRun t xs).2.length = xs.length ∧
    ∀ k, k < xs.length → ∃ o, (tedRun t xs).2[k]? = some o ∧ (o.isSome = true ↔ (t.counter + k) % 2 = 0) := by
  induction xs with
  | nil => intro t h; exact ⟨by simp [tedRun]; omega, rfl, by simp⟩
  | cons x xs ih =>
    intro t h
    have hc := ted_input_counter t x
    obtain ⟨i1, i2, i3⟩ := ih (t.input x).1 (by omega)
    refine ⟨by simp only [tedRun, i1, hc, List.length_cons, succ_mod_two_add], by simp [tedRun, i2], ?_⟩
    intro k hk
    cases k with
    | zero =>
      refine ⟨(t.input x).2, by simp [tedRun], ?_⟩
      rw [ted_input_isSome, hc, Nat.add_zero]
      exact succ_mod_two_eq_one _
    | succ k =>
      obtain ⟨o, e, ho⟩ := i3 k (by simpa using hk)
      refine ⟨o, by simpa [tedRun] using e, ?_⟩
      rw [ho, hc, succ_mod_two_add]

end TedAlt

/-! ### the timing loop over the rationals -/

section TlRat

theorem tl_new_rat (sps alpha beta maxDev : Rat) (h : 0 ≤ sps) :
    ∃ l dev, TimingLoop.new sps alpha beta maxDev = some l ∧
      0 ≤ dev ∧ dev ≤ 1 / 2 ∧ (0 ≤ maxDev → maxDev ≤ 1 / 2 → dev = maxDev) ∧
      l = ⟨sps / 2, sps / 2 - sps * dev, sps / 2 + sps * dev, alpha, beta, sps / 2, sps / 2, Ted.init⟩ ∧
      0 ≤ sps * dev ∧ sps * dev ≤ sps / 2 := by
  obtain ⟨dev, e, h1, h2, h3⟩ := clamp_rat (x := maxDev) (lo := 0) (hi := 1 / 2) (by decide +kernel)
  refine ⟨⟨sps / 2, sps / 2 - sps * dev, sps / 2 + sps * dev, alpha, beta, sps / 2, sps / 2, Ted.init⟩,
    dev, ?_, h1, h2, h3, rfl, Rat.mul_nonneg h h1, ?_⟩
  · simp only [TimingLoop.new, rat_zero, rat_half, e, Option.map_some]; rfl
  · have := Rat.mul_le_mul_of_nonneg_left h2 h
    grind

theorem tl_advance_sym_rat (l : TimingLoop Rat) (o : Rat) (s : SymEst Rat)
    (h0 : 0 ≤ l.periodMin) (h : l.periodMin ≤ l.periodMax) :
    ∃ avg inst, l.advance o (some s) = some { l with periodAvg := avg, periodInst := inst } ∧
      l.periodMin ≤ avg ∧ avg ≤ l.periodMax ∧ 0 ≤ inst ∧ inst ≤ l.periodMax + l.alpha.abs + 1 / 2 := by
  obtain ⟨o', err, avg, c1, c2, c3, e⟩ := tl_advance_sym l o s ((rat_le_iff _ _).2 h)
  obtain ⟨_, a1, a2⟩ := clamp_bounds' c1
  obtain ⟨_, b1, b2⟩ := clamp_bounds' c2
  obtain ⟨_, d1, d2⟩ := clamp_bounds' c3
  simp only [rat_le, rat_neg, rat_half, rat_one, decide_eq_true_eq] at a1 a2 b1 b2 d1 d2
  obtain ⟨m1, m2⟩ := mul_bound_rat l.alpha err b1 b2
  refine ⟨avg, _, e, d1, d2, ?_, ?_⟩ <;>
    simp only [rat_lt, rat_add, rat_mul, rat_zero] <;> split <;> simp only [decide_eq_true_eq] at * <;> grind

theorem tl_advance_nosym_rat (l : TimingLoop Rat) (o : Rat) :
    ∃ o', -(1 / 2) ≤ o' ∧ o' ≤ 1 / 2 ∧ (-(1 / 2) ≤ o → o ≤ 1 / 2 → o' = o) ∧
      l.advance o none = some { l with periodInst := l.periodInst + o' } := by
  obtain ⟨o', e, h1, h2, h3⟩ := clamp_rat (x := o) (lo := -(1 / 2)) (hi := 1 / 2) (by decide +kernel)
  refine ⟨o', h1, h2, h3, ?_⟩
  simp only [TimingLoop.advance, rat_neg, rat_half, e, rat_add]

/-- the invariant of a timing loop over the rationals: the order-only invariant, the bound `A` on the
    proportional gain, the TED counter is 0 or 1, and when it is 1 (a symbol was just processed) the
    instantaneous period is inside `[0, period_max + A + 1/2]` -/
structure TlRInv (spt pmin pmax A : Rat) (l : TimingLoop Rat) : Prop where
  base : TlInv spt pmin pmax l
  alpha : l.alpha.abs ≤ A
  counter : l.ted.counter < 2
  inst : l.ted.counter = 1 → 0 ≤ l.periodInst ∧ l.periodInst ≤ pmax + A + 1 / 2

/-- every `set_loop_bandwidth` in the list installs a proportional gain with `|alpha| ≤ A` -/
def TlOp.gainBounded (A : Rat) : TlOp Rat → Prop
  | .setGains a _ => a.abs ≤ A
  | _ => True

theorem tlR_input {spt pmin pmax A : Rat} {l : TimingLoop Rat} (hinv : TlRInv spt pmin pmax A l)
    (h0 : 0 ≤ pmin) (hle : pmin ≤ pmax) (x o : Rat) :
    ∃ l' u sym, l.input x o = some (l', u, sym) ∧ TlRInv spt pmin pmax A l' ∧
      (sym.isSome = true ↔ l.ted.counter = 0) ∧
      -(1 / 2) ≤ u ∧ u ≤ pmax + A + 1 ∧ (sym.isSome = true → 0 ≤ u ∧ u ≤ pmax + A + 1 / 2) ∧
      l'.ted = (l.ted.input x).1 ∧ sym = (l.ted.input x).2 := by
  have hb := hinv.base
  have hA : 0 ≤ A := Rat.le_trans Rat.abs_nonneg hinv.alpha
  have hc := hinv.counter
  by_cases hz : l.ted.counter = 0
  · -- a symbol is produced
    have e := ted_input_of_zero hz x
    obtain ⟨avg, inst, ea, a1, a2, a3, a4⟩ := tl_advance_sym_rat
      { l with ted := (l.ted.input x).1 } o ⟨l.ted.h2, x, zeroCrossingMetric l.ted.h1 l.ted.h2 x⟩
      (by simp only [hb.periodMin]; exact h0) (by simp only [hb.periodMin, hb.periodMax]; exact hle)
    rw [e] at ea
    dsimp only at ea a1 a2 a4
    rw [hb.periodMin] at a1; rw [hb.periodMax] at a2 a4
    have hal := hinv.alpha
    refine ⟨{ l with ted := ⟨l.ted.h1, l.ted.h2, x, 1⟩, periodAvg := avg, periodInst := inst }, inst,
      some ⟨l.ted.h2, x, zeroCrossingMetric l.ted.h1 l.ted.h2 x⟩, ?_, ?_,
      by simp [hz], by grind, by grind, fun _ => ⟨a3, by grind⟩, by rw [e], by rw [e]⟩
    · unfold TimingLoop.input; rw [e]; dsimp only; rw [ea]; rfl
    · exact ⟨⟨hb.samplesPerTed, hb.periodMin, hb.periodMax, (rat_le_iff _ _).2 a1, (rat_le_iff _ _).2 a2⟩,
        hinv.alpha, by simp, fun _ => ⟨a3, by grind⟩⟩
  · have ho : l.ted.counter = 1 := by omega
    have e := ted_input_of_one ho x
    obtain ⟨o', b1, b2, _, ea⟩ := tl_advance_nosym_rat { l with ted := (l.ted.input x).1 } o
    rw [e] at ea
    dsimp only at ea
    obtain ⟨i1, i2⟩ := hinv.inst ho
    refine ⟨{ l with ted := ⟨l.ted.h1, l.ted.h2, x, 0⟩, periodInst := l.periodInst + o' },
      l.periodInst + o', none, ?_, ?_, by simp [ho], by grind, by grind, by simp, by rw [e], by rw [e]⟩
    · unfold TimingLoop.input; rw [e]; dsimp only; rw [ea]; rfl
    · exact ⟨⟨hb.samplesPerTed, hb.periodMin, hb.periodMax, hb.min_le_avg, hb.avg_le_max⟩,
        hinv.alpha, by simp, by simp⟩

theorem tlR_reset {spt pmin pmax A : Rat} {l : TimingLoop Rat} (hinv : TlRInv spt pmin pmax A l)
    (h1 : pmin ≤ spt) (h2 : spt ≤ pmax) : TlRInv spt pmin pmax A l.reset :=
  ⟨tl_reset_inv hinv.base ((rat_le_iff _ _).2 h1) ((rat_le_iff _ _).2 h2), hinv.alpha,
    by simp [TimingLoop.reset, Ted.init], by simp [TimingLoop.reset, Ted.init]⟩

theorem tlR_setGains {spt pmin pmax A : Rat} {l : TimingLoop Rat} (hinv : TlRInv spt pmin pmax A l)
    (a b : Rat) (ha : a.abs ≤ A) : TlRInv spt pmin pmax A (l.setGains a b) :=
  ⟨tl_setGains_inv hinv.base a b, ha, hinv.counter, hinv.inst⟩

theorem tlR_run {spt pmin pmax A : Rat} (h0 : 0 ≤ pmin) (h1 : pmin ≤ spt) (h2 : spt ≤ pmax)
    (ops : List (TlOp Rat)) : ∀ l : TimingLoop Rat, TlRInv spt pmin pmax A l →
    (∀ op ∈ ops, TlOp.gainBounded A op) →
    ∃ l' outs, tlRun l ops = some (l', outs) ∧ TlRInv spt pmin pmax A l' ∧
      ∀ p ∈ outs, -(1 / 2) ≤ p.1 ∧ p.1 ≤ pmax + A + 1 ∧
        (p.2.isSome = true → 0 ≤ p.1 ∧ p.1 ≤ pmax + A + 1 / 2) := by
  have hle : pmin ≤ pmax := Rat.le_trans h1 h2
  induction ops with
  | nil => intro l h _; exact ⟨l, [], rfl, h, by simp⟩
  | cons op ops ih =>
    intro l h hops
    have hops' : ∀ op ∈ ops, TlOp.gainBounded A op := fun op hm => hops op (List.mem_cons_of_mem _ hm)
    cases op with
    | input x o =>
      obtain ⟨l1, u, sym, e1, hinv, _, u1, u2, u3, _⟩ := tlR_input h h0 hle x o
      obtain ⟨l', outs, e2, hinv', hout⟩ := ih l1 hinv hops'
      refine ⟨l', (u, sym) :: outs, by simp [tlRun, e1, e2], hinv', ?_⟩
      intro p hp
      rcases List.mem_cons.1 hp with rfl | hp
      · exact ⟨u1, u2, u3⟩
      · exact hout p hp
    | reset => exact ih _ (tlR_reset h h1 h2) hops'
    | setGains a b =>
      exact ih _ (tlR_setGains h a b (hops (.setGains a b) (List.mem_cons_self ..))) hops'

end TlRat

/-! ### moving average over the rationals -/

section MovRat

theorem take_succ_append {α : Type} (rest xs : List α) (x : α) :
    (rest ++ x :: xs).take (rest.length + 1) = rest ++ [x] := by
  have : rest ++ x :: xs = (rest ++ [x]) ++ xs := by simp
  rw [this, List.take_left' (by simp)]

theorem sum_append_rat (l1 l2 : List Rat) : (l1 ++ l2).sum = l1.sum + l2.sum := by
  induction l1 with
  | nil => simp [Rat.zero_add]
  | cons a l ih => simp [ih]; grind

theorem sum_replicate_rat (n : Nat) (c : Rat) : (List.replicate n c).sum = (n : Rat) * c := by
  induction n with
  | zero => simp [Rat.zero_mul]
  | succ n ih => simp [List.replicate_succ, ih]; grind

theorem movavg_run_exact (xs : List Rat) : ∀ (m : MovAvg Rat), 0 < m.window.length →
    m.sum = m.window.sum →
    ∃ m' outs, movavgRun m xs = some (m', outs) ∧
      m'.window = (m.window ++ xs).drop xs.length ∧ m'.sum = m'.window.sum ∧ m'.invLen = m.invLen ∧
      outs.length = xs.length ∧
      ∀ k, k < xs.length → outs[k]? =
        some ((((m.window ++ xs).drop (k + 1)).take m.window.length).sum * m.invLen,
              ((m.window ++ xs)[k + 1]?).getD 0) := by
  induction xs with
  | nil => intro m _ hs; exact ⟨m, [], rfl, by simp, hs, rfl, rfl, by simp⟩
  | cons x xs ih =>
    intro m hm hs
    cases hw : m.window with
    | nil => simp [hw] at hm
    | cons aged rest =>
      have e1 := movavg_filter_cons m x aged rest hw
      have hs1 : (rest ++ [x]).sum = m.sum + (x - aged) := by
        rw [hs, hw, sum_append_rat]; simp; grind
      obtain ⟨m', outs, e2, w2, s2, i2, l2, o2⟩ := ih
        { m with window := rest ++ [x], sum := add m.sum (sub x aged) } (by simp) (by simp [hs1])
      refine ⟨m', (mul (add m.sum (sub x aged)) m.invLen, (rest ++ [x]).head (by simp)) :: outs,
        by simp only [movavgRun, e1, e2, Option.map_some], ?_, s2, i2, by simp [l2], ?_⟩
      · rw [w2]; simp
      · intro k hk
        cases k with
        | zero =>
          simp only [List.getElem?_cons_zero, Option.some.injEq, Prod.mk.injEq]
          refine ⟨?_, ?_⟩
          · simp only [rat_mul, rat_add, rat_sub, List.cons_append, List.drop_succ_cons, List.drop_zero,
              List.length_cons, take_succ_append, hs1]
          · cases rest <;> simp
        | succ k =>
          have := o2 k (by simpa using hk)
          simp only [List.getElem?_cons_succ, this]
          simp

end MovRat

/-! ### DC blocker over the rationals -/

section DcRat

theorem list_length_one {α : Type} {l : List α} (h : l.length = 1) : ∃ a, l = [a] := by
  match l, h with
  | [a], _ => exact ⟨a, rfl⟩

theorem dc_len1_filter {d : DcBlock Rat} (hinv : DcInv 1 d) (x : Rat) :
    ∃ d', d.filter x = some (d', x) ∧ DcInv 1 d' := by
  obtain ⟨a, ha⟩ := list_length_one hinv.ff_len
  obtain ⟨b, hb⟩ := list_length_one hinv.fb_len
  have e1 := movavg_filter_cons d.ff x a [] ha
  have e2 := movavg_filter_cons d.fb (mul (add d.ff.sum (sub x a)) d.ff.invLen) b [] hb
  have e := dc_filter_of e1 e2
  obtain ⟨d', y, e', h'⟩ := dcInv_filter hinv (by omega) x
  refine ⟨d', ?_, h'⟩
  rw [e'] at e
  simp only [Option.some.injEq, Prod.mk.injEq] at e
  rw [e', e.2]
  simp [ofBool, Rat.zero_mul, Rat.sub_eq_add_neg, Rat.add_zero]

theorem dc_len1_run (xs : List (Option Rat)) : ∀ d : DcBlock Rat, DcInv 1 d →
    ∃ d', dcRun d xs = some (d', xs.filterMap id) ∧ DcInv 1 d' := by
  induction xs with
  | nil => intro d h; exact ⟨d, rfl, h⟩
  | cons x xs ih =>
    intro d h
    cases x with
    | none =>
      obtain ⟨d', e, h'⟩ := ih _ (dcInv_reset h)
      exact ⟨d', by simpa [dcRun] using e, h'⟩
    | some x =>
      obtain ⟨d1, e1, h1⟩ := dc_len1_filter h x
      obtain ⟨d', e2, h2⟩ := ih d1 h1
      exact ⟨d', by simp [dcRun, e1, e2], h2⟩

/-- a moving average of length `len` whose `sum` is exact -/
structure MovGood (len : Nat) (m : MovAvg Rat) : Prop where
  length : m.window.length = len
  sum : m.sum = m.window.sum
  inv : m.invLen = 1 / (len : Rat)

/-- what `new` builds and `reset` restores -/
theorem movGood_new (len : Nat) :
    MovGood len (⟨List.replicate len zero, div one (ofNat len), zero⟩ : MovAvg Rat) :=
  ⟨by simp, by simp [sum_replicate_rat, Rat.mul_zero], rfl⟩

/-- the newest `i` entries of the window are all `c` (`i = len`: the whole window) -/
def MovTail (len : Nat) (c : Rat) (i : Nat) (m : MovAvg Rat) : Prop :=
  ∃ pre, m.window = pre ++ List.replicate i c ∧ pre.length + i = len

theorem movGood_filter {len : Nat} {m : MovAvg Rat} (hg : MovGood len m) (hl : 0 < len) (x : Rat) :
    ∃ m' y, m.filter x = some (m', y) ∧ MovGood len m' := by
  cases hw : m.window with
  | nil => have := hg.length; simp [hw] at this; omega
  | cons aged rest =>
    refine ⟨_, _, movavg_filter_cons m x aged rest hw, ?_, ?_, hg.inv⟩
    · have := hg.length; simp [hw] at this; simp; omega
    · simp only [rat_add, rat_sub, hg.sum, hw, sum_append_rat]; simp; grind

theorem dcGood_filter {len : Nat} {d : DcBlock Rat} (h1 : MovGood len d.ff) (h2 : MovGood len d.fb)
    (hl : 0 < len) (x : Rat) :
    ∃ d' y, d.filter x = some (d', y) ∧ MovGood len d'.ff ∧ MovGood len d'.fb := by
  obtain ⟨ff, y1, e1, g1⟩ := movGood_filter h1 hl x
  obtain ⟨fb, y2, e2, g2⟩ := movGood_filter h2 hl y1.1
  exact ⟨⟨ff, fb⟩, _, dc_filter_of e1 e2, g1, g2⟩

theorem dcGood_run {len : Nat} (hl : 0 < len) (xs : List (Option Rat)) : ∀ d : DcBlock Rat,
    MovGood len d.ff → MovGood len d.fb →
    ∃ d' outs, dcRun d xs = some (d', outs) ∧ MovGood len d'.ff ∧ MovGood len d'.fb := by
  induction xs with
  | nil => intro d h1 h2; exact ⟨d, [], rfl, h1, h2⟩
  | cons x xs ih =>
    intro d h1 h2
    cases x with
    | none =>
      have hr := dcInv_reset_eq (d := d) ⟨h1.length, h2.length, h1.inv, h2.inv⟩
      obtain ⟨d', outs, e, g⟩ := ih d.reset (by rw [hr]; exact movGood_new len) (by rw [hr]; exact movGood_new len)
      exact ⟨d', outs, by simpa [dcRun] using e, g⟩
    | some x =>
      obtain ⟨d1, y, e1, g1, g2⟩ := dcGood_filter h1 h2 hl x
      obtain ⟨d', outs, e2, g⟩ := ih d1 g1 g2
      exact ⟨d', y :: outs, by simp [dcRun, e1, e2], g⟩

theorem movTail_zero {len : Nat} {m : MovAvg Rat} (hg : MovGood len m) (c : Rat) : MovTail len c 0 m :=
  ⟨m.window, by simp, by simp [hg.length]⟩

theorem movTail_split {len i : Nat} {c : Rat} {m : MovAvg Rat} (ht : MovTail len c i m) (hl : 0 < len) :
    ∃ a pre' i', m.window = a :: (pre' ++ List.replicate i' c) ∧ pre'.length + i' + 1 = len ∧
      i' + 1 = min (i + 1) len := by
  obtain ⟨pre, hw, hlen⟩ := ht
  cases pre with
  | nil =>
    simp only [List.length_nil, Nat.zero_add] at hlen
    subst hlen
    obtain ⟨n, rfl⟩ : ∃ n, i = n + 1 := ⟨i - 1, by omega⟩
    exact ⟨c, [], n, by simpa [List.replicate_succ] using hw, by simp, by omega⟩
  | cons a pre' =>
    simp only [List.length_cons] at hlen
    exact ⟨a, pre', i, by simpa using hw, by omega, by omega⟩

theorem movTail_filter {len i : Nat} {c : Rat} {m : MovAvg Rat} (hg : MovGood len m)
    (ht : MovTail len c i m) (hl : 0 < len) :
    ∃ m' y, m.filter c = some (m', y) ∧ MovGood len m' ∧ MovTail len c (min (i + 1) len) m' ∧
      (len ≤ i + 1 → y = (c, c)) := by
  obtain ⟨a, pre', i', hw, hlen, hi⟩ := movTail_split ht hl
  have e := movavg_filter_cons m c a _ hw
  have hwin : pre' ++ List.replicate i' c ++ [c] = pre' ++ List.replicate (i' + 1) c := by
    simp [List.replicate_succ']
  have hsum : add m.sum (sub c a) = (pre' ++ List.replicate (i' + 1) c).sum := by
    simp only [rat_add, rat_sub, hg.sum, hw, sum_append_rat, sum_replicate_rat, List.sum_cons,
      natCast_succ_rat]
    grind
  refine ⟨_, _, e, ⟨?_, ?_, hg.inv⟩, ?_, ?_⟩
  · simp; omega
  · simp only [hwin, hsum]
  · rw [← hi]; exact ⟨pre', hwin, by omega⟩
  · intro hle
    have hp : pre' = [] := List.eq_nil_of_length_eq_zero (by omega)
    subst hp
    have hne : (len : Rat) ≠ 0 := by simp; omega
    have hcast : ((i' + 1 : Nat) : Rat) = (len : Rat) := by
      rw [show i' + 1 = len by simpa using hlen]
    simp only [Prod.mk.injEq]
    refine ⟨?_, ?_⟩
    · rw [hsum, hg.inv]
      simp only [List.nil_append, sum_replicate_rat, rat_mul, hcast]
      grind
    · cases i' <;> simp [List.replicate_succ]

/-- the state of a DC blocker of length `len` after `j` samples of the constant `c` (from any state
    with exact sums): the feed-forward average has seen `j` of them, the feedback one those from the
    `len`-th on -/
structure DcConst (len : Nat) (c : Rat) (j : Nat) (d : DcBlock Rat) : Prop where
  ffGood : MovGood len d.ff
  fbGood : MovGood len d.fb
  ffTail : MovTail len c (min j len) d.ff
  fbTail : MovTail len c (min (j - (len - 1)) len) d.fb

theorem dcConst_start {len : Nat} {d : DcBlock Rat} (h1 : MovGood len d.ff) (h2 : MovGood len d.fb)
    (c : Rat) : DcConst len c 0 d :=
  ⟨h1, h2, by simpa using movTail_zero h1 c, by simpa using movTail_zero h2 c⟩

/-- from the `2 * len - 1`-th sample on the output is `0`: both averages are `c`, and the feedback one
    is subtracted (for `len = 1` it is not: then `c` itself must be `0`) -/
theorem dcConst_filter {len : Nat} {c : Rat} {j : Nat} {d : DcBlock Rat} (h : DcConst len c j d)
    (hl : 0 < len) (hc : 1 < len ∨ c = 0) :
    ∃ d' y, d.filter c = some (d', y) ∧ DcConst len c (j + 1) d' ∧ (2 * (len - 1) ≤ j → y = 0) := by
  obtain ⟨ff, y1, e1, g1, t1, o1⟩ := movTail_filter h.ffGood h.ffTail hl
  have t1' : MovTail len c (min (j + 1) len) ff := by
    rw [show min (j + 1) len = min (min j len + 1) len by omega]; exact t1
  by_cases hj : len - 1 ≤ j
  · have hy1 : y1 = (c, c) := o1 (by omega)
    subst hy1
    obtain ⟨fb, y2, e2, g2, t2, o2⟩ := movTail_filter h.fbGood h.fbTail hl
    refine ⟨⟨ff, fb⟩, _, dc_filter_of e1 e2, ⟨g1, g2, t1', ?_⟩, ?_⟩
    · rw [show min (j + 1 - (len - 1)) len = min (min (j - (len - 1)) len + 1) len by omega]; exact t2
    · intro hj2
      have hy2 : y2 = (c, c) := o2 (by omega)
      subst hy2
      rcases hc with hc | rfl
      · have : decide (1 < ff.window.length) = true := by simp [g1.length, hc]
        simp only [this, ofBool, rat_sub, rat_mul, rat_one, if_true]
        grind
      · simp only [rat_sub, rat_mul]
        grind
  · obtain ⟨fb, y2, e2, g2⟩ := movGood_filter h.fbGood hl y1.1
    refine ⟨⟨ff, fb⟩, _, dc_filter_of e1 e2, ⟨g1, g2, t1', ?_⟩, by omega⟩
    rw [show min (j + 1 - (len - 1)) len = 0 by omega]
    exact movTail_zero g2 c

theorem dcConst_run {len : Nat} {c : Rat} (hl : 0 < len) (hc : 1 < len ∨ c = 0) (k : Nat) :
    ∀ (j : Nat) (d : DcBlock Rat), DcConst len c j d →
    ∃ d' outs, dcRun d (List.replicate k (some c)) = some (d', outs) ∧ DcConst len c (j + k) d' ∧
      outs.length = k ∧ ∀ i, i < k → 2 * (len - 1) ≤ j + i → outs[i]? = some 0 := by
  induction k with
  | zero => intro j d h; exact ⟨d, [], rfl, h, rfl, by simp⟩
  | succ k ih =>
    intro j d h
    obtain ⟨d1, y, e1, h1, hy⟩ := dcConst_filter h hl hc
    obtain ⟨d', outs, e2, h2, l2, o2⟩ := ih (j + 1) d1 h1
    refine ⟨d', y :: outs, by simp [List.replicate_succ, dcRun, e1, e2],
      by rw [show j + (k + 1) = j + 1 + k by omega]; exact h2, by simp [l2], ?_⟩
    intro i hi hji
    cases i with
    | zero => simp [hy (by omega)]
    | succ i => simpa using o2 i (by omega) (by omega)

end DcRat

end SameVerif.Dsp

