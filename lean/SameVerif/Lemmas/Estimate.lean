import SameVerif.Lemmas.Bits
import SameVerif.Spec.Evidence
/-
  `estimate_message` position by position (every entry is the vote over one column of the bursts),
  and on two equal allowed bursts and one arbitrary burst, in the three orders.
-/
namespace SameVerif
open SameVerif.Spec

theorem column_nil (i : Nat) : column [] i = [] := rfl

theorem column_cons (b : List Byte) (bs : List (List Byte)) (i : Nat) :
    column (b :: bs) i = (match b[i]? with | some x => m7 x :: column bs i | none => column bs i) := by
  unfold column
  cases h : b[i]? <;> simp [h]

theorem column_zero (bs : List (List Byte)) :
    (bs.filterMap List.head?).map (fun b => b &&& ~~~(0x80 : Byte)) = column bs 0 := by
  induction bs with
  | nil => rfl
  | cons b bs ih =>
    rw [column_cons]
    cases b with
    | nil => simp only [List.filterMap_cons, List.head?_nil, List.getElem?_nil]; exact ih
    | cons x xs =>
      simp only [List.filterMap_cons, List.head?_cons, List.map_cons, List.getElem?_cons_zero, m7]
      rw [ih]

theorem column_tail (bs : List (List Byte)) (i : Nat) :
    column (bs.map List.tail) i = column bs (i + 1) := by
  induction bs with
  | nil => rfl
  | cons b bs ih =>
    rw [List.map_cons, column_cons, column_cons, ih]
    cases b with
    | nil => simp
    | cons x xs => simp

theorem column_length (bs : List (List Byte)) (i : Nat) :
    (column bs i).length = (bs.filter (fun b => i < b.length)).length := by
  induction bs with
  | nil => rfl
  | cons b bs ih =>
    rw [column_cons, List.filter_cons]
    by_cases h : i < b.length
    · simp [h, ih]
    · have : b[i]? = none := by simp; omega
      rw [this]; simp [h, ih]

theorem column_length_le (bs : List (List Byte)) (i : Nat) : (column bs i).length ≤ bs.length := by
  rw [column_length]; exact List.length_filter_le _ _

theorem estimateLoop_entry : ∀ (cap : Nat) (bs : List (List Byte)) (i : Nat) (e : EstByte),
    (estimateLoop cap bs)[i]? = some e →
      (∃ n, voteAt (column bs i) = some (e.byte, n)) ∧ e.nbursts = (column bs i).length
        ∧ isAllowed e.byte = true := by
  intro cap
  induction cap with
  | zero => intro bs i e h; simp [estimateLoop] at h
  | succ cap ih =>
    intro bs i e h
    simp only [estimateLoop, column_zero] at h
    cases hv : voteAt (column bs 0) with
    | none => simp [hv] at h
    | some p =>
      obtain ⟨est, nerr⟩ := p
      simp only [hv] at h
      by_cases hal : isAllowed est = true
      · simp only [hal, Bool.not_true, Bool.false_eq_true, ↓reduceIte] at h
        cases i with
        | zero =>
          simp only [List.getElem?_cons_zero, Option.some.injEq] at h
          subst h
          exact ⟨⟨nerr, hv⟩, rfl, hal⟩
        | succ j =>
          simp only [List.getElem?_cons_succ] at h
          have := ih (bs.map List.tail) j e h
          rw [column_tail] at this
          exact this
      · simp [hal] at h


/-- the three positions of the odd burst -/
def arrange {α} (pos : Nat) (h x : α) : List α :=
  match pos with
  | 0 => [x, h, h]
  | 1 => [h, x, h]
  | _ => [h, h, x]

def mask7 (x : Byte) : Byte := x &&& ~~~(0x80 : Byte)

/-- error count charged at one position where `x` is the odd byte against `h` -/
def perByteErr (h x : Byte) : Nat :=
  disputes2 h (mask7 x) + (if (x &&& 0x80) != 0 then 1 else 0)

/-- what the estimator must produce over the length of `hs` -/
def zipPart : List Byte → List Byte → List EstByte
  | [], _ => []
  | h :: hs, [] => ⟨h, 2, 0⟩ :: zipPart hs []
  | h :: hs, x :: xs => ⟨h, 3, perByteErr h x⟩ :: zipPart hs xs

theorem disputed3_xhh (x h : Bool) : disputed3 x h h = (h != x) := by cases x <;> cases h <;> rfl
theorem disputed3_hxh (x h : Bool) : disputed3 h x h = (h != x) := by cases x <;> cases h <;> rfl
theorem disputed3_hhx (x h : Bool) : disputed3 h h x = (h != x) := by cases x <;> cases h <;> rfl

theorem voteCorrect_bit (b0 b1 b2 : Byte) (i : Nat) (hi : i < 8) :
    bitOf (voteCorrect b0 b1 b2).1 i = maj (bitOf b0 i) (bitOf b1 i) (bitOf b2 i) := by
  simp only [voteCorrect, maj, bitOf_or, bitOf_and, bitOf_not _ _ hi, bitOf_xor]
  cases bitOf b0 i <;> cases bitOf b1 i <;> cases bitOf b2 i <;> rfl

theorem voteCorrect_errs (b0 b1 b2 : Byte) : (voteCorrect b0 b1 b2).2 = disputes3 b0 b1 b2 := by
  simp only [voteCorrect, countZeros8_eq, disputes3]
  apply countP_range8_congr
  intro i hi
  simp only [bitOf_and, bitOf_not _ _ hi, bitOf_xor, disputed3]
  cases bitOf b0 i <;> cases bitOf b1 i <;> cases bitOf b2 i <;> rfl

theorem voteCorrect_xhh (x h : Byte) : voteCorrect x h h = (h, disputes2 h x) := by
  apply Prod.ext
  · exact byte_ext _ _ (fun i hi => by
      rw [voteCorrect_bit _ _ _ i hi]; cases bitOf x i <;> cases bitOf h i <;> rfl)
  · exact (voteCorrect_errs x h h).trans (countP_range8_congr _ _ (fun i _ => disputed3_xhh _ _))

theorem voteCorrect_hxh (x h : Byte) : voteCorrect h x h = (h, disputes2 h x) := by
  apply Prod.ext
  · exact byte_ext _ _ (fun i hi => by
      rw [voteCorrect_bit _ _ _ i hi]; cases bitOf x i <;> cases bitOf h i <;> rfl)
  · exact (voteCorrect_errs h x h).trans (countP_range8_congr _ _ (fun i _ => disputed3_hxh _ _))

theorem voteCorrect_hhx (x h : Byte) : voteCorrect h h x = (h, disputes2 h x) := by
  apply Prod.ext
  · exact byte_ext _ _ (fun i hi => by
      rw [voteCorrect_bit _ _ _ i hi]; cases bitOf x i <;> cases bitOf h i <;> rfl)
  · exact (voteCorrect_errs h h x).trans (countP_range8_congr _ _ (fun i _ => disputed3_hhx _ _))

theorem bitOf_zero (i : Nat) : bitOf 0 i = false := by
  simp [bitOf]

theorem voteDetect_same (h : Byte) : voteDetect h h = (h, 0) := by
  simp only [voteDetect, popcount8]
  apply Prod.ext
  · simp
  · simp [bitOf_zero]

theorem voteDetect_ne (x y : Byte) (h : x ≠ y) : (voteDetect x y).1 = 0 := by
  have hx : (x ^^^ y) ≠ 0 := by
    intro hx
    exact h (UInt8.xor_eq_zero_iff.mp hx)
  have h255 : (~~~(255 : Byte)) = 0 := by decide
  simp [voteDetect, hx, h255]


theorem mask7_allowed (h : Byte) (hh : isAllowed h = true) : mask7 h = h := allowed_mask h hh

/-- the three positions of the odd burst `x` among two others -/
def arrange3 {α} (pos : Nat) (a b x : α) : List α :=
  match pos with
  | 0 => [x, a, b]
  | 1 => [a, x, b]
  | _ => [a, b, x]

theorem arrange_eq {α} (pos : Nat) (h x : α) : arrange pos h x = arrange3 pos h h x := by
  rcases pos with _ | _ | n <;> rfl

theorem estimateLoop_two_agree (pos : Nat) (hs : List Byte) :
    ∀ (g2 g3 xs : List Byte) (cap : Nat), (∀ b ∈ hs, isAllowed b = true) → hs.length ≤ cap →
      estimateLoop cap (arrange3 pos (hs ++ g2) (hs ++ g3) xs)
        = zipPart hs xs
            ++ estimateLoop (cap - hs.length) (arrange3 pos g2 g3 (xs.drop hs.length)) := by
  induction hs with
  | nil => intro g2 g3 xs cap _ _; simp [zipPart]
  | cons h hs ih =>
    intro g2 g3 xs cap hall hcap
    have hh : isAllowed h = true := hall h (by simp)
    have hall' : ∀ b ∈ hs, isAllowed b = true := fun b hb => hall b (by simp [hb])
    obtain ⟨cap', rfl⟩ : ∃ c, cap = c + 1 := ⟨cap - 1, by simp at hcap; omega⟩
    have hcap' : hs.length ≤ cap' := by simp at hcap; omega
    have hm : h &&& ~~~(0x80 : Byte) = h := allowed_mask h hh
    have hmsb : ((h &&& 0x80) != 0) = false := allowed_msb h hh
    have hsub : cap' + 1 - (h :: hs).length = cap' - hs.length := by simp
    rw [hsub]
    cases xs with
    | nil =>
      have key : estimateLoop (cap' + 1) (arrange3 pos (h :: hs ++ g2) (h :: hs ++ g3) [])
          = ⟨h, 2, 0⟩ :: estimateLoop cap' (arrange3 pos (hs ++ g2) (hs ++ g3) []) := by
        rcases pos with _ | _ | n <;>
          simp [estimateLoop, arrange3, voteAt, List.filterMap, hm, hmsb, voteDetect_same, hh]
      rw [key, ih g2 g3 [] cap' hall' hcap']
      simp [zipPart]
    | cons x xs =>
      have key : estimateLoop (cap' + 1) (arrange3 pos (h :: hs ++ g2) (h :: hs ++ g3) (x :: xs))
          = ⟨h, 3, perByteErr h x⟩ :: estimateLoop cap' (arrange3 pos (hs ++ g2) (hs ++ g3) xs) := by
        rcases pos with _ | _ | n <;>
          simp [estimateLoop, arrange3, voteAt, List.filterMap, hm, hmsb, voteCorrect_xhh, voteCorrect_hxh,
            voteCorrect_hhx, hh, perByteErr, mask7] <;> omega
      rw [key, ih g2 g3 xs cap' hall' hcap']
      simp [zipPart]

theorem estimateLoop_tail_single (pos : Nat) :
    ∀ (cap : Nat) (ys : List Byte), ∀ e ∈ estimateLoop cap (arrange3 pos [] [] ys), e.nbursts = 1 := by
  intro cap
  induction cap with
  | zero => intro ys e he; simp [estimateLoop] at he
  | succ c ih =>
    intro ys e he
    cases ys with
    | nil =>
      rcases pos with _ | _ | n <;> simp [estimateLoop, arrange3, voteAt, List.filterMap] at he
    | cons y ys =>
      have key : estimateLoop (c + 1) (arrange3 pos [] [] (y :: ys))
          = if !isAllowed (y &&& ~~~(0x80 : Byte)) then []
            else ⟨y &&& ~~~(0x80 : Byte), 1, 0 + (if ((y &&& 0x80) != 0) then 1 else 0)⟩
                  :: estimateLoop c (arrange3 pos [] [] ys) := by
        rcases pos with _ | _ | n <;> simp [estimateLoop, arrange3, voteAt, List.filterMap]
      rw [key] at he
      split at he
      · simp at he
      · rcases List.mem_cons.mp he with h | h
        · simp [h]
        · exact ih ys e h

end SameVerif
