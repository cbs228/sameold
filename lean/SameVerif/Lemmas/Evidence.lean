import SameVerif.Spec.Evidence
import SameVerif.Model.Message
import SameVerif.Thm.C03
import SameVerif.Lemmas.HeaderParse
/-
  Why each entry of the estimate that `combine` keeps is justified by the bursts, and what `combine`
  keeps of the estimate (C04).  The entries themselves are characterised in Lemmas/Estimate.lean.
-/
namespace SameVerif
open SameVerif.Spec

theorem supportsByte_pair (a b : List Byte) (i : Nat) (c : Byte) (h : SupportsByte [a, b] i c) :
    (a[i]?).map m7 = some c ∧ (b[i]?).map m7 = some c := by
  unfold SupportsByte at h
  rw [column_cons, column_cons, column_nil] at h
  cases ha : a[i]? <;> cases hb : b[i]? <;> simp [ha, hb] at h ⊢
  exact h

theorem supportsByte_length (run : List (List Byte)) (i : Nat) (c : Byte) (h : SupportsByte run i c) :
    2 ≤ (column run i).length := by
  rcases h with ⟨a, b, hcol, _⟩ | ⟨a, b, d, hcol, _⟩ <;> rw [hcol] <;> simp

theorem voteAt_supported (cur : List Byte) (c : Byte) (n : Nat)
    (hv : voteAt cur = some (c, n)) (h2 : 2 ≤ cur.length) (hal : isAllowed c = true) :
    (∃ a b, cur = [a, b] ∧ a = c ∧ b = c) ∨
    (∃ a b d, cur = [a, b, d] ∧ ∀ k, k < 8 → bitOf c k = maj (bitOf a k) (bitOf b k) (bitOf d k)) := by
  match cur, hv, h2 with
  | [a, b], hv, _ =>
    left
    simp only [voteAt, C03.vote_detect_spec, Option.some.injEq, Prod.mk.injEq] at hv
    by_cases hab : a = b
    · subst hab; simp at hv; exact ⟨a, a, rfl, hv.1, hv.1⟩
    · simp only [hab, ↓reduceIte] at hv
      rw [← hv.1] at hal
      exact absurd hal (by decide)
  | [a, b, d], hv, _ =>
    right
    refine ⟨a, b, d, rfl, ?_⟩
    intro k hk
    simp only [voteAt, Option.some.injEq] at hv
    have := C03.vote_correct_majority a b d k hk
    rw [hv] at this
    exact this
  | [], _, h2 => simp at h2
  | [_], _, h2 => simp at h2
  | _ :: _ :: _ :: _ :: _, hv, _ => simp [voteAt] at hv

theorem voteAt_weak (cur : List Byte) (c : Byte) (n : Nat)
    (hv : voteAt cur = some (c, n)) (hal : isAllowed c = true) :
    cur = [c] ∨
    (∃ a b, cur = [a, b] ∧ a = c ∧ b = c) ∨
    (∃ a b d, cur = [a, b, d] ∧ ∀ k, k < 8 → bitOf c k = maj (bitOf a k) (bitOf b k) (bitOf d k)) := by
  by_cases h2 : 2 ≤ cur.length
  · exact Or.inr (voteAt_supported cur c n hv h2 hal)
  · left
    match cur, hv, h2 with
    | [], hv, _ => simp [voteAt] at hv
    | [a], hv, _ => simp [voteAt] at hv; rw [hv.1]
    | _ :: _ :: _, _, h2 => simp at h2

theorem estimateLoop_supported (cap : Nat) (bs : List (List Byte)) (i : Nat) (e : EstByte)
    (h : (estimateLoop cap bs)[i]? = some e) (h2 : 2 ≤ e.nbursts) :
    SupportsByte bs i e.byte := by
  obtain ⟨⟨n, hv⟩, hn, hal⟩ := estimateLoop_entry cap bs i e h
  exact voteAt_supported _ _ n hv (by omega) hal

theorem estimateLoop_weakly_supported (cap : Nat) (bs : List (List Byte)) (i : Nat) (e : EstByte)
    (h : (estimateLoop cap bs)[i]? = some e) :
    WeaklySupportsByte bs i e.byte := by
  obtain ⟨⟨n, hv⟩, _, hal⟩ := estimateLoop_entry cap bs i e h
  exact voteAt_weak _ _ n hv hal

theorem takeWhile_get {α} (p : α → Bool) : ∀ (l : List α) (i : Nat), i < (l.takeWhile p).length →
    ∃ x, l[i]? = some x ∧ p x = true := by
  intro l
  induction l with
  | nil => intro i h; simp at h
  | cons a l ih =>
    intro i h
    rw [List.takeWhile_cons] at h
    by_cases ha : p a = true
    · simp only [ha, ↓reduceIte, List.length_cons] at h
      cases i with
      | zero => exact ⟨a, by simp, ha⟩
      | succ j =>
        obtain ⟨x, hx, hp⟩ := ih j (by omega)
        exact ⟨x, by simpa using hx, hp⟩
    · simp [ha] at h

theorem tryFromBytes_som_parse (inp : List Byte) (errs counts : List Nat) (h : Header)
    (ht : Msg.tryFromBytes inp errs counts = .ok (.som h)) :
    ∃ len, checkHeader inp = some (h.offsetTime, len) ∧ h.text = inp.take len ∧
      h.voting = ((counts.zip (inp.take len)).filter (fun p => !(p.1 < 3))).length := by
  unfold Msg.tryFromBytes at ht
  split at ht
  · cases ht
  · split at ht
    · cases hn : Header.newWithErrorInfo inp errs counts with
      | error e => simp [hn] at ht
      | ok h' =>
        simp only [hn, Except.ok.injEq, Msg.som.injEq] at ht
        subst ht
        unfold Header.newWithErrorInfo Header.newWithErrors Header.new at hn
        by_cases ha : inp.all isAsciiByte = true
        · simp only [ha, Bool.not_true, Bool.false_eq_true, ↓reduceIte] at hn
          cases hc : checkHeader inp with
          | none => simp [hc] at hn
          | some p =>
            obtain ⟨off, len⟩ := p
            simp only [hc, Except.ok.injEq] at hn
            subst hn
            exact ⟨len, rfl, rfl, rfl⟩
        · simp [ha] at hn
    · split at ht <;> cases ht

theorem checkHeader_len_pos (s : List Byte) (o n : Nat) (h : checkHeader s = some (o, n)) : 0 < n := by
  unfold checkHeader at h
  cases hp : parseFields s with
  | none => simp [hp] at h
  | some f => simp [hp] at h; omega

theorem tryFromBytes_som (inp : List Byte) (errs counts : List Nat) (h : Header)
    (ht : Msg.tryFromBytes inp errs counts = .ok (.som h)) :
    startsWith inp litZCZC = true ∧ ∃ len, 0 < len ∧ h.text = inp.take len := by
  obtain ⟨len, hc, ht', _⟩ := tryFromBytes_som_parse inp errs counts h ht
  exact ⟨startsWith_of_checkHeader inp _ hc, len, checkHeader_len_pos inp _ _ hc, ht'⟩

theorem tryFromBytes_eom (inp : List Byte) (errs counts : List Nat)
    (ht : Msg.tryFromBytes inp errs counts = .ok .eom) : startsWith inp litNN = true := by
  unfold Msg.tryFromBytes at ht
  split at ht
  · cases ht
  · split at ht
    · cases hn : Header.newWithErrorInfo inp errs counts with
      | error e => simp [hn] at ht
      | ok h' => simp [hn] at ht
    · split at ht
      · assumption
      · cases ht

theorem startsWith_NN (s : List Byte) (h : startsWith s litNN = true) : ∃ r, s = 78 :: 78 :: r := by
  unfold startsWith at h
  cases hs : stripLit litNN s with
  | none => simp [hs] at h
  | some r => exact ⟨r, (stripLit_some litNN s r).mp hs⟩

theorem combine_som_parse (maxLen : Nat) (bursts : List (List Byte)) (h : Header)
    (hc : combine maxLen bursts = some (.ok (.som h))) :
    Msg.tryFromBytes
      (((estimateMessage maxLen bursts).map (·.byte)).take
          (truncLen ((estimateMessage maxLen bursts).map (·.nbursts)) 2))
      ((estimateMessage maxLen bursts).map (·.errs))
      ((estimateMessage maxLen bursts).map (·.nbursts)) = .ok (.som h) := by
  unfold combine at hc
  simp only at hc
  split at hc
  · cases hc
  · split at hc
    · rename_i m hm
      simp only [Option.some.injEq, Except.ok.injEq] at hc
      rw [hm, hc]
    · split at hc
      · cases hc
      · split at hc <;> cases hc

theorem combine_eom_parse (maxLen : Nat) (bursts : List (List Byte))
    (hc : combine maxLen bursts = some (.ok .eom)) :
    ∃ rest, (estimateMessage maxLen bursts).map (·.byte) = 78 :: 78 :: rest := by
  unfold combine at hc
  simp only at hc
  split at hc
  · cases hc
  · split at hc
    · rename_i m hm
      simp only [Option.some.injEq, Except.ok.injEq] at hc
      subst hc
      obtain ⟨r, hr⟩ := startsWith_NN _ (tryFromBytes_eom _ _ _ hm)
      refine ⟨r ++ List.drop (truncLen ((estimateMessage maxLen bursts).map (·.nbursts)) 2)
        ((estimateMessage maxLen bursts).map (·.byte)), ?_⟩
      conv => lhs; rw [← List.take_append_drop
        (truncLen ((estimateMessage maxLen bursts).map (·.nbursts)) 2)
        ((estimateMessage maxLen bursts).map (·.byte))]
      rw [hr]; rfl
    · split at hc
      · rename_i hp
        generalize (List.map (fun x => x.byte) (estimateMessage maxLen bursts)) = msg at hp
        match msg, hp with
        | a :: b :: rest, hp =>
          simp [prefixIsEom] at hp
          exact ⟨rest, by rw [hp.1, hp.2]⟩
        | [], hp => simp [prefixIsEom] at hp
        | [_], hp => simp [prefixIsEom] at hp
      · split at hc <;> cases hc

theorem combine_som_entries (maxLen : Nat) (bursts : List (List Byte)) (h : Header)
    (hc : combine maxLen bursts = some (.ok (.som h))) (i : Nat) (hi : i < h.text.length) :
    ∃ e, (estimateMessage maxLen bursts)[i]? = some e ∧ e.byte = h.text[i] ∧ 2 ≤ e.nbursts := by
  obtain ⟨_, len, _, ht⟩ := tryFromBytes_som _ _ _ _ (combine_som_parse maxLen bursts h hc)
  generalize hest : estimateMessage maxLen bursts = est at ht
  have hi' := hi
  rw [ht] at hi'
  simp only [List.length_take, List.length_map] at hi'
  have hlt : i < truncLen (est.map (·.nbursts)) 2 := by omega
  obtain ⟨x, hx, hp⟩ := takeWhile_get _ _ i hlt
  have hie : i < est.length := by omega
  refine ⟨est[i], by simp [hie], ?_, ?_⟩
  · have : h.text[i]? = some est[i].byte := by
      rw [ht]
      simp [List.getElem?_take, hie]
      omega
    have h2 : h.text[i]? = some h.text[i] := by simp [hi]
    rw [h2] at this
    exact (Option.some.inj this).symm
  · simp [hie] at hx
    subst hx
    simpa using hp

theorem combine_som_text_pos (maxLen : Nat) (bursts : List (List Byte)) (h : Header)
    (hc : combine maxLen bursts = some (.ok (.som h))) : 0 < h.text.length := by
  obtain ⟨hs, len, hl, ht⟩ := tryFromBytes_som _ _ _ _ (combine_som_parse maxLen bursts h hc)
  generalize (List.take _ (List.map (fun x => x.byte) (estimateMessage maxLen bursts))) = good at hs ht
  rw [ht]
  cases good with
  | nil => simp [startsWith, litZCZC, stripLit] at hs
  | cons a g => simp; omega

end SameVerif
