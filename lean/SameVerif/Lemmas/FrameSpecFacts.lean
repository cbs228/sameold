import SameVerif.Lemmas.FramerRefine
/-
  Facts about the index-based specification `Spec.linkAt` (when it reports a burst, how long it can
  stay busy), the restart byte, and the link to `feedStart`.  For C07 and Lemmas/FramerRestarts.
-/
namespace SameVerif
open SameVerif.Spec

def LinkSt.isBurst : LinkSt → Bool
  | .burst _ => true
  | _ => false

theorem max_burst_ge_four : 4 ≤ Gen.MAX_BURST_LENGTH := by decide
theorem prefix_search_pos : 1 ≤ Gen.PREFIX_SEARCH_LEN := by decide

theorem specStates_length (pb ib : Nat) (bs : List Byte) : (specStates pb ib bs).length = bs.length := by
  simp [specStates]

theorem specStates_getElem (pb ib : Nat) (bs : List Byte) (i : Nat) (hi : i < bs.length) :
    (specStates pb ib bs)[i]'(by rw [specStates_length]; exact hi) = linkAt pb ib bs (i + 1) := by
  simp [specStates]

theorem linkAt_one (pb ib : Nat) (bs : List Byte) : linkAt pb ib bs 1 = .searching := by
  unfold linkAt
  split
  · rw [if_pos prefix_search_pos]
  · next k0 hs =>
    have hk1 := (startIndex_some hs).1
    by_cases h : 1 < k0
    · rw [if_pos h]
    · have : k0 = 1 := by omega
      subst this
      rw [if_neg h, if_pos (by simp), if_pos (by simp)]

theorem linkAt_burst {pb ib : Nat} {bs : List Byte} {i : Nat} {b : List Byte}
    (h : linkAt pb ib bs i = .burst b) :
    ∃ k0 je, startIndex pb bs = some k0 ∧ endIndex ib (bs.drop k0) = some je ∧ i = k0 + je
      ∧ b = windowAt bs k0 ++ (bs.drop k0).take (je - 1) := by
  unfold linkAt at h
  split at h
  · split at h <;> cases h
  · next k0 hs =>
    split at h
    · cases h
    · split at h
      · split at h <;> cases h
      · simp only [] at h
        split at h
        · cases h
        · next je he =>
          split at h
          · cases h
          · split at h
            · next h1 h2 h3 hje =>
              refine ⟨k0, je, hs, he, ?_, ?_⟩
              · have := beq_iff_eq.mp hje
                omega
              · injection h with h; exact h.symm
            · cases h

theorem linkAt_after_end {pb ib : Nat} {bs : List Byte} {k0 je i : Nat}
    (hs : startIndex pb bs = some k0) (he : endIndex ib (bs.drop k0) = some je)
    (hi : k0 + je < i) : linkAt pb ib bs i = .noCarrier := by
  have e1 := (endIndex_some he).1
  unfold linkAt
  rw [hs]
  simp only [he]
  rw [if_neg (by omega), if_neg (by simp; omega), if_neg (by omega), if_neg (by simp; omega)]

theorem linkAt_none {pb ib : Nat} {bs : List Byte} (hs : startIndex pb bs = none) (i : Nat) :
    linkAt pb ib bs i = if i ≤ Gen.PREFIX_SEARCH_LEN then .searching else .noCarrier := by
  unfold linkAt
  rw [hs]

theorem endIndex_bound {ib : Nat} {ds : List Byte} {je : Nat} (he : endIndex ib ds = some je) :
    4 + (je - 1) ≤ Gen.MAX_BURST_LENGTH := by
  obtain ⟨e1, e2, e3, e4⟩ := endIndex_some he
  have h4 := max_burst_ge_four
  by_cases h : je = 1
  · omega
  · have := e4 (je - 1) (by omega) (by omega)
    omega

theorem endIndex_exists {ib : Nat} {ds : List Byte}
    (hlen : Gen.MAX_BURST_LENGTH - 4 + 1 ≤ ds.length) :
    ∃ je, endIndex ib ds = some je ∧ je ≤ Gen.MAX_BURST_LENGTH - 4 + 1 := by
  have h4 := max_burst_ge_four
  cases he : endIndex ib ds with
  | none =>
    have := endIndex_none he (Gen.MAX_BURST_LENGTH - 4 + 1) (by omega) hlen
    omega
  | some je =>
    refine ⟨je, rfl, ?_⟩
    obtain ⟨e1, e2, e3, e4⟩ := endIndex_some he
    by_cases h : je ≤ Gen.MAX_BURST_LENGTH - 4 + 1
    · exact h
    · have := e4 (Gen.MAX_BURST_LENGTH - 4 + 1) (by omega) (by omega)
      omega

theorem linkAt_busy_bounded (pb ib : Nat) (bs : List Byte) (i : Nat) (hi : i ≤ bs.length)
    (hb : Gen.PREFIX_SEARCH_LEN + 1 + (Gen.MAX_BURST_LENGTH - 4) + 1 < i) :
    linkAt pb ib bs i = .noCarrier := by
  cases hs : startIndex pb bs with
  | none => rw [linkAt_none hs, if_neg (by omega)]
  | some k0 =>
    obtain ⟨hk1, hk2, hk3, _, _⟩ := startIndex_some hs
    obtain ⟨je, he, hje⟩ := endIndex_exists (ib := ib) (ds := bs.drop k0)
      (by rw [List.length_drop]; omega)
    exact linkAt_after_end hs he (by omega)

theorem finput_restart_notRead (c : FCfg) (s0 : FState) (b : Byte)
    (h0 : s0 = .idle ∨ ∃ w n, s0 = .search w n) :
    finput c s0 b true = ((finputNR c (.search 0 0) b).1, .searching) := by
  rcases h0 with rfl | ⟨w, n, rfl⟩ <;> simp [finput, fend]

theorem finput_restart_read (c : FCfg) (m : List Byte) (iv : Nat) (b : Byte) :
    finput c (.read m iv) b true = ((finputNR c (.search 0 0) b).1, .burst m) := rfl

theorem finput_restart_state (c : FCfg) (s0 : FState) (b : Byte) :
    (finput c s0 b true).1 = (finputNR c (.search 0 0) b).1 := by
  cases s0 <;> simp only [finput, fend, if_true] <;> split <;> rfl

theorem feedStart_getElem_pos (c : FCfg) (s0 : FState) (bs : List Byte) (i : Nat)
    (hi : i < bs.length) (h1 : 1 ≤ i) :
    (feedStart c s0 bs)[i]'(by rw [feedStart_length]; exact hi)
      = linkAt c.maxPrefixErr c.maxInvalid bs (i + 1) := by
  rw [← out_eq_linkAt c bs i hi h1]
  cases bs with
  | nil => simp at hi
  | cons b bs =>
    obtain ⟨i, rfl⟩ : ∃ i', i = i' + 1 := ⟨i - 1, by omega⟩
    simp only [feedStart, List.getElem_cons_succ, stAfter, List.take_succ_cons, feedState]
    rw [feed_getElem c _ bs i (by simpa using hi), finput_restart_state]

theorem feedStart_getElem_spec (c : FCfg) (s0 : FState) (bs : List Byte)
    (h0 : s0 = .idle ∨ ∃ w n, s0 = .search w n) (i : Nat) (hi : i < bs.length) :
    (feedStart c s0 bs)[i]'(by rw [feedStart_length]; exact hi)
      = linkAt c.maxPrefixErr c.maxInvalid bs (i + 1) := by
  cases i with
  | zero =>
    cases bs with
    | nil => simp at hi
    | cons b bs => simp [feedStart, finput_restart_notRead c s0 b h0, linkAt_one]
  | succ i => exact feedStart_getElem_pos c s0 bs (i + 1) hi (by omega)

theorem burst_mem (c : FCfg) (s0 : FState) (bs : List Byte)
    (h0 : s0 = .idle ∨ ∃ w n, s0 = .search w n) (b : List Byte)
    (hb : .burst b ∈ feedStart c s0 bs) :
    ∃ i, i < bs.length ∧ linkAt c.maxPrefixErr c.maxInvalid bs (i + 1) = .burst b := by
  obtain ⟨i, hi, hib⟩ := List.getElem_of_mem hb
  have hi' : i < bs.length := by rw [feedStart_length] at hi; exact hi
  rw [feedStart_getElem_spec c s0 bs h0 i hi'] at hib
  exact ⟨i, hi', hib⟩

theorem after_burst (c : FCfg) (s0 : FState) (bs : List Byte)
    (h0 : s0 = .idle ∨ ∃ w n, s0 = .search w n) (i j : Nat) (b : List Byte)
    (hi : i < (feedStart c s0 bs).length) (hj : j < (feedStart c s0 bs).length) (hij : i < j)
    (hb : (feedStart c s0 bs)[i] = .burst b) : (feedStart c s0 bs)[j] = .noCarrier := by
  have hi' : i < bs.length := by rw [feedStart_length] at hi; exact hi
  have hj' : j < bs.length := by rw [feedStart_length] at hj; exact hj
  rw [feedStart_getElem_spec c s0 bs h0 i hi'] at hb
  obtain ⟨k0, je, hs, he, hije, _⟩ := linkAt_burst hb
  rw [feedStart_getElem_spec c s0 bs h0 j hj']
  exact linkAt_after_end hs he (by omega)

theorem filter_length_le_one {α : Type} (p : α → Bool) (l : List α)
    (h : ∀ i j (hi : i < l.length) (hj : j < l.length), i < j → p l[i] = true → p l[j] = false) :
    (l.filter p).length ≤ 1 := by
  induction l with
  | nil => simp
  | cons x xs ih =>
    have ih' := ih (fun i j hi hj hij hp =>
      h (i + 1) (j + 1) (by simpa using hi) (by simpa using hj) (by omega) (by simpa using hp))
    by_cases hx : p x = true
    · have hall : xs.filter p = [] := by
        rw [List.filter_eq_nil_iff]
        intro a ha
        obtain ⟨j, hj, rfl⟩ := List.getElem_of_mem ha
        have := h 0 (j + 1) (by simp) (by simpa using hj) (by omega) (by simpa using hx)
        simpa using this
      simp [hx, hall]
    · simp [hx, ih']

end SameVerif
