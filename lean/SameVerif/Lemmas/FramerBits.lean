import SameVerif.Model.Framer
import SameVerif.Spec.Frame
/-
  Bit-level facts about the framer's 32-bit shift register (`wordOf`, `beBytes`): shifting a byte in
  slides the 4-byte window, `to_be_bytes` gives the window back.  Then one step of `finputNR` by
  cases of the state, with the conditions as propositions (used by C07 and Lemmas/FramerRestarts).
-/
namespace SameVerif
open SameVerif.Spec

theorem getLsbD_shiftIn (w : UInt32) (x : Byte) (i : Nat) (hi : i < 32) :
    ((w <<< 8) ||| x.toUInt32).toBitVec.getLsbD i
      = if i < 8 then x.toBitVec.getLsbD i else w.toBitVec.getLsbD (i - 8) := by
  have h8 : (8 : UInt32).toBitVec % 32 = 8#32 := by decide
  have h8' : (8#32).toNat = 8 := by decide
  simp only [UInt32.toBitVec_or, UInt32.toBitVec_shiftLeft, UInt8.toBitVec_toUInt32, h8,
    BitVec.getLsbD_or, BitVec.shiftLeft_eq', BitVec.getLsbD_shiftLeft, BitVec.getLsbD_setWidth, h8']
  by_cases h : i < 8
  · simp only [h, hi, decide_true, Bool.not_true, Bool.and_false, Bool.true_and, Bool.false_and,
      Bool.false_or, if_true]
  · have hx : x.toBitVec.getLsbD i = false := BitVec.getLsbD_of_ge _ _ (by omega)
    simp only [h, hi, hx, decide_true, decide_false, Bool.not_false, Bool.and_false, Bool.true_and,
      Bool.or_false, if_false]

theorem getLsbD_shr_toUInt8 (w s : UInt32) (n : Nat) (hs : s.toBitVec % 32 = BitVec.ofNat 32 n)
    (hn : (BitVec.ofNat 32 n).toNat = n) (i : Nat) :
    ((w >>> s).toUInt8).toBitVec.getLsbD i = (decide (i < 8) && w.toBitVec.getLsbD (n + i)) := by
  simp only [UInt32.toBitVec_toUInt8, UInt32.toBitVec_shiftRight, hs, BitVec.getLsbD_setWidth,
      BitVec.ushiftRight_eq', BitVec.getLsbD_ushiftRight, hn]

theorem getLsbD_shiftIn4 (w : UInt32) (a b c d : Byte) (i : Nat) (hi : i < 32) :
    ((((((((w <<< 8) ||| a.toUInt32) <<< 8) ||| b.toUInt32) <<< 8) ||| c.toUInt32) <<< 8)
        ||| d.toUInt32).toBitVec.getLsbD i
      = if i < 8 then d.toBitVec.getLsbD i
        else if i < 16 then c.toBitVec.getLsbD (i - 8)
        else if i < 24 then b.toBitVec.getLsbD (i - 16)
        else a.toBitVec.getLsbD (i - 24) := by
  rw [getLsbD_shiftIn _ _ _ hi]
  split
  · rfl
  · rw [getLsbD_shiftIn _ _ _ (by omega)]
    split
    · rw [if_pos (by omega)]
    · rw [if_neg (by omega), getLsbD_shiftIn _ _ _ (by omega)]
      split
      · rw [if_pos (by omega)]; congr 1
      · rw [if_neg (by omega), getLsbD_shiftIn _ _ _ (by omega), if_pos (by omega)]
        congr 1

theorem shiftIn4_indep (w w' : UInt32) (a b c d : Byte) :
    ((((((((w <<< 8) ||| a.toUInt32) <<< 8) ||| b.toUInt32) <<< 8) ||| c.toUInt32) <<< 8) ||| d.toUInt32)
      = ((((((((w' <<< 8) ||| a.toUInt32) <<< 8) ||| b.toUInt32) <<< 8) ||| c.toUInt32) <<< 8) ||| d.toUInt32) := by
  apply UInt32.eq_of_toBitVec_eq
  apply BitVec.eq_of_getLsbD_eq
  intro i hi
  rw [getLsbD_shiftIn4 _ _ _ _ _ _ hi, getLsbD_shiftIn4 _ _ _ _ _ _ hi]

theorem wordOf_four (a b c d : Byte) :
    wordOf [a, b, c, d]
      = ((((((((0 : UInt32) <<< 8) ||| a.toUInt32) <<< 8) ||| b.toUInt32) <<< 8) ||| c.toUInt32) <<< 8) ||| d.toUInt32 := by
  simp only [wordOf, List.foldl_cons, List.foldl_nil]

theorem wordOf_slide (a b c d e : Byte) :
    wordOf [b, c, d, e] = (wordOf [a, b, c, d] <<< 8) ||| e.toUInt32 := by
  rw [wordOf_four, wordOf_four]
  exact shiftIn4_indep 0 ((0 : UInt32) <<< 8 ||| a.toUInt32) b c d e

theorem getLsbD_wordOf_four (a b c d : Byte) (i : Nat) (hi : i < 32) :
    (wordOf [a, b, c, d]).toBitVec.getLsbD i
      = if i < 8 then d.toBitVec.getLsbD i
        else if i < 16 then c.toBitVec.getLsbD (i - 8)
        else if i < 24 then b.toBitVec.getLsbD (i - 16)
        else a.toBitVec.getLsbD (i - 24) := by
  rw [wordOf_four, getLsbD_shiftIn4 _ _ _ _ _ _ hi]

theorem shr_toUInt8_eq (w s : UInt32) (n : Nat) (x : Byte) (hs : s.toBitVec % 32 = BitVec.ofNat 32 n)
    (hn : (BitVec.ofNat 32 n).toNat = n)
    (hx : ∀ i, i < 8 → w.toBitVec.getLsbD (n + i) = x.toBitVec.getLsbD i) : (w >>> s).toUInt8 = x := by
  apply UInt8.eq_of_toBitVec_eq
  apply BitVec.eq_of_getLsbD_eq
  intro i hi
  rw [getLsbD_shr_toUInt8 _ _ n hs hn, hx i hi]
  simp only [hi, decide_true, Bool.true_and]

theorem beBytes_wordOf_four (a b c d : Byte) : beBytes (wordOf [a, b, c, d]) = [a, b, c, d] := by
  unfold beBytes
  congr 1
  · refine shr_toUInt8_eq _ _ 24 a (by decide) (by decide) (fun i hi => ?_)
    rw [getLsbD_wordOf_four _ _ _ _ _ (by omega), if_neg (by omega), if_neg (by omega), if_neg (by omega)]
    congr 1; omega
  congr 1
  · refine shr_toUInt8_eq _ _ 16 b (by decide) (by decide) (fun i hi => ?_)
    rw [getLsbD_wordOf_four _ _ _ _ _ (by omega), if_neg (by omega), if_neg (by omega), if_pos (by omega)]
    congr 1; omega
  congr 1
  · refine shr_toUInt8_eq _ _ 8 c (by decide) (by decide) (fun i hi => ?_)
    rw [getLsbD_wordOf_four _ _ _ _ _ (by omega), if_neg (by omega), if_pos (by omega)]
    congr 1; omega
  congr 1
  · apply UInt8.eq_of_toBitVec_eq
    apply BitVec.eq_of_getLsbD_eq
    intro i hi
    rw [UInt32.toBitVec_toUInt8, BitVec.getLsbD_setWidth, getLsbD_wordOf_four _ _ _ _ _ (by omega),
      if_pos hi]
    simp only [hi, decide_true, Bool.true_and]

theorem finput_false (c : FCfg) (s : FState) (b : Byte) : finput c s b false = finputNR c s b := rfl

theorem finputNR_search_eq (c : FCfg) (w : UInt32) (n : Nat) (b : Byte) :
    finputNR c (.search w n) b
      = if prefixErrors (w <<< 8 ||| b.toUInt32) ≤ c.maxPrefixErr then
          (.read (beBytes (w <<< 8 ||| b.toUInt32)) 0, .reading)
        else if n + 1 > Gen.PREFIX_SEARCH_LEN then (.idle, .noCarrier)
        else (.search (w <<< 8 ||| b.toUInt32) (n + 1), .searching) := rfl

theorem finputNR_read_eq (c : FCfg) (m : List Byte) (iv : Nat) (b : Byte) :
    finputNR c (.read m iv) b
      = if iv + (if isAllowed b then 0 else 1) > c.maxInvalid ∨ Gen.MAX_BURST_LENGTH ≤ m.length then
          (.idle, .burst m)
        else (.read (m ++ [b]) (iv + (if isAllowed b then 0 else 1)), .reading) := by
  simp only [finputNR, Bool.or_eq_true, decide_eq_true_eq, ge_iff_le]

theorem finputNR_search_cases (c : FCfg) (w : UInt32) (n : Nat) (b : Byte) :
    finputNR c (.search w n) b = (.read (beBytes (w <<< 8 ||| b.toUInt32)) 0, .reading)
      ∨ (Gen.PREFIX_SEARCH_LEN < n + 1 ∧ finputNR c (.search w n) b = (.idle, .noCarrier))
      ∨ (n + 1 ≤ Gen.PREFIX_SEARCH_LEN
          ∧ finputNR c (.search w n) b = (.search (w <<< 8 ||| b.toUInt32) (n + 1), .searching)) := by
  rw [finputNR_search_eq]
  split
  · exact Or.inl rfl
  · split
    · exact Or.inr (Or.inl ⟨by assumption, rfl⟩)
    · exact Or.inr (Or.inr ⟨by omega, rfl⟩)

theorem finputNR_read_cases (c : FCfg) (m : List Byte) (iv : Nat) (b : Byte) :
    finputNR c (.read m iv) b = (.idle, .burst m)
      ∨ (m.length < Gen.MAX_BURST_LENGTH
          ∧ ∃ iv', finputNR c (.read m iv) b = (.read (m ++ [b]) iv', .reading)) := by
  rw [finputNR_read_eq]
  generalize iv + (if isAllowed b then 0 else 1) = iv'
  split
  · exact Or.inl rfl
  · exact Or.inr ⟨by omega, iv', rfl⟩

end SameVerif
