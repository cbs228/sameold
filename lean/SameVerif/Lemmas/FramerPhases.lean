import SameVerif.Lemmas.FramerRun
/-
  The three phases of one framer start (search, read, idle), as a characterisation of the model
  state after `k` bytes in terms of the index-based specification `Spec/Frame.lean`.
-/
namespace SameVerif
open SameVerif.Spec

theorem startIndex_some {pb : Nat} {bs : List Byte} {k0 : Nat} (h : startIndex pb bs = some k0) :
    1 ≤ k0 ∧ k0 ≤ bs.length ∧ k0 ≤ Gen.PREFIX_SEARCH_LEN + 1
      ∧ prefixErrors (wordOf (windowAt bs k0)) ≤ pb
      ∧ ∀ k', 1 ≤ k' → k' < k0 → ¬ prefixErrors (wordOf (windowAt bs k')) ≤ pb := by
  obtain ⟨h1, h2, h3, h4⟩ := find_range_some h
  refine ⟨h1, by omega, by omega, by simpa using h3, ?_⟩
  intro k' a b
  simpa using h4 k' a b

theorem startIndex_none {pb : Nat} {bs : List Byte} (h : startIndex pb bs = none) :
    ∀ k', 1 ≤ k' → k' ≤ bs.length → k' ≤ Gen.PREFIX_SEARCH_LEN + 1 →
      ¬ prefixErrors (wordOf (windowAt bs k')) ≤ pb := by
  intro k' a b c
  simpa using find_range_none h k' a (by omega)

theorem endIndex_some {ib : Nat} {ds : List Byte} {je : Nat} (h : endIndex ib ds = some je) :
    1 ≤ je ∧ je ≤ ds.length
      ∧ (invalidUpTo ds je > ib ∨ 4 + (je - 1) ≥ Gen.MAX_BURST_LENGTH)
      ∧ ∀ j', 1 ≤ j' → j' < je →
          ¬ (invalidUpTo ds j' > ib ∨ 4 + (j' - 1) ≥ Gen.MAX_BURST_LENGTH) := by
  obtain ⟨h1, h2, h3, h4⟩ := find_range_some h
  refine ⟨h1, h2, by simpa using h3, ?_⟩
  intro j' a b
  simpa using h4 j' a b

theorem endIndex_none {ib : Nat} {ds : List Byte} (h : endIndex ib ds = none) :
    ∀ j', 1 ≤ j' → j' ≤ ds.length →
      ¬ (invalidUpTo ds j' > ib ∨ 4 + (j' - 1) ≥ Gen.MAX_BURST_LENGTH) := by
  intro j' a b
  simpa using find_range_none h j' a b

theorem invalidUpTo_zero (ds : List Byte) : invalidUpTo ds 0 = 0 := by
  simp [invalidUpTo]

theorem invalidUpTo_succ (ds : List Byte) (j : Nat) (hj : j < ds.length) :
    invalidUpTo ds (j + 1) = invalidUpTo ds j + (if isAllowed ds[j] then 0 else 1) := by
  unfold invalidUpTo
  rw [← List.take_append_getElem hj, List.filter_append, List.length_append]
  by_cases h : isAllowed ds[j] = true <;> simp [h]

theorem finputNR_search (c : FCfg) (bs : List Byte) (k : Nat) (hk : k < bs.length) :
    finputNR c (.search (wordOf (windowAt bs k)) k) bs[k]
      = if prefixErrors (wordOf (windowAt bs (k + 1))) ≤ c.maxPrefixErr then
          (.read (windowAt bs (k + 1)) 0, .reading)
        else if k + 1 > Gen.PREFIX_SEARCH_LEN then (.idle, .noCarrier)
        else (.search (wordOf (windowAt bs (k + 1))) (k + 1), .searching) := by
  simp only [finputNR]
  rw [← wordOf_windowAt_succ bs k hk, beBytes_wordOf_windowAt]

theorem finputNR_read (c : FCfg) (W : List Byte) (hW : W.length = 4) (ds : List Byte) (j : Nat)
    (hj : j < ds.length) :
    finputNR c (.read (W ++ ds.take j) (invalidUpTo ds j)) ds[j]
      = if invalidUpTo ds (j + 1) > c.maxInvalid ∨ 4 + j ≥ Gen.MAX_BURST_LENGTH then
          (.idle, .burst (W ++ ds.take j))
        else (.read (W ++ ds.take (j + 1)) (invalidUpTo ds (j + 1)), .reading) := by
  have hl : (W ++ ds.take j).length = 4 + j := by
    rw [List.length_append, hW, List.length_take]; omega
  rw [finputNR_read_eq, ← invalidUpTo_succ ds j hj, hl, List.append_assoc, List.take_append_getElem hj]

theorem finputNR_idle (c : FCfg) (b : Byte) : finputNR c .idle b = (.idle, .noCarrier) := rfl

/-- state of a framer restarted at the first byte of `bs`, after the first `k` bytes -/
def stAfter (c : FCfg) (bs : List Byte) (k : Nat) : FState :=
  feedState c (.search 0 0) (bs.take k)

theorem stAfter_zero (c : FCfg) (bs : List Byte) : stAfter c bs 0 = .search 0 0 := by
  simp [stAfter, feedState]

theorem stAfter_succ (c : FCfg) (bs : List Byte) (k : Nat) (hk : k < bs.length) :
    stAfter c bs (k + 1) = (finputNR c (stAfter c bs k) bs[k]).1 :=
  feedState_take_succ c _ bs k hk

theorem stAfter_search (c : FCfg) (bs : List Byte) :
    ∀ k, k ≤ bs.length → k ≤ Gen.PREFIX_SEARCH_LEN →
      (∀ k', 1 ≤ k' → k' ≤ k → ¬ prefixErrors (wordOf (windowAt bs k')) ≤ c.maxPrefixErr) →
      stAfter c bs k = .search (wordOf (windowAt bs k)) k := by
  intro k
  induction k with
  | zero => intro _ _ _; rw [stAfter_zero, wordOf_windowAt_zero]
  | succ k ih =>
    intro h1 h2 h3
    have hk : k < bs.length := by omega
    rw [stAfter_succ c bs k hk, ih (by omega) (by omega) (fun k' a b => h3 k' a (by omega)),
      finputNR_search c bs k hk, if_neg (h3 (k + 1) (by omega) (by omega)), if_neg (by omega)]

theorem stAfter_read (c : FCfg) (bs : List Byte) (k0 : Nat)
    (hk0 : stAfter c bs k0 = .read (windowAt bs k0) 0) :
    ∀ j, k0 + j ≤ bs.length →
      (∀ j', 1 ≤ j' → j' ≤ j →
        ¬ (invalidUpTo (bs.drop k0) j' > c.maxInvalid ∨ 4 + (j' - 1) ≥ Gen.MAX_BURST_LENGTH)) →
      stAfter c bs (k0 + j)
        = .read (windowAt bs k0 ++ (bs.drop k0).take j) (invalidUpTo (bs.drop k0) j) := by
  intro j
  induction j with
  | zero => intro _ _; simp [hk0, invalidUpTo_zero]
  | succ j ih =>
    intro h1 h2
    have hk : k0 + j < bs.length := by omega
    have hj : j < (bs.drop k0).length := by rw [List.length_drop]; omega
    have hb : bs[k0 + j] = (bs.drop k0)[j] := by rw [List.getElem_drop]
    rw [← Nat.add_assoc, stAfter_succ c bs (k0 + j) hk, ih (by omega) (fun j' a b => h2 j' a (by omega)),
      hb, finputNR_read c _ (windowAt_length bs k0) _ j hj, if_neg (by simpa using h2 (j + 1) (by omega) (by omega))]

theorem stAfter_idle (c : FCfg) (bs : List Byte) (k1 : Nat) (h : stAfter c bs k1 = .idle) :
    ∀ m, k1 + m ≤ bs.length → stAfter c bs (k1 + m) = .idle := by
  intro m
  induction m with
  | zero => intro _; exact h
  | succ m ih =>
    intro h1
    rw [← Nat.add_assoc, stAfter_succ c bs (k1 + m) (by omega), ih (by omega), finputNR_idle]

end SameVerif
