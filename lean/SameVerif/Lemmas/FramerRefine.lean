import SameVerif.Lemmas.FramerPhases
/- Per-byte output of one framer start = `Spec.linkAt`: the core of `C07.framer_refines_spec`. -/
namespace SameVerif
open SameVerif.Spec

theorem step_search (c : FCfg) (bs : List Byte) (k : Nat) (hk : k < bs.length)
    (hk' : k ≤ Gen.PREFIX_SEARCH_LEN)
    (hno : ∀ k', 1 ≤ k' → k' ≤ k → ¬ prefixErrors (wordOf (windowAt bs k')) ≤ c.maxPrefixErr) :
    finputNR c (stAfter c bs k) bs[k]
      = if prefixErrors (wordOf (windowAt bs (k + 1))) ≤ c.maxPrefixErr then
          (.read (windowAt bs (k + 1)) 0, .reading)
        else if k + 1 > Gen.PREFIX_SEARCH_LEN then (.idle, .noCarrier)
        else (.search (wordOf (windowAt bs (k + 1))) (k + 1), .searching) := by
  rw [stAfter_search c bs k (by omega) hk' hno, finputNR_search c bs k hk]

theorem step_read (c : FCfg) (bs : List Byte) (k0 : Nat)
    (hk0 : stAfter c bs k0 = .read (windowAt bs k0) 0) (j : Nat) (hj : k0 + j < bs.length)
    (hno : ∀ j', 1 ≤ j' → j' ≤ j →
        ¬ (invalidUpTo (bs.drop k0) j' > c.maxInvalid ∨ 4 + (j' - 1) ≥ Gen.MAX_BURST_LENGTH)) :
    finputNR c (stAfter c bs (k0 + j)) bs[k0 + j]
      = if invalidUpTo (bs.drop k0) (j + 1) > c.maxInvalid ∨ 4 + j ≥ Gen.MAX_BURST_LENGTH then
          (.idle, .burst (windowAt bs k0 ++ (bs.drop k0).take j))
        else (.read (windowAt bs k0 ++ (bs.drop k0).take (j + 1)) (invalidUpTo (bs.drop k0) (j + 1)),
              .reading) := by
  have hj' : j < (bs.drop k0).length := by rw [List.length_drop]; omega
  have hb : bs[k0 + j] = (bs.drop k0)[j] := by rw [List.getElem_drop]
  rw [stAfter_read c bs k0 hk0 j (by omega) hno, hb,
    finputNR_read c _ (windowAt_length bs k0) _ j hj']

theorem stAfter_giveup (c : FCfg) (bs : List Byte) (hlen : Gen.PREFIX_SEARCH_LEN + 1 ≤ bs.length)
    (hno : ∀ k', 1 ≤ k' → k' ≤ Gen.PREFIX_SEARCH_LEN + 1 →
      ¬ prefixErrors (wordOf (windowAt bs k')) ≤ c.maxPrefixErr) :
    stAfter c bs (Gen.PREFIX_SEARCH_LEN + 1) = .idle := by
  rw [stAfter_succ c bs _ (by omega),
    step_search c bs _ (by omega) (Nat.le_refl _) (fun k' a b => hno k' a (by omega)),
    if_neg (hno _ (by omega) (Nat.le_refl _)), if_pos (by omega)]

theorem stAfter_start (c : FCfg) (bs : List Byte) {k0 : Nat}
    (h : startIndex c.maxPrefixErr bs = some k0) :
    stAfter c bs k0 = .read (windowAt bs k0) 0 := by
  obtain ⟨hk1, hk2, hk3, hP, hmin⟩ := startIndex_some h
  obtain ⟨k, rfl⟩ : ∃ k, k0 = k + 1 := ⟨k0 - 1, by omega⟩
  rw [stAfter_succ c bs _ (by omega),
    step_search c bs k (by omega) (by omega) (fun k' a b => hmin k' a (by omega)), if_pos hP]

theorem stAfter_end (c : FCfg) (bs : List Byte) {k0 je : Nat}
    (h : startIndex c.maxPrefixErr bs = some k0)
    (he : endIndex c.maxInvalid (bs.drop k0) = some je) :
    stAfter c bs (k0 + je) = .idle := by
  obtain ⟨h1, h2, h3, h4⟩ := endIndex_some he
  rw [List.length_drop] at h2
  obtain ⟨j, rfl⟩ : ∃ j, je = j + 1 := ⟨je - 1, by omega⟩
  rw [← Nat.add_assoc, stAfter_succ c bs _ (by omega),
    step_read c bs k0 (stAfter_start c bs h) j (by omega) (fun j' a b => h4 j' a (by omega)),
    if_pos (by simpa using h3)]

theorem out_eq_linkAt (c : FCfg) (bs : List Byte) (i : Nat) (hi : i < bs.length) (h1 : 1 ≤ i) :
    (finputNR c (stAfter c bs i) bs[i]).2 = linkAt c.maxPrefixErr c.maxInvalid bs (i + 1) := by
  unfold linkAt
  split
  · next heq =>
    have hn := startIndex_none heq
    by_cases hA : i + 1 ≤ Gen.PREFIX_SEARCH_LEN
    · rw [if_pos hA,
        step_search c bs i hi (by omega) (fun k' a b => hn k' a (by omega) (by omega)),
        if_neg (hn (i + 1) (by omega) (by omega) (by omega)), if_neg (by omega)]
    · rw [if_neg hA]
      by_cases hB : i = Gen.PREFIX_SEARCH_LEN
      · rw [step_search c bs i hi (by omega) (fun k' a b => hn k' a (by omega) (by omega)),
          if_neg (hn (i + 1) (by omega) (by omega) (by omega)), if_pos (by omega)]
      · have hidle := stAfter_giveup c bs (by omega) (fun k' a b => hn k' a (by omega) b)
        have := stAfter_idle c bs _ hidle (i - (Gen.PREFIX_SEARCH_LEN + 1)) (by omega)
        rw [show Gen.PREFIX_SEARCH_LEN + 1 + (i - (Gen.PREFIX_SEARCH_LEN + 1)) = i by omega] at this
        rw [this, finputNR_idle]
  · next k0 heq =>
    obtain ⟨hk1, hk2, hk3, hP, hmin⟩ := startIndex_some heq
    by_cases hA : i + 1 < k0
    · rw [if_pos hA,
        step_search c bs i hi (by omega) (fun k' a b => hmin k' a (by omega)),
        if_neg (hmin (i + 1) (by omega) hA), if_neg (by omega)]
    · rw [if_neg hA]
      by_cases hB : i + 1 = k0
      · subst hB
        have h11 : ¬ ((i + 1 == 1) = true) := by simp; omega
        rw [if_pos (by simp), if_neg h11,
          step_search c bs i hi (by omega) (fun k' a b => hmin k' a (by omega)), if_pos hP]
      · rw [if_neg (by simpa using hB)]
        have hread := stAfter_start c bs heq
        obtain ⟨j, rfl⟩ : ∃ j, i = k0 + j := ⟨i - k0, by omega⟩
        have hjj : k0 + j + 1 - k0 = j + 1 := by omega
        simp only [hjj]
        split
        · next hend =>
          have he := endIndex_none hend
          rw [List.length_drop] at he
          rw [step_read c bs k0 hread j hi (fun j' a b => he j' a (by omega)),
            if_neg (by simpa using he (j + 1) (by omega) (by omega))]
        · next je hend =>
          obtain ⟨e1, e2, e3, e4⟩ := endIndex_some hend
          rw [List.length_drop] at e2
          by_cases hC : j + 1 < je
          · rw [if_pos hC, step_read c bs k0 hread j hi (fun j' a b => e4 j' a (by omega)),
              if_neg (by simpa using e4 (j + 1) (by omega) hC)]
          · rw [if_neg hC]
            by_cases hD : j + 1 = je
            · subst hD
              rw [if_pos (by simp), step_read c bs k0 hread j hi (fun j' a b => e4 j' a (by omega)),
                if_pos (by simpa using e3)]
              simp
            · rw [if_neg (by simpa using hD)]
              have hidle := stAfter_end c bs heq hend
              have := stAfter_idle c bs _ hidle (j - je) (by omega)
              rw [show k0 + je + (j - je) = k0 + j by omega] at this
              rw [this, finputNR_idle]

end SameVerif
