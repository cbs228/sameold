import SameVerif.Thm.C09
import SameVerif.Lemmas.FrameSpecFacts
/-
  Lemmas for `Thm/C09busy.lean`: how long a framer fed `(byte, restart)` pairs can report
  `searching`/`reading` without a break, as a function of the restarts it is given.

  The accounting is a potential function `fuel : FState → Nat` — the number of busy outputs a state
  can still produce WITHOUT any restart.  A byte without restart that reports a busy output burns
  one unit; a restart that reports a busy output (only possible from a state that is not `.read`)
  refills the tank to `BUSY_MAX - 1`, which is at most `PREFIX_SEARCH_LEN` more than it held.
-/
namespace SameVerif.C09
open SameVerif

/-- the link reports a frame in progress: neither `noCarrier` nor a finished burst -/
def Busy (o : LinkSt) : Prop := o = .searching ∨ o = .reading

instance : DecidablePred Busy := fun o => by unfold Busy; exact inferInstance

theorem not_busy_iff (o : LinkSt) : ¬ Busy o ↔ o = .noCarrier ∨ ∃ b, o = .burst b := by
  cases o <;> simp [Busy]

/-- the longest busy stretch of ONE start: `PREFIX_SEARCH_LEN + 1` search bytes (the last of them
    the byte that completes the prefix) and `MAX_BURST_LENGTH - 4` data bytes — 270 -/
abbrev BUSY_MAX : Nat := Gen.PREFIX_SEARCH_LEN + 1 + (Gen.MAX_BURST_LENGTH - 4)

/-- number of inputs that re-synchronise the byte clock -/
def restarts (xs : List (Byte × Bool)) : Nat := xs.countP (fun x => x.2)

/-- framer state after feeding `(byte, restart)` pairs -/
def runR (c : FCfg) : FState → List (Byte × Bool) → FState
  | s, [] => s
  | s, (b, r) :: bs => runR c (finput c s b r).1 bs

/-- busy outputs a state can still produce without a restart -/
def fuel : FState → Nat
  | .idle => 0
  | .search _ n => (Gen.PREFIX_SEARCH_LEN + 1 - min n Gen.PREFIX_SEARCH_LEN) + (Gen.MAX_BURST_LENGTH - 4)
  | .read msg _ => Gen.MAX_BURST_LENGTH - msg.length

theorem feedR_length (c : FCfg) (s : FState) (xs : List (Byte × Bool)) :
    (feedR c s xs).length = xs.length := by
  induction xs generalizing s with
  | nil => rfl
  | cons x xs ih => obtain ⟨b, r⟩ := x; simp [feedR, ih]

theorem feedR_append (c : FCfg) (s : FState) (xs ys : List (Byte × Bool)) :
    feedR c s (xs ++ ys) = feedR c s xs ++ feedR c (runR c s xs) ys := by
  induction xs generalizing s with
  | nil => rfl
  | cons x xs ih => obtain ⟨b, r⟩ := x; simp [feedR, runR, ih]

theorem runR_append (c : FCfg) (s : FState) (xs ys : List (Byte × Bool)) :
    runR c s (xs ++ ys) = runR c (runR c s xs) ys := by
  induction xs generalizing s with
  | nil => rfl
  | cons x xs ih => obtain ⟨b, r⟩ := x; simp [runR, ih]

theorem feedR_take (c : FCfg) (s : FState) (xs : List (Byte × Bool)) (j : Nat) :
    (feedR c s xs).take j = feedR c s (xs.take j) := by
  induction xs generalizing s j with
  | nil => simp [feedR]
  | cons x xs ih =>
    obtain ⟨b, r⟩ := x
    cases j with
    | zero => simp [feedR]
    | succ j => simp [feedR, ih]

theorem feedR_drop (c : FCfg) (s : FState) (xs : List (Byte × Bool)) (i : Nat) :
    (feedR c s xs).drop i = feedR c (runR c s (xs.take i)) (xs.drop i) := by
  induction xs generalizing s i with
  | nil => simp [feedR, runR]
  | cons x xs ih =>
    obtain ⟨b, r⟩ := x
    cases i with
    | zero => simp [runR]
    | succ i => simp [feedR, runR, ih]

theorem psl_eq : Gen.PREFIX_SEARCH_LEN = 21 := rfl
theorem mbl_eq : Gen.MAX_BURST_LENGTH = 252 := rfl

theorem step_nr (c : FCfg) (s : FState) (b : Byte) :
    (finput c s b false).2 = .noCarrier
      ∨ ((∃ m, (finput c s b false).2 = .burst m) ∧ (finput c s b false).1 = .idle)
      ∨ (Busy (finput c s b false).2 ∧ (finput c s b false).1 ≠ .idle
          ∧ fuel (finput c s b false).1 + 1 ≤ fuel s) := by
  have hP := psl_eq
  have hM := mbl_eq
  rw [finput_false]
  cases s with
  | idle => exact Or.inl rfl
  | search w n =>
    rcases finputNR_search_cases c w n b with h | ⟨_, h⟩ | ⟨_, h⟩ <;> rw [h]
    · refine Or.inr (Or.inr ⟨Or.inr rfl, by simp, ?_⟩)
      simp only [fuel, beBytes, List.length_cons, List.length_nil]
      omega
    · exact Or.inl rfl
    · refine Or.inr (Or.inr ⟨Or.inl rfl, by simp, ?_⟩)
      simp only [fuel]
      omega
  | read m iv =>
    rcases finputNR_read_cases c m iv b with h | ⟨_, iv', h⟩ <;> rw [h]
    · exact Or.inr (Or.inl ⟨⟨m, rfl⟩, rfl⟩)
    · refine Or.inr (Or.inr ⟨Or.inr rfl, by simp, ?_⟩)
      simp only [fuel, List.length_append, List.length_singleton]
      omega

/-- the state a restart leaves behind: searching with the counter at 1, or (prefix budget so large
    that one byte matches) reading a 4-byte burst -/
theorem finput_restart_cases (c : FCfg) (s : FState) (b : Byte) :
    (∃ w, (finput c s b true).1 = .search w 1) ∨ ∃ w, (finput c s b true).1 = .read (beBytes w) 0 := by
  rw [finput_restart_state]
  rcases finputNR_search_cases c 0 0 b with h | ⟨h0, _⟩ | ⟨_, h⟩
  · exact Or.inr ⟨_, congrArg Prod.fst h⟩
  · exact absurd h0 (by decide)
  · exact Or.inl ⟨_, congrArg Prod.fst h⟩

theorem restart_state (c : FCfg) (s : FState) (b : Byte) :
    (finput c s b true).1 ≠ .idle ∧ fuel (finput c s b true).1 + 1 ≤ BUSY_MAX := by
  have hP := psl_eq
  have hM := mbl_eq
  rcases finput_restart_cases c s b with ⟨w, h⟩ | ⟨w, h⟩ <;> rw [h] <;>
    simp only [fuel, beBytes, List.length_cons, List.length_nil, BUSY_MAX]
  · exact ⟨by simp, by omega⟩
  · exact ⟨by simp, by omega⟩

theorem restart_busy_iff (c : FCfg) (s : FState) (b : Byte) :
    Busy (finput c s b true).2 ↔ ∀ m iv, s ≠ .read m iv := by
  cases s <;> simp [finput, fend, Busy]

theorem fuel_search_ge (w : UInt32) (n : Nat) : BUSY_MAX ≤ fuel (.search w n) + Gen.PREFIX_SEARCH_LEN := by
  have hP := psl_eq
  simp only [fuel, BUSY_MAX]; omega

theorem fuel_le (s : FState) : fuel s ≤ BUSY_MAX := by
  have hP := psl_eq
  have hM := mbl_eq
  cases s <;> simp only [fuel, BUSY_MAX] <;> omega

theorem step_busy (c : FCfg) (s : FState) (b : Byte) (r : Bool) (h : Busy (finput c s b r).2) :
    (finput c s b r).1 ≠ .idle ∧ fuel (finput c s b r).1 + 1 ≤ BUSY_MAX
      ∧ (s ≠ .idle → fuel (finput c s b r).1 + 1 ≤ fuel s + (if r then Gen.PREFIX_SEARCH_LEN else 0)) := by
  cases r with
  | true =>
    obtain ⟨h1, h2⟩ := restart_state c s b
    refine ⟨h1, h2, fun hs => ?_⟩
    rw [restart_busy_iff] at h
    cases s with
    | idle => exact absurd rfl hs
    | search w n => have := fuel_search_ge w n; simp only [if_true]; omega
    | read m iv => exact absurd rfl (h m iv)
  | false =>
    rcases step_nr c s b with h0 | ⟨⟨m, h0⟩, _⟩ | ⟨_, h1, h2⟩
    · rw [h0] at h; rcases h with h | h <;> cases h
    · rw [h0] at h; rcases h with h | h <;> cases h
    · have := fuel_le s
      refine ⟨h1, by omega, fun _ => by simpa using h2⟩

theorem restarts_nil : restarts [] = 0 := rfl

theorem restarts_cons (b : Byte) (r : Bool) (xs : List (Byte × Bool)) :
    restarts ((b, r) :: xs) = restarts xs + (if r then 1 else 0) := by
  simp [restarts, List.countP_cons]

theorem restarts_cons_eq_zero {b : Byte} {r : Bool} {xs : List (Byte × Bool)} :
    restarts ((b, r) :: xs) = 0 ↔ r = false ∧ restarts xs = 0 := by
  rw [restarts_cons]
  cases r <;> simp

theorem restarts_append (xs ys : List (Byte × Bool)) : restarts (xs ++ ys) = restarts xs + restarts ys := by
  simp [restarts, List.countP_append]

theorem restarts_take_mono (xs : List (Byte × Bool)) {n m : Nat} (h : n ≤ m) :
    restarts (xs.take n) ≤ restarts (xs.take m) :=
  List.Sublist.countP_le (List.take_sublist_take_left h)

theorem restarts_eq_zero (xs : List (Byte × Bool)) : restarts xs = 0 ↔ ∀ x ∈ xs, x.2 = false := by
  simp [restarts, List.countP_eq_zero]

theorem first_restart (xs : List (Byte × Bool)) (h : 1 ≤ restarts xs) :
    ∃ nr b zs, xs = nr ++ (b, true) :: zs ∧ restarts nr = 0 := by
  induction xs with
  | nil => simp [restarts] at h
  | cons x xs ih =>
    obtain ⟨b, r⟩ := x
    cases r with
    | true => exact ⟨[], b, xs, rfl, rfl⟩
    | false =>
      rw [restarts_cons] at h
      obtain ⟨nr, b', zs, rfl, h0⟩ := ih (by simpa using h)
      refine ⟨(b, false) :: nr, b', zs, rfl, ?_⟩
      rw [restarts_cons, h0]; rfl

theorem busy_run_fuel (c : FCfg) (xs : List (Byte × Bool)) (s : FState) (hs : s ≠ .idle)
    (h : ∀ o ∈ feedR c s xs, Busy o) :
    runR c s xs ≠ .idle ∧ xs.length ≤ fuel s + Gen.PREFIX_SEARCH_LEN * restarts xs := by
  induction xs generalizing s with
  | nil => exact ⟨hs, by simp⟩
  | cons x xs ih =>
    obtain ⟨b, r⟩ := x
    simp only [feedR, List.mem_cons, forall_eq_or_imp] at h
    obtain ⟨h1, _, h3⟩ := step_busy c s b r h.1
    obtain ⟨ih1, ih2⟩ := ih _ h1 h.2
    refine ⟨ih1, ?_⟩
    have := h3 hs
    rw [restarts_cons, List.length_cons, psl_eq] at *
    cases r <;> simp only [if_true, if_false, Bool.false_eq_true] at * <;> omega

theorem busy_run_le (c : FCfg) (s : FState) (xs : List (Byte × Bool))
    (h : ∀ o ∈ feedR c s xs, Busy o) :
    xs.length ≤ Gen.PREFIX_SEARCH_LEN * restarts xs.tail + BUSY_MAX := by
  cases xs with
  | nil => simp
  | cons x xs =>
    obtain ⟨b, r⟩ := x
    simp only [feedR, List.mem_cons, forall_eq_or_imp] at h
    obtain ⟨h1, h2, _⟩ := step_busy c s b r h.1
    have := (busy_run_fuel c xs _ h1 h.2).2
    simp only [List.tail_cons, List.length_cons]
    omega

/-! ### the search counter between two restarts -/

/-- `searching` outputs a state can still produce without a restart -/
def sfuel : FState → Nat
  | .search _ n => Gen.PREFIX_SEARCH_LEN - n
  | _ => 0

theorem step_nr_search (c : FCfg) (s : FState) (b : Byte) (w' : UInt32) (n' : Nat)
    (h : (finput c s b false).1 = .search w' n') :
    (∃ w n, s = .search w n) ∧ sfuel (finput c s b false).1 + 1 ≤ sfuel s := by
  rw [finput_false] at h ⊢
  cases s with
  | idle => cases h
  | search w n =>
    refine ⟨⟨w, n, rfl⟩, ?_⟩
    rcases finputNR_search_cases c w n b with h' | ⟨_, h'⟩ | ⟨_, h'⟩ <;> rw [h'] at h ⊢
    · cases h
    · cases h
    · simp only [sfuel]
      omega
  | read m iv =>
    rcases finputNR_read_cases c m iv b with h' | ⟨_, iv', h'⟩ <;> rw [h'] at h <;> cases h

theorem search_run (c : FCfg) (nr : List (Byte × Bool)) (s : FState) (h0 : restarts nr = 0)
    (hf : ∃ w n, runR c s nr = .search w n) :
    (∃ w n, s = .search w n) ∧ nr.length + sfuel (runR c s nr) ≤ sfuel s := by
  induction nr generalizing s with
  | nil => exact ⟨hf, by simp [runR]⟩
  | cons x nr ih =>
    obtain ⟨b, r⟩ := x
    obtain ⟨rfl, h0⟩ := restarts_cons_eq_zero.1 h0
    simp only [runR] at hf ⊢
    obtain ⟨⟨w1, n1, h1⟩, h2⟩ := ih _ h0 hf
    obtain ⟨h3, h4⟩ := step_nr_search c s b w1 n1 h1
    exact ⟨h3, by rw [List.length_cons]; omega⟩

theorem restart_sfuel (c : FCfg) (s : FState) (b : Byte) :
    sfuel (finput c s b true).1 + 1 ≤ Gen.PREFIX_SEARCH_LEN := by
  have hP := psl_eq
  rcases finput_restart_cases c s b with ⟨w, h⟩ | ⟨w, h⟩ <;> rw [h] <;> simp only [sfuel] <;> omega

/-- between two restarts of a busy run lie fewer than `PREFIX_SEARCH_LEN` bytes: the second restart
    reports busy, so it finds the framer still searching, and the search counter started at 1 -/
theorem restart_gap (c : FCfg) (s : FState) (b b' : Byte) (nr : List (Byte × Bool))
    (h0 : restarts nr = 0) (hnr : ∀ o ∈ feedR c (finput c s b true).1 nr, Busy o)
    (hb' : Busy (finput c (runR c (finput c s b true).1 nr) b' true).2) :
    nr.length + 1 ≤ Gen.PREFIX_SEARCH_LEN := by
  have hni := (busy_run_fuel c nr _ (restart_state c s b).1 hnr).1
  have hnr' := (restart_busy_iff c _ b').1 hb'
  have hsearch : ∃ w n, runR c (finput c s b true).1 nr = .search w n := by
    cases hst : runR c (finput c s b true).1 nr with
    | idle => exact absurd hst hni
    | search w n => exact ⟨w, n, rfl⟩
    | read m iv => exact absurd hst (hnr' m iv)
  have hlen := (search_run c nr _ h0 hsearch).2
  have hsf := restart_sfuel c s b
  omega

/-- In a busy run that begins with a restart, the next restart (if there is
    one) comes within `PREFIX_SEARCH_LEN` bytes, the one after it within `PREFIX_SEARCH_LEN` more, … :
    if `k` further restarts follow at all, the first `PREFIX_SEARCH_LEN * k + 1` inputs hold `k + 1`. -/
theorem restart_chain (c : FCfg) (k : Nat) (zs : List (Byte × Bool)) (s : FState) (b : Byte)
    (h : ∀ o ∈ feedR c s ((b, true) :: zs), Busy o) (hk : k ≤ restarts zs) :
    k + 1 ≤ restarts (((b, true) :: zs).take (Gen.PREFIX_SEARCH_LEN * k + 1)) := by
  rw [psl_eq]
  induction k generalizing zs s b with
  | zero => simp [restarts]
  | succ k ih =>
    obtain ⟨nr, b', zs', rfl, h0⟩ := first_restart zs (by omega)
    rw [restarts_append, h0, restarts_cons] at hk
    simp only [feedR, feedR_append, List.mem_cons, List.mem_append, forall_eq_or_imp] at h
    obtain ⟨hb, hrest⟩ := h
    have hnr : ∀ o ∈ feedR c (finput c s b true).1 nr, Busy o := fun o ho => hrest o (Or.inl ho)
    have hb' : Busy (finput c (runR c (finput c s b true).1 nr) b' true).2 :=
      hrest _ (Or.inr (Or.inl rfl))
    have htail : ∀ o ∈ feedR c (runR c (finput c s b true).1 nr) ((b', true) :: zs'), Busy o := by
      intro o ho
      apply hrest o
      simpa [feedR] using Or.inr ho
    have hgap := restart_gap c s b b' nr h0 hnr hb'
    rw [psl_eq] at hgap
    have hih := ih zs' _ b' htail (by simpa using hk)
    have hle : nr.length ≤ 21 * (k + 1) := by omega
    rw [List.take_succ_cons, restarts_cons, List.take_append, List.take_of_length_le hle,
      restarts_append, h0]
    have := restarts_take_mono ((b', true) :: zs')
      (show 21 * k + 1 ≤ 21 * (k + 1) - nr.length by omega)
    simp only [if_true]
    omega

/-- every window of `W` consecutive inputs holds at most `k` restarts -/
def Windowed (W k : Nat) (xs : List (Byte × Bool)) : Prop :=
  ∀ a, restarts ((xs.drop a).take W) ≤ k

/-- any two restarts are at least `G` positions apart -/
def Sparse (G : Nat) (xs : List (Byte × Bool)) : Prop :=
  ∀ p q bp bq, p < q → xs[p]? = some (bp, true) → xs[q]? = some (bq, true) → p + G ≤ q

theorem windowed_sub {W k : Nat} {xs : List (Byte × Bool)} (h : Windowed W k xs) (i L : Nat) :
    Windowed W k ((xs.drop i).take L) := by
  intro a
  rw [List.drop_take, List.take_take, List.drop_drop]
  exact Nat.le_trans (restarts_take_mono _ (Nat.min_le_left _ _)) (h (i + a))

theorem one_restart (l : List (Byte × Bool)) (h : 1 ≤ restarts l) :
    ∃ (v : Nat) (b : Byte), l[v]? = some (b, true) := by
  obtain ⟨nr, b, zs, rfl, _⟩ := first_restart l h
  exact ⟨nr.length, b, by simp⟩

theorem two_restarts (l : List (Byte × Bool)) (h : 2 ≤ restarts l) :
    ∃ (u v : Nat) (bu bv : Byte), u < v ∧ l[u]? = some (bu, true) ∧ l[v]? = some (bv, true) := by
  obtain ⟨nr, b, zs, rfl, h0⟩ := first_restart l (by omega)
  rw [restarts_append, h0, restarts_cons] at h
  obtain ⟨v, bv, hv⟩ := one_restart zs (by simpa using h)
  refine ⟨nr.length, nr.length + 1 + v, b, bv, by omega, by simp, ?_⟩
  rw [List.getElem?_append_right (by omega)]
  have : nr.length + 1 + v - nr.length = v + 1 := by omega
  rw [this, List.getElem?_cons_succ, hv]

theorem sparse_windowed {G : Nat} {xs : List (Byte × Bool)} (h : Sparse G xs) : Windowed G 1 xs := by
  intro a
  apply Nat.le_of_not_lt
  intro hlt
  obtain ⟨u, v, bu, bv, huv, hu, hv⟩ := two_restarts _ hlt
  rw [List.getElem?_take] at hu hv
  split at hv
  · rename_i hvG
    rw [if_pos (by omega)] at hu
    rw [List.getElem?_drop] at hu hv
    have := h (a + u) (a + v) bu bv (by omega) hu hv
    omega
  · cases hv

theorem busy_run_windowed (c : FCfg) (s : FState) (xs : List (Byte × Bool)) (W k : Nat)
    (hW : Gen.PREFIX_SEARCH_LEN * k < W) (hwin : Windowed W k xs)
    (h : ∀ o ∈ feedR c s xs, Busy o) : restarts xs.tail ≤ k := by
  apply Nat.le_of_not_lt
  intro hlt
  cases xs with
  | nil => simp [restarts] at hlt
  | cons x ys =>
    rw [List.tail_cons] at hlt
    obtain ⟨nr, b, zs, rfl, h0⟩ := first_restart ys (by omega)
    rw [restarts_append, h0, restarts_cons] at hlt
    have hsplit : x :: (nr ++ (b, true) :: zs) = (x :: nr) ++ (b, true) :: zs := rfl
    rw [hsplit, feedR_append] at h
    have hch := restart_chain c k zs _ b (fun o ho => h o (List.mem_append_right _ ho))
      (by simp only [if_true] at hlt; omega)
    have hw := hwin (nr.length + 1)
    have hd : (x :: (nr ++ (b, true) :: zs)).drop (nr.length + 1) = (b, true) :: zs := by
      simp
    rw [hd] at hw
    have := restarts_take_mono ((b, true) :: zs) (show Gen.PREFIX_SEARCH_LEN * k + 1 ≤ W by omega)
    omega

theorem busy_run_windowed_le (c : FCfg) (s : FState) (xs : List (Byte × Bool)) (W k : Nat)
    (hW : Gen.PREFIX_SEARCH_LEN * k < W) (hwin : Windowed W k xs)
    (h : ∀ o ∈ feedR c s xs, Busy o) : xs.length ≤ Gen.PREFIX_SEARCH_LEN * k + BUSY_MAX :=
  Nat.le_trans (busy_run_le c s xs h)
    (Nat.add_le_add_right (Nat.mul_le_mul_left _ (busy_run_windowed c s xs W k hW hwin h)) _)

theorem busy_run_windowed_restart (c : FCfg) (s : FState) (b : Byte) (zs : List (Byte × Bool)) (W k : Nat)
    (hW : Gen.PREFIX_SEARCH_LEN * k < W) (hwin : Windowed W k ((b, true) :: zs))
    (h : ∀ o ∈ feedR c s ((b, true) :: zs), Busy o) : restarts zs + 1 ≤ k := by
  apply Nat.le_of_not_lt
  intro hlt
  have hch := restart_chain c k zs s b h (by omega)
  have hw := hwin 0
  rw [List.drop_zero] at hw
  have := restarts_take_mono ((b, true) :: zs) (show Gen.PREFIX_SEARCH_LEN * k + 1 ≤ W by omega)
  omega

theorem idle_run_noCarrier (c : FCfg) (xs : List (Byte × Bool)) (h0 : restarts xs = 0)
    (h : .noCarrier ∉ feedR c .idle xs) : xs = [] := by
  cases xs with
  | nil => rfl
  | cons x xs =>
    obtain ⟨b, r⟩ := x
    obtain ⟨rfl, _⟩ := restarts_cons_eq_zero.1 h0
    exact absurd (by simp [feedR, finput, finputNR]) h

theorem nr_run_fuel (c : FCfg) (xs : List (Byte × Bool)) (s : FState) (h0 : restarts xs = 0)
    (h : .noCarrier ∉ feedR c s xs) : xs.length ≤ fuel s + 1 := by
  induction xs generalizing s with
  | nil => simp
  | cons x xs ih =>
    obtain ⟨b, r⟩ := x
    obtain ⟨rfl, h0'⟩ := restarts_cons_eq_zero.1 h0
    simp only [feedR, List.mem_cons, not_or] at h
    rcases step_nr c s b with hn | ⟨_, hi⟩ | ⟨_, _, hf⟩
    · exact absurd hn.symm h.1
    · rw [hi] at h
      rw [idle_run_noCarrier c xs h0' h.2]; simp
    · have := ih _ h0' h.2
      rw [List.length_cons]; omega

theorem feedR_window (c : FCfg) (s : FState) (xs : List (Byte × Bool)) (i L : Nat) :
    feedR c (runR c s (xs.take i)) ((xs.drop i).take L) = ((feedR c s xs).drop i).take L := by
  rw [feedR_drop, feedR_take]

theorem window_busy (c : FCfg) (s : FState) (xs : List (Byte × Bool)) (i j : Nat)
    (h : ∀ k, i ≤ k → k < j → ∀ o, (feedR c s xs)[k]? = some o → Busy o) :
    ∀ o ∈ feedR c (runR c s (xs.take i)) ((xs.drop i).take (j - i)), Busy o := by
  intro o ho
  rw [feedR_window, List.mem_iff_getElem?] at ho
  obtain ⟨t, ht⟩ := ho
  rw [List.getElem?_take] at ht
  split at ht
  · rw [List.getElem?_drop] at ht
    exact h (i + t) (by omega) (by omega) o ht
  · cases ht

theorem window_length (xs : List (Byte × Bool)) (i j : Nat) (hj : j ≤ xs.length) :
    ((xs.drop i).take (j - i)).length = j - i := by
  rw [List.length_take, List.length_drop]; omega

theorem window_tail (xs : List (Byte × Bool)) (i j : Nat) :
    ((xs.drop i).take (j - i)).tail = (xs.take j).drop (i + 1) := by
  rw [← List.drop_one, List.drop_take, List.drop_drop, List.drop_take]
  congr 1

end SameVerif.C09
