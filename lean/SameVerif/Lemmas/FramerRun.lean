import SameVerif.Model.FramerRun
import SameVerif.Spec.Frame
import SameVerif.Lemmas.FramerBits
/-
  The framer model run over a stream, characterised index by index: the sliding window, "least
  index such that", `feed` / `feedStart` by index.  For the refinement of C07 and for Lemmas/LinkFramer.
-/
namespace SameVerif
open SameVerif.Spec

theorem windowAt_length (bs : List Byte) (k : Nat) : (windowAt bs k).length = 4 := by
  simp only [windowAt, List.length_drop, List.length_append, List.length_cons, List.length_nil]
  omega

theorem windowAt_zero (bs : List Byte) : windowAt bs 0 = [0, 0, 0, 0] := by
  simp [windowAt]

theorem windowAt_succ (bs : List Byte) (k : Nat) (hk : k < bs.length) :
    windowAt bs (k + 1) = (windowAt bs k).drop 1 ++ [bs[k]] := by
  unfold windowAt
  simp only
  rw [← List.take_append_getElem hk, ← List.append_assoc, List.drop_drop]
  have hlen : ([0, 0, 0, 0] ++ List.take k bs : List Byte).length = 4 + min k bs.length := by
    simp only [List.length_append, List.length_cons, List.length_nil, List.length_take, Nat.add_comm]
  rw [List.length_append, hlen, List.drop_append_of_le_length (by rw [hlen]; simp)]
  simp only [List.length_cons, List.length_nil]
  congr 2
  omega

theorem eq_four_of_length {α : Type} (l : List α) (h : l.length = 4) :
    ∃ a b c d, l = [a, b, c, d] := by
  match l, h with
  | [a, b, c, d], _ => exact ⟨a, b, c, d, rfl⟩

theorem wordOf_windowAt_succ (bs : List Byte) (k : Nat) (hk : k < bs.length) :
    wordOf (windowAt bs (k + 1)) = (wordOf (windowAt bs k) <<< 8) ||| bs[k].toUInt32 := by
  rw [windowAt_succ bs k hk]
  obtain ⟨a, b, c, d, h⟩ := eq_four_of_length _ (windowAt_length bs k)
  rw [h]
  exact wordOf_slide a b c d bs[k]

theorem beBytes_wordOf_windowAt (bs : List Byte) (k : Nat) :
    beBytes (wordOf (windowAt bs k)) = windowAt bs k := by
  obtain ⟨a, b, c, d, h⟩ := eq_four_of_length _ (windowAt_length bs k)
  rw [h]
  exact beBytes_wordOf_four a b c d

theorem wordOf_windowAt_zero (bs : List Byte) : wordOf (windowAt bs 0) = 0 := by
  rw [windowAt_zero]; decide

theorem find_range_some {n : Nat} {p : Nat → Bool} {k : Nat}
    (h : ((List.range n).map (· + 1)).find? p = some k) :
    1 ≤ k ∧ k ≤ n ∧ p k = true ∧ ∀ k', 1 ≤ k' → k' < k → p k' = false := by
  rw [List.find?_eq_some_iff_getElem] at h
  obtain ⟨hp, i, hi, hik, hmin⟩ := h
  simp only [List.length_map, List.length_range] at hi
  simp only [List.getElem_map, List.getElem_range] at hik hmin
  subst hik
  refine ⟨by omega, by omega, hp, ?_⟩
  intro k' h1 h2
  have := hmin (k' - 1) (by omega)
  have e : k' - 1 + 1 = k' := by omega
  rw [e] at this
  simpa using this

theorem find_range_none {n : Nat} {p : Nat → Bool}
    (h : ((List.range n).map (· + 1)).find? p = none) :
    ∀ k', 1 ≤ k' → k' ≤ n → p k' = false := by
  rw [List.find?_eq_none] at h
  intro k' h1 h2
  have := h k' (by
    simp only [List.mem_map, List.mem_range]
    exact ⟨k' - 1, by omega, by omega⟩)
  simpa using this

theorem feed_length (c : FCfg) (s : FState) (bs : List Byte) : (feed c s bs).length = bs.length := by
  induction bs generalizing s with
  | nil => rfl
  | cons b bs ih => simp [feed, ih]

theorem feedStart_length (c : FCfg) (s0 : FState) (bs : List Byte) :
    (feedStart c s0 bs).length = bs.length := by
  cases bs with
  | nil => rfl
  | cons b bs => simp [feedStart, feed_length]

theorem feedState_take_succ (c : FCfg) (s : FState) (bs : List Byte) (k : Nat) (hk : k < bs.length) :
    feedState c s (bs.take (k + 1)) = (finputNR c (feedState c s (bs.take k)) bs[k]).1 := by
  induction bs generalizing s k with
  | nil => simp at hk
  | cons b bs ih =>
    cases k with
    | zero => simp [feedState]
    | succ k =>
      simp only [List.take_succ_cons, feedState, List.getElem_cons_succ]
      exact ih _ k (by simpa using hk)

theorem feed_getElem (c : FCfg) (s : FState) (bs : List Byte) (i : Nat) (hi : i < bs.length) :
    (feed c s bs)[i]'(by rw [feed_length]; exact hi)
      = (finputNR c (feedState c s (bs.take i)) bs[i]).2 := by
  induction bs generalizing s i with
  | nil => simp at hi
  | cons b bs ih =>
    cases i with
    | zero => simp [feed, feedState]
    | succ i =>
      simp only [feed, List.getElem_cons_succ, List.take_succ_cons, feedState]
      exact ih _ i (by simpa using hi)

end SameVerif
