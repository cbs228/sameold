/-
  Helper definitions and lemmas for Thm/FullRxReset.lean: `SameReceiver::reset()` on the
  whole-receiver model (`Model/FullRx.lean`).

  * the *static* part of a receiver (what neither `sample` nor `reset` changes) as an invariant
    `StaticInv r0 r` relative to a reference state `r0`; no law about the number type is used;
  * `FullRx.upd`: a receiver with the two fields that survive `reset()` (the equalizer's mode and
    its image `LState.train` in the link model) overwritten;
  * `lstep` with a stopped byte clock does not read `train`;
  * one sample from two states that differ only in those two fields, byte clock stopped;
  * `FullRx.updW`: the demodulator's window overwritten; its oldest entry is dead (the front end
    pushes before anything reads the window) — used for the degenerate empty matched filter;
  * `Event.linkView`: link events as `(timestamp, link state)`, for the examples.
-/
import SameVerif.Lemmas.FullRxFacts

set_option linter.unusedSectionVars false

namespace SameVerif.Dsp
open Arith

section Static
variable {F : Type} [Arith F]

theorem identityCoeff_congr {a b : Nat} (h : a - 1 = b - 1) :
    (identityCoeff a : List F) = identityCoeff b := by
  unfold identityCoeff; rw [h]

theorem identityCoeff_length (n : Nat) : (identityCoeff n : List F).length = n - 1 + 1 := by
  simp [identityCoeff]

theorem windowPush_length (w xs : List F) : (windowPush w xs).length = w.length := by
  simp only [windowPush, List.length_append, List.length_drop]
  omega

theorem nlmsUpdate_length (relax reg e : F) (w c : List F) :
    (nlmsUpdate relax reg e w c).length = min c.length w.length := by
  simp [nlmsUpdate]

/-! ### the components: what `new` fixes and nothing changes afterwards -/

/-- DC blocker: the window lengths and the stored `1/len` -/
structure DcS (d0 d : DcBlock F) : Prop where
  ffl : d.ff.window.length = d0.ff.window.length
  fbl : d.fb.window.length = d0.fb.window.length
  ffi : d.ff.invLen = d0.ff.invLen
  fbi : d.fb.invLen = d0.fb.invLen

/-- AGC: bandwidth and gain limits -/
structure AgcS (a0 a : Agc F) : Prop where
  bw : a.bandwidth = a0.bandwidth
  lo : a.minGain = a0.minGain
  hi : a.maxGain = a0.maxGain

/-- demodulator: the matched filters and the window length.  (Up to `len - 1` in general: for an
    EMPTY matched filter the model's window is `[]` when built and has one entry after the first
    `push`; for a non-empty one the length is exactly the built one.) -/
structure DmS (d0 d : Demod F) : Prop where
  mark : d.mark = d0.mark
  space : d.space = d0.space
  len : d.window.length - 1 = d0.window.length - 1
  pos : 0 < d0.window.length → 0 < d.window.length

theorem DmS.len_eq {d0 d : Demod F} (h : DmS d0 d) (h0 : 0 < d0.window.length) :
    d.window.length = d0.window.length := by
  have := h.len; have := h.pos h0; omega

/-- timing loop: nominal period and its limits (the PI gains do change: locked / unlocked) -/
structure TlS (l0 l : TimingLoop F) : Prop where
  spt : l.samplesPerTed = l0.samplesPerTed
  pmin : l.periodMin = l0.periodMin
  pmax : l.periodMax = l0.periodMax

/-- equalizer: the NLMS parameters, the training word, the window lengths; the coefficient lengths
    up to what `identityCoeff` looks at (`len - 1`: for an order-0 window `Equalizer::new` stores one
    coefficient and the first update cuts it to none; `reset()` puts the one back) -/
structure EqS (e0 e : Equalizer F) : Prop where
  relax : e.relaxation = e0.relaxation
  reg : e.regularization = e0.regularization
  trainTo : e.trainTo = e0.trainTo
  ffw : e.ffWind.length = e0.ffWind.length
  fbw : e.fbWind.length = e0.fbWind.length
  ffc : e.ffCoeff.length - 1 = e0.ffWind.length - 1
  fbc : e.fbCoeff.length - 1 = e0.fbWind.length - 1

/-- the static part of a whole receiver agrees with that of `r0` -/
structure StaticInv (r0 r : FullRx F) : Prop where
  cfg : r.cfg = r0.cfg
  dc : DcS r0.dc r.dc
  agc : AgcS r0.agc r.agc
  dm : DmS r0.demod r.demod
  tl : TlS r0.tl r.tl
  pt : r.pt.bandwidth = r0.pt.bandwidth
  eq : EqS r0.eq r.eq

theorem DcS.filter {d0 d d' : DcBlock F} {x y : F} (h : DcS d0 d) (e : d.filter x = some (d', y)) :
    DcS d0 d' := by
  obtain ⟨y1, y2, h1, h2⟩ := dc_filter_inv e
  obtain ⟨a1, a2, _⟩ := movavg_filter_length h1
  obtain ⟨b1, b2, _⟩ := movavg_filter_length h2
  exact ⟨a1.trans h.ffl, b1.trans h.fbl, a2.trans h.ffi, b2.trans h.fbi⟩

theorem DcS.reset {d0 d : DcBlock F} (h : DcS d0 d) : DcS d0 d.reset :=
  ⟨by simp [DcBlock.reset, MovAvg.reset, h.ffl], by simp [DcBlock.reset, MovAvg.reset, h.fbl], h.ffi, h.fbi⟩

theorem AgcS.input {a0 a a' : Agc F} {x y : F} (h : AgcS a0 a) (e : a.input x = some (a', y)) :
    AgcS a0 a' := by
  obtain ⟨_, e1, e2, e3, _⟩ := agc_output_eq e
  exact ⟨e3.trans h.bw, e1.trans h.lo, e2.trans h.hi⟩

theorem AgcS.lock {a0 a : Agc F} (h : AgcS a0 a) (b : Bool) : AgcS a0 (a.lock b) := ⟨h.bw, h.lo, h.hi⟩
theorem AgcS.reset {a0 a : Agc F} (h : AgcS a0 a) : AgcS a0 a.reset := ⟨h.bw, h.lo, h.hi⟩

theorem DmS.push {d0 d : Demod F} (h : DmS d0 d) (x : F) : DmS d0 (d.push x) := by
  have := h.len
  refine ⟨h.mark, h.space, ?_, fun _ => ?_⟩ <;>
    simp only [Demod.push, List.length_append, List.length_drop, List.length_cons, List.length_nil] <;>
    omega

theorem TlS.setGains {l0 l : TimingLoop F} (h : TlS l0 l) (a b : F) : TlS l0 (l.setGains a b) :=
  ⟨h.spt, h.pmin, h.pmax⟩
theorem TlS.reset {l0 l : TimingLoop F} (h : TlS l0 l) : TlS l0 l.reset := ⟨h.spt, h.pmin, h.pmax⟩

theorem TlS.input {l0 l l' : TimingLoop F} {x o u : F} {sym : Option (SymEst F)} (h : TlS l0 l)
    (e : l.input x o = some (l', u, sym)) : TlS l0 l' := by
  unfold TimingLoop.input at e
  simp only [Option.map_eq_some_iff, Prod.mk.injEq] at e
  obtain ⟨l1, e1, rfl, _⟩ := e
  obtain ⟨a, b, c⟩ := tl_advance_static e1
  exact ⟨a.trans h.spt, b.trans h.pmin, c.trans h.pmax⟩

theorem EqS.train {e0 e : Equalizer F} (h : EqS e0 e) : EqS e0 e.train :=
  ⟨h.relax, h.reg, h.trainTo, h.ffw, h.fbw, h.ffc, h.fbc⟩

theorem EqS.reset {e0 e : Equalizer F} (h : EqS e0 e) : EqS e0 e.reset := by
  have := h.ffw; have := h.fbw; have := h.ffc; have := h.fbc
  refine ⟨h.relax, h.reg, h.trainTo, ?_, ?_, ?_, ?_⟩ <;>
    simp only [Equalizer.reset, List.length_replicate, identityCoeff_length] <;> omega

theorem EqS.setMode {e0 e : Equalizer F} (h : EqS e0 e) (m : EqMode) : EqS e0 { e with mode := m } :=
  ⟨h.relax, h.reg, h.trainTo, h.ffw, h.fbw, h.ffc, h.fbc⟩

theorem EqS.evolve {e0 e : Equalizer F} (h : EqS e0 e) (err : F) : EqS e0 (e.evolve err) := by
  have := h.ffw; have := h.fbw; have := h.ffc; have := h.fbc
  refine ⟨h.relax, h.reg, h.trainTo, h.ffw, h.fbw, ?_, ?_⟩ <;>
    simp only [Equalizer.evolve, nlmsUpdate_length] <;> omega

theorem EqS.pushFf {e0 e : Equalizer F} (h : EqS e0 e) (xs : List F) :
    EqS e0 { e with ffWind := windowPush e.ffWind xs } :=
  ⟨h.relax, h.reg, h.trainTo, (windowPush_length _ _).trans h.ffw, h.fbw, h.ffc, h.fbc⟩

theorem EqS.pushFb {e0 e : Equalizer F} (h : EqS e0 e) (xs : List F) :
    EqS e0 { e with fbWind := windowPush e.fbWind xs } :=
  ⟨h.relax, h.reg, h.trainTo, h.ffw, (windowPush_length _ _).trans h.fbw, h.ffc, h.fbc⟩

theorem EqS.estimateSymbol {e0 e : Equalizer F} (h : EqS e0 e) (s0 s1 : F) :
    EqS e0 (e.estimateSymbol s0 s1).1 := by
  unfold Equalizer.estimateSymbol
  dsimp only
  split
  · exact EqS.pushFb (h.pushFf _) _
  · exact EqS.pushFb (EqS.evolve (h.pushFf _) _) _
  · split
    · exact EqS.pushFb (EqS.setMode (EqS.evolve (h.pushFf _) _) _) _
    · exact EqS.pushFb (EqS.setMode (EqS.evolve (h.pushFf _) _) _) _

theorem EqS.go {e0 : Equalizer F} : ∀ (n : Nat) (xs : List F), xs.length ≤ n →
    ∀ (e : Equalizer F) (i : Nat) (byte : UInt8), EqS e0 e → EqS e0 (Equalizer.input.go e xs i byte).1 := by
  intro n
  induction n with
  | zero =>
    intro xs hx e i byte h
    cases xs with
    | nil => unfold Equalizer.input.go; exact h
    | cons a t => simp at hx
  | succ n ih =>
    intro xs hx e i byte h
    match xs with
    | [] => unfold Equalizer.input.go; exact h
    | [_] => unfold Equalizer.input.go; exact h
    | s0 :: s1 :: rest =>
      unfold Equalizer.input.go
      exact ih rest (by simp only [List.length_cons] at hx; omega) _ _ _ (h.estimateSymbol s0 s1)

theorem EqS.input {e0 e : Equalizer F} (h : EqS e0 e) (xs : List F) : EqS e0 (e.input xs).1 :=
  EqS.go xs.length xs (Nat.le_refl _) e 0 0 h

theorem StaticInv.pre {r0 r : FullRx F} (h : StaticInv r0 r) (s : SymEst F) : StaticInv r0 (r.pre s).1 := by
  unfold FullRx.pre
  dsimp only
  split
  · exact ⟨h.cfg, h.dc, h.agc, h.dm, h.tl, h.pt, h.eq⟩
  · rename_i adj _
    cases adj
    · exact ⟨h.cfg, h.dc, h.agc, h.dm, h.tl, h.pt, h.eq.input _⟩
    · exact ⟨h.cfg, h.dc, h.agc.lock true, h.dm, h.tl.setGains _ _, h.pt, h.eq.train.input _⟩

theorem StaticInv.post {r0 : FullRx F} (p : FullRx F × (LState × LinkSt × Option Bool))
    (h : StaticInv r0 p.1) : StaticInv r0 (FullRx.post p).1 := by
  obtain ⟨r, res⟩ := p
  unfold FullRx.post
  dsimp only
  cases (r.link.clock.isSome && res.1.clock.isNone)
  · exact ⟨h.cfg, h.dc, h.agc, h.dm, h.tl, h.pt, h.eq⟩
  · exact ⟨h.cfg, h.dc, h.agc.lock false, h.dm, (h.tl.setGains _ _).reset, h.pt, h.eq.reset⟩

theorem StaticInv.symbol {r0 r : FullRx F} (h : StaticInv r0 r) (s : SymEst F) :
    StaticInv r0 (r.symbol s).1 := by
  rw [FullRx.symbol_eq]
  exact StaticInv.post _ (h.pre s)

theorem StaticInv.reset {r0 r : FullRx F} (h : StaticInv r0 r) : StaticInv r0 r.reset :=
  ⟨h.cfg, h.dc.reset, h.agc.reset,
    ⟨h.dm.mark, h.dm.space, by simp [FullRx.reset, h.dm.len],
      fun h0 => by simp [FullRx.reset, h.dm.pos h0]⟩,
    (h.tl.setGains _ _).reset, h.pt, h.eq.reset⟩

end Static

section StaticSample
variable {F : Type} [Arith F] [Hypot F]

theorem StaticInv.front {r0 r q : FullRx F} {x : F} {sym : Option (SymEst F)} (h : StaticInv r0 r)
    (e : r.front x = some (q, sym)) : StaticInv r0 q := by
  obtain ⟨dc, y, agc, sa, h1, h2, hq⟩ := FullRx.front_eq_some_iff.1 e
  have hdc := h.dc.filter h1
  have hagc := h.agc.input h2
  rcases hq with ⟨_, _, rfl⟩ | ⟨_, saLow, tl, u, _, h5, rfl⟩
  · exact ⟨h.cfg, hdc, hagc, h.dm.push sa, h.tl, h.pt, h.eq⟩
  · exact ⟨h.cfg, hdc, hagc, h.dm.push sa, h.tl.input h5, h.pt, h.eq⟩

theorem StaticInv.sample {r0 r r' : FullRx F} {x : F} {evs : List Event} (h : StaticInv r0 r)
    (e : r.sample x = some (r', evs)) : StaticInv r0 r' := by
  obtain ⟨q, sym, hf, hc⟩ := FullRx.sample_cases e
  have hq := h.front hf
  rcases hc with ⟨_, rfl, _⟩ | ⟨s, _, hs⟩
  · exact hq
  · have := hq.symbol s
    rw [hs] at this
    exact this

end StaticSample

section ResetNew
variable {F : Type} [Arith F]

/-- overwrite the two fields `reset()` leaves alone: the equalizer's mode and `LState.train` -/
def FullRx.upd (r : FullRx F) (m : EqMode) (t : Nat) : FullRx F :=
  { r with eq := { r.eq with mode := m }, link := { r.link with train := t } }

/-- overwrite the demodulator's input window -/
def FullRx.updW (r : FullRx F) (w : List F) : FullRx F :=
  { r with demod := { r.demod with window := w } }

theorem FullRx.new_explicit {c : RxCfg F} {r0 : FullRx F} (h : FullRx.new c = some r0) :
    ∃ (bwA dev bwP : F), c.dcLen ≠ 0 ∧
      r0 = ⟨c, ⟨⟨List.replicate c.dcLen zero, div one (ofNat c.dcLen), zero⟩,
                ⟨List.replicate c.dcLen zero, div one (ofNat c.dcLen), zero⟩⟩,
            ⟨bwA, c.agcMin, c.agcMax, false, Agc.initialGain c.agcMin c.agcMax⟩,
            Demod.new c.mark c.space,
            ⟨div c.sps two, sub (div c.sps two) (mul c.sps dev), add (div c.sps two) (mul c.sps dev),
              c.alphaU, c.betaU, div c.sps two, div c.sps two, Ted.init⟩,
            0, div c.sps two, 0, ⟨bwP, zero⟩, [],
            Equalizer.new c.nff c.nfb c.relax c.reg SYNC_WORD, {}, {}⟩ := by
  obtain ⟨dc, agc, tl, pt, h1, h2, h3, h4, rfl⟩ := FullRx.new_eq_some h
  obtain ⟨hl, rfl⟩ := dc_new_eq_some_iff.1 h1
  unfold Agc.new at h2
  unfold TimingLoop.new at h3
  unfold PowerTracker.new at h4
  simp only [Option.map_eq_some_iff] at h2 h3 h4
  obtain ⟨bwA, _, rfl⟩ := h2
  obtain ⟨dev, _, rfl⟩ := h3
  obtain ⟨bwP, _, rfl⟩ := h4
  exact ⟨bwA, dev, bwP, Nat.ne_of_gt hl, rfl⟩

theorem StaticInv.new {c : RxCfg F} {r0 : FullRx F} (h : FullRx.new c = some r0) :
    StaticInv r0 r0 := by
  obtain ⟨bwA, dev, bwP, hl, rfl⟩ := FullRx.new_explicit h
  refine ⟨rfl, ⟨rfl, rfl, rfl, rfl⟩, ⟨rfl, rfl, rfl⟩, ⟨rfl, rfl, rfl, id⟩, ⟨rfl, rfl, rfl⟩, rfl,
    ⟨rfl, rfl, rfl, rfl, rfl, ?_, ?_⟩⟩
  · simp only [Equalizer.new, identityCoeff_length, List.length_replicate]; omega
  · simp only [Equalizer.new, identityCoeff_length, List.length_replicate]; omega

theorem FullRx.reset_new {c : RxCfg F} {r0 : FullRx F} (h : FullRx.new c = some r0) : r0.reset = r0 := by
  obtain ⟨bwA, dev, bwP, hl, rfl⟩ := FullRx.new_explicit h
  simp only [FullRx.reset, DcBlock.reset, MovAvg.reset, Agc.reset, TimingLoop.reset, TimingLoop.setGains,
    Equalizer.reset, Equalizer.new, Demod.new, List.length_replicate, identityCoeff_length]
  rw [identityCoeff_congr (F := F) (show c.nff - 1 + 1 - 1 = c.nff - 1 by omega),
    identityCoeff_congr (F := F) (show c.nfb - 1 + 1 - 1 = c.nfb - 1 by omega)]

/-- the cleared demodulator window is kept at `r`'s own length: it is `r0`'s unless the matched
    filter is empty (`DmS`, `reset_of_static`) -/
theorem FullRx.reset_of_static' {r0 r : FullRx F} (h0 : StaticInv r0 r0) (h : StaticInv r0 r) :
    r.reset = (r0.reset.upd r.eq.mode r.link.train).updW (List.replicate r.demod.window.length zero) := by
  obtain ⟨cfg, ⟨⟨w1, i1, s1⟩, ⟨w2, i2, s2⟩⟩, ⟨bw, lo, hi, lk, g⟩, ⟨dw, mk, sp⟩,
    ⟨spt, pmin, pmax, al, be, pa, pi, ted⟩, tc, un, ic, ⟨pbw, pw⟩, hist,
    ⟨rl, rg, tt, ffc, fbc, ffw, fbw, mode⟩, link, rx⟩ := r
  obtain ⟨cfg', ⟨⟨w1', i1', s1'⟩, ⟨w2', i2', s2'⟩⟩, ⟨bw', lo', hi', lk', g'⟩, ⟨dw', mk', sp'⟩,
    ⟨spt', pmin', pmax', al', be', pa', pi', ted'⟩, tc', un', ic', ⟨pbw', pw'⟩, hist',
    ⟨rl', rg', tt', ffc', fbc', ffw', fbw', mode'⟩, link', rx'⟩ := r0
  obtain ⟨a1, ⟨b1, b2, b3, b4⟩, ⟨c1, c2, c3⟩, ⟨d1, d2, d3, _⟩, ⟨e1, e2, e3⟩, f1, ⟨g1, g2, g3, g4, g5, g6, g7⟩⟩ := h
  have k6 := h0.eq.ffc
  have k7 := h0.eq.fbc
  dsimp only at a1 b1 b2 b3 b4 c1 c2 c3 d1 d2 d3 e1 e2 e3 f1 g1 g2 g3 g4 g5 g6 g7 k6 k7
  subst a1 b3 b4 c1 c2 c3 d1 d2 e1 e2 e3 f1 g1 g2 g3
  simp only [FullRx.reset, FullRx.upd, FullRx.updW, DcBlock.reset, MovAvg.reset, Agc.reset,
    TimingLoop.reset, TimingLoop.setGains, Equalizer.reset, b1, b2, g4, g5]
  rw [identityCoeff_congr (F := F) (g6.trans k6.symm), identityCoeff_congr (F := F) (g7.trans k7.symm)]

theorem FullRx.reset_of_static {r0 r : FullRx F} (h0 : StaticInv r0 r0) (h : StaticInv r0 r)
    (hp : 0 < r0.demod.window.length) :
    r.reset = r0.reset.upd r.eq.mode r.link.train := by
  rw [FullRx.reset_of_static' h0 h, h.dm.len_eq hp]
  rfl

end ResetNew

end SameVerif.Dsp

/-! ### `lstep` with a stopped byte clock does not read `train` -/

namespace SameVerif

theorem lstep_clock_none (c : LCfg) (s : LState) (o : Obs) (b : Byte) (hc : s.clock = none) :
    lstep c s o b =
      if s.nsym + 1 < 32 then endTick (baseOf s o)
      else if hitOf c s o then byteTick c (baseOf s o) true b
      else endTick (baseOf s o) := by
  have hd : droppedOf c s o = false := by simp [droppedOf, hc]
  rw [lstep_eq, hd, hc]
  simp only [adjOf, Bool.false_eq_true, ↓reduceIte]

theorem lstep_train_dead (c : LCfg) (s : LState) (o : Obs) (hc : s.clock = none) (t : Nat) :
    (∀ b, (lstep c s o b).2.2 = none ∧ (lstep c s o b).1.clock = none ∧
        lstep c { s with train := t } o b = ({ (lstep c s o b).1 with train := t }, (lstep c s o b).2)) ∨
    (∀ b, (lstep c s o b).2.2 = some true ∧ lstep c { s with train := t } o b = lstep c s o b) := by
  have hh : hitOf c { s with train := t } o = hitOf c s o := rfl
  have hn : ({ s with train := t } : LState).nsym = s.nsym := rfl
  have hk : ({ s with train := t } : LState).clock = none := hc
  by_cases hw : s.nsym + 1 < 32
  · left
    intro b
    rw [lstep_clock_none c s o b hc, lstep_clock_none c _ o b hk, hn]
    simp only [hw, ↓reduceIte]
    exact ⟨rfl, hc, rfl⟩
  · cases hit : hitOf c s o with
    | true =>
      right
      intro b
      rw [lstep_clock_none c s o b hc, lstep_clock_none c _ o b hk, hn, hh]
      simp only [hw, ↓reduceIte, hit]
      exact ⟨byteTick_flag _ _ _ _, rfl⟩
    | false =>
      left
      intro b
      rw [lstep_clock_none c s o b hc, lstep_clock_none c _ o b hk, hn, hh]
      simp only [hw, ↓reduceIte, hit, Bool.false_eq_true]
      exact ⟨rfl, hc, rfl⟩

/-- for the examples: a link event as `(timestamp, link state)` (decidable equality), `none` for a
    transport event -/
def Event.linkView : Event → Option (Nat × LinkSt)
  | .link n ls => some (n, ls)
  | .transport _ _ => none

end SameVerif

namespace SameVerif.Dsp
open Arith

/-! ### one step from two states that differ only in the surviving fields -/

section Live
variable {F : Type} [Arith F]

theorem FullRx.pre_upd_none (q : FullRx F) (m : EqMode) (t : Nat) (s : SymEst F)
    (h1 : (lstep q.cfg.lcfg q.link (q.obsOf s) 0).2.2 = none)
    (h3 : lstep q.cfg.lcfg { q.link with train := t } (q.obsOf s) 0
      = ({ (lstep q.cfg.lcfg q.link (q.obsOf s) 0).1 with train := t }, (lstep q.cfg.lcfg q.link (q.obsOf s) 0).2)) :
    (q.upd m t).pre s = ((q.pre s).1.upd m t, ({ (q.pre s).2.1 with train := t }, (q.pre s).2.2)) := by
  unfold FullRx.obsOf at h1 h3
  unfold FullRx.pre FullRx.upd
  dsimp only at h3 ⊢
  rw [h3]
  simp only [h1]

theorem FullRx.pre_upd_some (q : FullRx F) (m : EqMode) (t : Nat) (s : SymEst F)
    (h1 : ∀ b, (lstep q.cfg.lcfg q.link (q.obsOf s) b).2.2 = some true)
    (h3 : ∀ b, lstep q.cfg.lcfg { q.link with train := t } (q.obsOf s) b = lstep q.cfg.lcfg q.link (q.obsOf s) b) :
    (q.upd m t).pre s = ({ (q.pre s).1 with link := { q.link with train := t } }, (q.pre s).2) := by
  unfold FullRx.obsOf at h1 h3
  unfold FullRx.pre FullRx.upd
  dsimp only at h3 ⊢
  simp only [h3, h1 0, ↓reduceIte]
  rfl

theorem FullRx.symbol_upd (q : FullRx F) (hc : q.link.clock = none) (m : EqMode) (t : Nat) (s : SymEst F) :
    ((q.upd m t).symbol s).2 = (q.symbol s).2 ∧
    (((q.upd m t).symbol s).1 = (q.symbol s).1 ∨
      ((q.symbol s).1.link.clock = none ∧ ((q.upd m t).symbol s).1 = (q.symbol s).1.upd m t)) := by
  obtain ⟨p1, _, p3, _⟩ := FullRx.pre_spec q s
  have hpc : (q.pre s).1.link.clock = none := by rw [p3]; exact hc
  rw [FullRx.symbol_eq, FullRx.symbol_eq]
  rcases lstep_train_dead q.cfg.lcfg q.link (q.obsOf s) hc t with hA | hB
  · obtain ⟨h1, _, h3⟩ := hA 0
    rw [FullRx.pre_upd_none q m t s h1 h3]
    have hres : (q.pre s).2.1.clock = none := by rw [p1]; exact (hA (q.byteOf s)).2.1
    generalize q.pre s = p at hpc hres
    obtain ⟨r, res⟩ := p
    dsimp only at hpc hres
    unfold FullRx.post FullRx.upd
    simp only [hpc, hres, Option.isSome_none, Bool.false_and, Bool.false_eq_true, ↓reduceIte]
    exact ⟨trivial, Or.inr ⟨trivial, trivial⟩⟩
  · rw [FullRx.pre_upd_some q m t s (fun b => (hB b).1) (fun b => (hB b).2)]
    generalize q.pre s = p at hpc
    obtain ⟨r, res⟩ := p
    dsimp only at hpc
    have : ({ r with link := { q.link with train := t } } : FullRx F).link.clock = none := hc
    unfold FullRx.post
    simp only [hpc, hc, Option.isSome_none, Bool.false_and, Bool.false_eq_true, ↓reduceIte]
    exact ⟨trivial, Or.inl trivial⟩

end Live

section LiveSample
variable {F : Type} [Arith F] [Hypot F]

theorem FullRx.front_upd (b : FullRx F) (m : EqMode) (t : Nat) (x : F) :
    (b.upd m t).front x = (b.front x).map fun p => (p.1.upd m t, p.2) := by
  unfold FullRx.front FullRx.upd
  dsimp only
  cases b.dc.filter x with
  | none => rfl
  | some p =>
    obtain ⟨dc, y⟩ := p
    dsimp only
    cases b.agc.input y with
    | none => rfl
    | some p =>
      obtain ⟨agc, sa⟩ := p
      dsimp only
      cases clockFires b.untilNext (b.tedClock + 1) with
      | false => rfl
      | true =>
        simp only [↓reduceIte]
        cases (b.demod.push sa).demod with
        | none => rfl
        | some saLow =>
          dsimp only
          cases b.tl.input saLow (clockRemaining b.untilNext (b.tedClock + 1)) with
          | none => rfl
          | some p => rfl

theorem FullRx.sample_upd (b : FullRx F) (hc : b.link.clock = none) (m : EqMode) (t : Nat) (x : F) :
    ((b.upd m t).sample x).map (·.2) = (b.sample x).map (·.2) ∧
    ∀ a' b' ea eb, (b.upd m t).sample x = some (a', ea) → b.sample x = some (b', eb) →
      a' = b' ∨ (b'.link.clock = none ∧ a' = b'.upd m t) := by
  rw [FullRx.sample_eq, FullRx.sample_eq, FullRx.front_upd]
  cases hf : b.front x with
  | none => exact ⟨rfl, fun _ _ _ _ h => by cases h⟩
  | some p =>
    obtain ⟨q, sym⟩ := p
    obtain ⟨_, hl, _⟩ := FullRx.front_spec hf
    have hq : q.link.clock = none := by rw [hl]; exact hc
    cases sym with
    | none =>
      refine ⟨rfl, ?_⟩
      intro a' b' ea eb h1 h2
      simp only [Option.map_some, FullRx.finish, Option.some.injEq, Prod.mk.injEq] at h1 h2
      obtain ⟨rfl, _⟩ := h1
      obtain ⟨rfl, _⟩ := h2
      exact Or.inr ⟨hq, rfl⟩
    | some s =>
      obtain ⟨e1, e2⟩ := FullRx.symbol_upd q hq m t s
      refine ⟨by simp only [Option.map_some, FullRx.finish, e1], ?_⟩
      intro a' b' ea eb h1 h2
      simp only [Option.map_some, FullRx.finish, Option.some.injEq] at h1 h2
      rw [h1, h2] at e2
      exact e2

end LiveSample

/-! ### the demodulator's window: its oldest entry is dead -/

section W
variable {F : Type} [Arith F] [Hypot F]

theorem FullRx.front_updW (b : FullRx F) (w : List F) (hw : w.drop 1 = b.demod.window.drop 1) (x : F) :
    (b.updW w).front x = b.front x := by
  have hpush : ∀ sa, Demod.push { b.demod with window := w } sa = b.demod.push sa := by
    intro sa
    simp only [Demod.push, hw]
  unfold FullRx.front FullRx.updW
  dsimp only
  simp only [hpush]

theorem FullRx.sample_updW (b : FullRx F) (w : List F) (hw : w.drop 1 = b.demod.window.drop 1) (x : F) :
    (b.updW w).sample x = b.sample x := by
  rw [FullRx.sample_eq, FullRx.sample_eq, FullRx.front_updW b w hw]

theorem FullRx.run_updW (b : FullRx F) (w : List F) (hw : w.drop 1 = b.demod.window.drop 1) (xs : List F) :
    ((b.updW w).run xs).map (·.2) = (b.run xs).map (·.2) := by
  cases xs with
  | nil => rfl
  | cons x xs => unfold FullRx.run; rw [FullRx.sample_updW b w hw]
end W

section NewWindow
variable {F : Type} [Arith F]

theorem FullRx.new_window {c : RxCfg F} {r0 : FullRx F} (h : FullRx.new c = some r0) :
    r0.demod.window = List.replicate c.mark.length zero := by
  obtain ⟨_, _, _, _, rfl⟩ := FullRx.new_explicit h
  rfl

theorem FullRx.reset_window_drop {c : RxCfg F} {r0 r : FullRx F} (h : FullRx.new c = some r0)
    (hs : StaticInv r0 r) :
    (List.replicate r.demod.window.length (zero : F)).drop 1 = r0.demod.window.drop 1 := by
  have := hs.dm.len
  rw [FullRx.new_window h] at this ⊢
  simp only [List.length_replicate] at this
  simp only [List.drop_replicate, this]

end NewWindow

end SameVerif.Dsp
