import SameVerif.Lemmas.HeaderFields
import SameVerif.Model.Message
/-
  The `MessageHeader` accessors: every accessor of a header whose text is the
  rendering of well-formed fields returns exactly the corresponding field; re-parsing a rendering;
  absence of line feeds; prefix tests.
-/
namespace SameVerif

/-- the value of a decimal digit string -/
def digitsVal (s : List Byte) : Nat := s.foldl (fun n c => 10 * n + (c.toNat - 48)) 0

theorem sliceP_mid (a m b : List Byte) (i j : Nat) (hi : i = a.length) (hj : j = a.length + m.length) :
    sliceP (a ++ m ++ b) i j = .ok m := by
  subst hi hj
  unfold sliceP
  have hb : a.length ≤ a.length + m.length ∧ a.length + m.length ≤ (a ++ m ++ b).length := by
    simp only [List.length_append]; omega
  rw [if_pos hb]
  have h1 : (a ++ m ++ b).drop a.length = m ++ b := by
    rw [List.append_assoc]; exact List.drop_left
  have h2 : a.length + m.length - a.length = m.length := by omega
  rw [h1, h2, List.take_left]

theorem sliceP_skip (a t : List Byte) (n i j : Nat) (hn : a.length = n) :
    sliceP (a ++ t) (n + i) (n + j) = sliceP t i j := by
  subst hn
  unfold sliceP
  simp only [List.length_append, Nat.add_le_add_iff_left, List.drop_length_add_append, Nat.add_sub_add_left]

theorem sliceP_take (d : List Byte) (n : Nat) (h : n ≤ d.length) : sliceP d 0 n = .ok (d.take n) := by
  unfold sliceP
  rw [if_pos ⟨Nat.zero_le _, h⟩]
  simp

theorem sliceP_drop_take (d : List Byte) (a b : Nat) (h1 : a ≤ b) (h2 : b ≤ d.length) :
    sliceP d a b = .ok ((d.drop a).take (b - a)) := by
  unfold sliceP
  rw [if_pos ⟨h1, h2⟩]

theorem sliceP_drop (d : List Byte) (a : Nat) (h1 : a ≤ d.length) :
    sliceP d a d.length = .ok (d.drop a) := by
  unfold sliceP
  rw [if_pos ⟨h1, Nat.le_refl _⟩]
  congr 1
  apply List.take_of_length_le
  simp

theorem isDigit_ne_dash (b : Byte) (h : isDigit b = true) : b ≠ 45 := by
  rintro rfl; revert h; decide

theorem isDigit_ne_lf (b : Byte) (h : isDigit b = true) : b ≠ 10 := by
  rintro rfl; revert h; decide

theorem isAlpha_ne_lf (b : Byte) (h : isAlpha b = true) : b ≠ 10 := by
  rintro rfl; revert h; decide

theorem notLF_ne_lf (b : Byte) (h : notLF b = true) : b ≠ 10 := by
  rintro rfl; revert h; decide

theorem parseDigits_ok (s : List Byte) (hne : 0 < s.length) (hd : ∀ b ∈ s, isDigit b = true) :
    parseDigits s = .ok (digitsVal s) := by
  unfold parseDigits digitsVal
  have h1 : s.isEmpty = false := by cases s <;> simp_all
  have h2 : s.all isDigit = true := by rw [List.all_eq_true]; exact hd
  simp [h1, h2]

/-! ### `split('-')` on the location text -/

/-- the fold inside `splitDash` -/
def splitAux (s : List Byte) : List Byte × List (List Byte) :=
  s.foldr (fun c (cur, acc) => if c == 45 then ([], cur :: acc) else (c :: cur, acc)) ([], [])

theorem splitDash_eq (s : List Byte) : Header.splitDash s = (splitAux s).1 :: (splitAux s).2 := by
  unfold Header.splitDash splitAux
  rfl

theorem splitAux_dash (t : List Byte) : splitAux (45 :: t) = ([], (splitAux t).1 :: (splitAux t).2) := by
  simp [splitAux]

theorem splitAux_nodash (g t : List Byte) (hg : ∀ b ∈ g, b ≠ 45) :
    splitAux (g ++ t) = (g ++ (splitAux t).1, (splitAux t).2) := by
  induction g with
  | nil => simp
  | cons c g ih =>
    have hc : c ≠ 45 := hg c (by simp)
    have := ih (fun b hb => hg b (by simp [hb]))
    have e : splitAux (c :: g ++ t) =
        (if c == 45 then ([], (splitAux (g ++ t)).1 :: (splitAux (g ++ t)).2)
         else (c :: (splitAux (g ++ t)).1, (splitAux (g ++ t)).2)) := by
      simp [splitAux]
    rw [e, this]
    simp [hc]

theorem splitAux_renderLocs (gs : List (List Byte)) (h : ∀ g ∈ gs, IsLoc g) :
    splitAux (renderLocs gs) = ([], gs) := by
  induction gs with
  | nil => simp [renderLocs, splitAux]
  | cons g gs ih =>
    have hg : ∀ b ∈ g, b ≠ 45 := fun b hb => isDigit_ne_dash b ((h g (by simp)).2 b hb)
    have := ih (fun x hx => h x (by simp [hx]))
    have e : renderLocs (g :: gs) = 45 :: (g ++ renderLocs gs) := by simp [renderLocs]
    rw [e, splitAux_dash, splitAux_nodash g _ hg, this]
    simp

/-- the text between the first `-` of the location run and the `+` -/
def locText (gs : List (List Byte)) : List Byte := (renderLocs gs).drop 1

theorem renderLocs_eq_dash_locText (gs : List (List Byte)) (hne : gs ≠ []) :
    renderLocs gs = 45 :: locText gs := by
  cases gs with
  | nil => exact absurd rfl hne
  | cons g gs => simp [locText, renderLocs]

theorem locText_cons (g : List Byte) (gs : List (List Byte)) :
    locText (g :: gs) = g ++ renderLocs gs := by
  simp [locText, renderLocs]

theorem splitDash_locText (gs : List (List Byte)) (hne : gs ≠ []) (h : ∀ g ∈ gs, IsLoc g) :
    Header.splitDash (locText gs) = gs := by
  cases gs with
  | nil => exact absurd rfl hne
  | cons g gs =>
    have hg : ∀ b ∈ g, b ≠ 45 := fun b hb => isDigit_ne_dash b ((h g (by simp)).2 b hb)
    have hr := splitAux_renderLocs gs (fun x hx => h x (by simp [hx]))
    rw [locText_cons, splitDash_eq, splitAux_nodash g _ hg, hr]
    simp

theorem locText_eq_intercalate (gs : List (List Byte)) : locText gs = [45].intercalate gs := by
  cases gs with
  | nil => simp [locText, renderLocs]
  | cons g gs =>
    rw [locText_cons]
    induction gs generalizing g with
    | nil => simp [renderLocs]
    | cons g2 gs ih =>
      have e : renderLocs (g2 :: gs) = 45 :: (g2 ++ renderLocs gs) := by simp [renderLocs]
      rw [e, ih g2]
      simp [List.intercalate]

theorem locText_length (gs : List (List Byte)) (hne : gs ≠ []) (h : ∀ g ∈ gs, IsLoc g) :
    (locText gs).length + 1 = 7 * gs.length := by
  have := renderLocs_length gs h
  rw [renderLocs_eq_dash_locText gs hne] at this
  simpa using this

/-! ### the accessors on a rendered header -/

section accessors
variable (h : Header) (f : Fields) (hw : f.WF) (ht : h.text = f.render)
  (ho : h.offsetTime = 12 + 7 * f.locs.length)
include hw ht

theorem originatorStr_render : h.originatorStr = .ok f.org := by
  unfold Header.originatorStr
  have e : f.render = litZCZC ++ f.org ++
      (45 :: f.evt ++ renderLocs f.locs ++ 43 :: f.purge ++ 45 :: f.issue ++ 45 :: f.call ++ [45]) := by
    simp [Fields.render, List.append_assoc]
  rw [ht, e]
  exact sliceP_mid _ _ _ _ _ (by simp [litZCZC, Header.OFFSET_ORG])
    (by simp [litZCZC, Header.OFFSET_ORG, hw.org.1])

theorem eventStr_render : h.eventStr = .ok f.evt := by
  unfold Header.eventStr
  have e : f.render = (litZCZC ++ f.org ++ [45]) ++ f.evt ++
      (renderLocs f.locs ++ 43 :: f.purge ++ 45 :: f.issue ++ 45 :: f.call ++ [45]) := by
    simp [Fields.render, List.append_assoc]
  rw [ht, e]
  exact sliceP_mid _ _ _ _ _ (by simp [litZCZC, Header.OFFSET_EVT, hw.org.1])
    (by simp [litZCZC, Header.OFFSET_EVT, hw.org.1, hw.evt.1])

include ho

theorem locationStr_render : h.locationStr = .ok (locText f.locs) := by
  unfold Header.locationStr
  have e : f.render = (litZCZC ++ f.org ++ 45 :: f.evt ++ [45]) ++ locText f.locs ++
      (43 :: f.purge ++ 45 :: f.issue ++ 45 :: f.call ++ [45]) := by
    simp [Fields.render, List.append_assoc, renderLocs_eq_dash_locText f.locs hw.locs_ne]
  have hl := locText_length f.locs hw.locs_ne hw.locs
  rw [ht, e, ho]
  exact sliceP_mid _ _ _ _ _ (by simp [litZCZC, Header.OFFSET_AREA_START, hw.org.1, hw.evt.1])
    (by simp [litZCZC, hw.org.1, hw.evt.1]; omega)

theorem locations_render : h.locations = .ok f.locs := by
  unfold Header.locations
  rw [locationStr_render h f hw ht ho]
  simp only
  rw [splitDash_locText f.locs hw.locs_ne hw.locs]

theorem sliceP_from_plus (i j : Nat) :
    sliceP h.text (h.offsetTime + i) (h.offsetTime + j)
      = sliceP (43 :: (f.purge ++ 45 :: (f.issue ++ 45 :: (f.call ++ [45])))) i j := by
  rw [ht, f.render_eq, ho]
  exact sliceP_skip _ _ _ i j hw.head_length

theorem purgeSlice_render :
    sliceP h.text (h.offsetTime + Header.OFFSET_FROMPLUS_VALIDTIME)
      (h.offsetTime + Header.OFFSET_FROMPLUS_VALIDTIME + 4) = .ok f.purge := by
  rw [Nat.add_assoc, sliceP_from_plus h f hw ht ho]
  exact sliceP_mid [43] f.purge _ 1 5 rfl (by rw [hw.purge.1]; rfl)

theorem issueSlice_render :
    sliceP h.text (h.offsetTime + Header.OFFSET_FROMPLUS_ISSUETIME)
      (h.offsetTime + Header.OFFSET_FROMPLUS_ISSUETIME + 7) = .ok f.issue := by
  rw [Nat.add_assoc, sliceP_from_plus h f hw ht ho]
  have h5 : (43 :: f.purge).length = 5 := by rw [List.length_cons, hw.purge.1]
  exact (sliceP_skip (43 :: f.purge) _ 5 1 8 h5).trans
    (sliceP_mid [45] f.issue _ 1 8 rfl (by rw [hw.issue.1]; rfl))

theorem callsign_render : h.callsign = .ok f.call := by
  unfold Header.callsign Header.OFFSET_FROMEND_CALLSIGN_END Header.OFFSET_FROMPLUS_CALLSIGN
  have hlen : h.text.length = h.offsetTime + (5 + (8 + (1 + f.call.length))) + 1 := by
    rw [ht, fields_render_length f hw, ho]; omega
  rw [if_neg (by rw [hlen]; exact Nat.not_lt.2 (Nat.le_add_left 1 _)), hlen, Nat.add_sub_cancel,
    sliceP_from_plus h f hw ht ho]
  have h5 : (43 :: f.purge).length = 5 := by rw [List.length_cons, hw.purge.1]
  have h8 : (45 :: f.issue).length = 8 := by rw [List.length_cons, hw.issue.1]
  exact (sliceP_skip (43 :: f.purge) _ 5 9 _ h5).trans
    ((sliceP_skip (45 :: f.issue) _ 8 1 _ h8).trans (sliceP_mid [45] f.call [45] _ _ rfl rfl))

theorem validDurationFields_render :
    h.validDurationFields = .ok (digitsVal (f.purge.take 2), digitsVal (f.purge.drop 2)) := by
  unfold Header.validDurationFields
  rw [purgeSlice_render h f hw ht ho]
  obtain ⟨hl, hd⟩ := hw.purge
  have s1 : sliceP f.purge 0 2 = .ok (f.purge.take 2) := sliceP_take _ _ (by omega)
  have s2 : sliceP f.purge 2 4 = .ok (f.purge.drop 2) := by
    have := sliceP_drop f.purge 2 (by omega); rwa [hl] at this
  have p1 : parseDigits (f.purge.take 2) = .ok (digitsVal (f.purge.take 2)) :=
    parseDigits_ok _ (by simp [hl])
      (fun b hb => hd b (List.mem_of_mem_take hb))
  have p2 : parseDigits (f.purge.drop 2) = .ok (digitsVal (f.purge.drop 2)) :=
    parseDigits_ok _ (by simp [hl])
      (fun b hb => hd b (List.mem_of_mem_drop hb))
  simp only [s1, s2, p1, p2]

theorem issueDaytimeFields_render :
    h.issueDaytimeFields = .ok (digitsVal (f.issue.take 3), digitsVal ((f.issue.drop 3).take 2),
      digitsVal (f.issue.drop 5)) := by
  unfold Header.issueDaytimeFields
  rw [issueSlice_render h f hw ht ho]
  obtain ⟨hl, hd⟩ := hw.issue
  have s1 : sliceP f.issue 0 3 = .ok (f.issue.take 3) := sliceP_take _ _ (by omega)
  have s2 : sliceP f.issue 3 5 = .ok ((f.issue.drop 3).take 2) :=
    sliceP_drop_take _ _ _ (by omega) (by omega)
  have s3 : sliceP f.issue 5 7 = .ok (f.issue.drop 5) := by
    have := sliceP_drop f.issue 5 (by omega); rwa [hl] at this
  have p1 : parseDigits (f.issue.take 3) = .ok (digitsVal (f.issue.take 3)) :=
    parseDigits_ok _ (by simp [hl])
      (fun b hb => hd b (List.mem_of_mem_take hb))
  have p2 : parseDigits ((f.issue.drop 3).take 2) = .ok (digitsVal ((f.issue.drop 3).take 2)) :=
    parseDigits_ok _ (by simp [hl])
      (fun b hb => hd b (List.mem_of_mem_drop (List.mem_of_mem_take hb)))
  have p3 : parseDigits (f.issue.drop 5) = .ok (digitsVal (f.issue.drop 5)) :=
    parseDigits_ok _ (by simp [hl])
      (fun b hb => hd b (List.mem_of_mem_drop hb))
  simp only [s1, s2, s3, p1, p2, p3]

end accessors

/-! ### re-parsing a rendering, alone or followed by text without `-` -/

theorem callsignOf_dashfree (c t : List Byte) (hc : IsCall c) (ht : ∀ b ∈ t, b ≠ 45) :
    callsignOf (c ++ 45 :: t) = some (c, t) := by
  have hs := callsignOf_complete c t hc
  cases hcs : callsignOf (c ++ 45 :: t) with
  | none => simp [hcs] at hs
  | some p =>
    obtain ⟨c', r'⟩ := p
    obtain ⟨e, _⟩ := callsignOf_sound _ _ _ hcs
    have hge := callsignOf_greedy _ c' r' c t hcs rfl hc
    by_cases hlt : c.length < c'.length
    · exfalso
      have h1 : (c' ++ 45 :: r')[c'.length]? = some 45 := by
        rw [List.getElem?_append_right (Nat.le_refl _)]; simp
      rw [← e, List.getElem?_append_right (by omega)] at h1
      obtain ⟨k, hk⟩ : ∃ k, c'.length - c.length = k + 1 := ⟨c'.length - c.length - 1, by omega⟩
      rw [hk, List.getElem?_cons_succ] at h1
      exact ht 45 (List.mem_of_getElem? h1) rfl
    · have hlen : c.length = c'.length := by omega
      obtain ⟨h1, h2⟩ := List.append_inj e hlen
      simp only [List.cons.injEq, true_and] at h2
      subst h1 h2
      rfl

/-- the callsign is the only open end, and it needs one more `-` to grow -/
theorem parseFields_render_append (f : Fields) (hw : f.WF) (t : List Byte) (ht : ∀ b ∈ t, b ≠ 45) :
    parseFields (f.render ++ t) = some { f with rest := t } := by
  obtain ⟨call', rest', hp⟩ := parseFields_complete f t hw
  obtain ⟨_, hs, hcs⟩ := parseFields_sound' _ _ hp
  simp only [Fields.render, List.append_assoc, List.cons_append, List.nil_append] at hs
  have e : f.call ++ 45 :: t = call' ++ 45 :: rest' := by simpa using hs
  simp only at hcs
  rw [← e, callsignOf_dashfree f.call t hw.call ht] at hcs
  simp only [Option.some.injEq, Prod.mk.injEq] at hcs
  obtain ⟨rfl, rfl⟩ := hcs
  exact hp

theorem parseFields_render (f : Fields) (hw : f.WF) :
    parseFields f.render = some { f with rest := [] } := by
  have := parseFields_render_append f hw [] (fun _ h => (by cases h))
  rwa [List.append_nil] at this

theorem renderLocs_no_lf (gs : List (List Byte)) (h : ∀ g ∈ gs, IsLoc g) : (10 : Byte) ∉ renderLocs gs := by
  intro hm
  simp only [renderLocs, List.mem_flatMap, List.mem_cons] at hm
  obtain ⟨g, hg, hb⟩ := hm
  rcases hb with hb | hb
  · revert hb; decide
  · exact isDigit_ne_lf 10 ((h g hg).2 10 hb) rfl

theorem render_no_lf (f : Fields) (hw : f.WF) : (10 : Byte) ∉ f.render := by
  intro hm
  simp only [Fields.render, litZCZC, List.mem_append, List.mem_cons] at hm
  have d1 : ¬ ((10 : Byte) = 90) := by decide
  have d2 : ¬ ((10 : Byte) = 67) := by decide
  have d3 : ¬ ((10 : Byte) = 45) := by decide
  have d4 : ¬ ((10 : Byte) = 43) := by decide
  simp only [d1, d2, d3, d4, false_or, or_false, List.not_mem_nil] at hm
  rcases hm with (((((hm | hm) | hm) | hm) | hm) | hm)
  · exact isAlpha_ne_lf 10 (hw.org.2 10 hm) rfl
  · exact isAlpha_ne_lf 10 (hw.evt.2 10 hm) rfl
  · exact renderLocs_no_lf f.locs hw.locs hm
  · exact isDigit_ne_lf 10 (hw.purge.2 10 hm) rfl
  · exact isDigit_ne_lf 10 (hw.issue.2 10 hm) rfl
  · exact notLF_ne_lf 10 (hw.call.2.2 10 hm) rfl

theorem startsWith_iff (s lit : List Byte) : startsWith s lit = true ↔ ∃ r, s = lit ++ r := by
  unfold startsWith
  rw [Option.isSome_iff_exists]
  exact exists_congr (fun r => stripLit_some lit s r)

end SameVerif
