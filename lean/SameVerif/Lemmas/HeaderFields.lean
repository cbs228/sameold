import SameVerif.Lemmas.HeaderParse
/- The matcher as a whole: `parseFields s = some f` iff `s` decomposes into well-formed fields. -/
namespace SameVerif

/-- the header text determined by its fields (everything except `rest`) -/
def Fields.render (f : Fields) : List Byte :=
  litZCZC ++ f.org ++ 45 :: f.evt ++ renderLocs f.locs ++ 43 :: f.purge ++ 45 :: f.issue ++ 45 :: f.call ++ [45]

structure Fields.WF (f : Fields) : Prop where
  org : f.org.length = 3 ∧ ∀ b ∈ f.org, isAlpha b = true
  evt : f.evt.length = 3 ∧ ∀ b ∈ f.evt, isAlpha b = true
  locs_ne : f.locs ≠ []
  locs : ∀ g ∈ f.locs, IsLoc g
  purge : f.purge.length = 4 ∧ ∀ b ∈ f.purge, isDigit b = true
  issue : f.issue.length = 7 ∧ ∀ b ∈ f.issue, isDigit b = true
  call : IsCall f.call

theorem parseFields_sound' (s : List Byte) (f : Fields) (h : parseFields s = some f) :
    f.WF ∧ s = f.render ++ f.rest ∧ callsignOf (f.call ++ 45 :: f.rest) = some (f.call, f.rest) := by
  unfold parseFields at h
  -- invert the matcher: every `match` took its successful branch
  repeat' split at h
  all_goals try cases h
  rename_i _ s1 h0 _ org _ s3 h1 _ evt s4 h3 _ locs hne _ s6 h4 _ purge _ s8 h6 _ issue _ s10 h8 _ call rest h10
  have e0 := (stripLit_some litZCZC s s1).mp h0
  obtain ⟨e1, l1, a1⟩ := takeN_some _ _ _ _ _ h1
  obtain ⟨e3, l3, a3⟩ := takeN_some _ _ _ _ _ h3
  obtain ⟨e4, a4⟩ := locGroups_sound _ _ _ _ h4
  obtain ⟨e6, l6, a6⟩ := takeN_some _ _ _ _ _ h6
  obtain ⟨e8, l8, a8⟩ := takeN_some _ _ _ _ _ h8
  obtain ⟨e10, a10⟩ := callsignOf_sound _ _ _ h10
  refine ⟨⟨⟨l1, a1⟩, ⟨l3, a3⟩, fun h => hne h, a4, ⟨l6, a6⟩, ⟨l8, a8⟩, a10⟩, ?_, ?_⟩
  · simp only [Fields.render]
    rw [e0, e1, e3, e4, e6, e8, e10]
    simp [List.append_assoc]
  · simp only; rw [← e10]; exact h10

theorem parseFields_sound (s : List Byte) (f : Fields) (h : parseFields s = some f) :
    f.WF ∧ s = f.render ++ f.rest :=
  ⟨(parseFields_sound' s f h).1, (parseFields_sound' s f h).2.1⟩

theorem renderLocs_length (gs : List (List Byte)) (h : ∀ g ∈ gs, IsLoc g) :
    (renderLocs gs).length = 7 * gs.length := by
  induction gs with
  | nil => simp [renderLocs]
  | cons g gs ih =>
    have hg := (h g (by simp)).1
    have := ih (fun x hx => h x (by simp [hx]))
    simp only [renderLocs, List.flatMap_cons, List.length_append, List.length_cons] at this ⊢
    omega

/-- a rendering is a head of fixed width up to the `+`, then the three fields located from there -/
theorem Fields.render_eq (f : Fields) :
    f.render = (litZCZC ++ f.org ++ 45 :: f.evt ++ renderLocs f.locs)
      ++ 43 :: (f.purge ++ 45 :: (f.issue ++ 45 :: (f.call ++ [45]))) := by
  simp [Fields.render]

theorem Fields.WF.head_length {f : Fields} (hw : f.WF) :
    (litZCZC ++ f.org ++ 45 :: f.evt ++ renderLocs f.locs).length = 12 + 7 * f.locs.length := by
  simp only [litZCZC, List.length_append, List.length_cons, List.length_nil, hw.org.1, hw.evt.1,
    renderLocs_length f.locs hw.locs]

theorem fields_render_length (f : Fields) (hw : f.WF) :
    f.render.length = 27 + 7 * f.locs.length + f.call.length := by
  rw [f.render_eq, List.length_append, hw.head_length]
  simp only [List.length_append, List.length_cons, List.length_nil, hw.purge.1, hw.issue.1]
  omega

theorem stripLit_append (lit r : List Byte) : stripLit lit (lit ++ r) = some r :=
  (stripLit_some lit _ r).2 rfl

theorem takeN_of_append (p : Byte → Bool) (a : List Byte) (n : Nat) (hl : a.length = n)
    (ha : ∀ b ∈ a, p b = true) (r : List Byte) : takeN p n (a ++ r) = some (a, r) := by
  rw [← hl]; exact takeN_append p a r ha

theorem locGroups_render (gs : List (List Byte)) (h : ∀ g ∈ gs, IsLoc g) (r : List Byte) :
    locGroups (renderLocs gs ++ 43 :: r).length (renderLocs gs ++ 43 :: r) = (gs, 43 :: r) :=
  locGroups_complete gs _ _ h (by rw [List.length_append, renderLocs_length gs h]; omega) (by simp)

/-- any text that begins with well-formed fields is accepted; the matcher may extend the callsign
    (greedy `.{3,8}-`), everything before it is found exactly -/
theorem parseFields_complete (f : Fields) (rest : List Byte) (hw : f.WF) :
    ∃ call' rest', parseFields (f.render ++ rest) = some { f with call := call', rest := rest' } := by
  obtain ⟨⟨l1, a1⟩, ⟨l3, a3⟩, hne, a4, ⟨l6, a6⟩, ⟨l8, a8⟩, a10⟩ := hw
  obtain ⟨⟨call', rest'⟩, hcs⟩ := Option.isSome_iff_exists.1 (callsignOf_complete f.call rest a10)
  refine ⟨call', rest', ?_⟩
  -- run the matcher on the rendering, field by field (`hne` discharges the `locs ≠ []` branch)
  simp only [parseFields, Fields.render, List.append_assoc, List.cons_append, List.nil_append,
    stripLit_append, takeN_of_append _ _ _ l1 a1, takeN_of_append _ _ _ l3 a3, locGroups_render _ a4,
    takeN_of_append _ _ _ l6 a6, takeN_of_append _ _ _ l8 a8, hcs]

end SameVerif
