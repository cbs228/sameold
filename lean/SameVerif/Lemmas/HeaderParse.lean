import SameVerif.Model.Header
/- Soundness and completeness lemmas for the pieces of the recursive-descent header matcher. -/
namespace SameVerif

theorem stripLit_some (lit : List Byte) : ∀ (s r : List Byte), stripLit lit s = some r ↔ s = lit ++ r := by
  induction lit with
  | nil => intro s r; simp [stripLit]
  | cons l ls ih =>
    intro s r
    cases s with
    | nil => simp [stripLit]
    | cons c cs =>
      simp only [stripLit]
      by_cases h : l = c
      · subst h; simp [ih]
      · have : (l == c) = false := by simp [h]
        simp [this]
        intro hc; exact absurd hc.symm h

theorem takeN_some (p : Byte → Bool) : ∀ (n : Nat) (s a r : List Byte),
    takeN p n s = some (a, r) → s = a ++ r ∧ a.length = n ∧ ∀ b ∈ a, p b = true := by
  intro n
  induction n with
  | zero => intro s a r h; simp [takeN] at h; obtain ⟨rfl, rfl⟩ := h; simp
  | succ n ih =>
    intro s a r h
    cases s with
    | nil => simp [takeN] at h
    | cons c cs =>
      simp only [takeN] at h
      by_cases hp : p c = true
      · simp only [hp, ↓reduceIte] at h
        cases hrec : takeN p n cs with
        | none => simp [hrec] at h
        | some ar =>
          obtain ⟨a', r'⟩ := ar
          simp [hrec] at h
          obtain ⟨rfl, rfl⟩ := h
          obtain ⟨h1, h2, h3⟩ := ih cs a' r' hrec
          refine ⟨by simp [h1], by simp [h2], ?_⟩
          intro b hb
          rcases List.mem_cons.mp hb with rfl | hb
          · exact hp
          · exact h3 b hb
      · simp [hp] at h

theorem takeN_append (p : Byte → Bool) : ∀ (a r : List Byte), (∀ b ∈ a, p b = true) →
    takeN p a.length (a ++ r) = some (a, r) := by
  intro a
  induction a with
  | nil => intro r _; simp [takeN]
  | cons c a ih =>
    intro r h
    have hc : p c = true := h c (by simp)
    have := ih r (fun b hb => h b (by simp [hb]))
    simp [takeN, hc, this]

/-- the text of a run of location groups -/
def renderLocs (gs : List (List Byte)) : List Byte := gs.flatMap (fun g => 45 :: g)

def IsLoc (g : List Byte) : Prop := g.length = 6 ∧ ∀ b ∈ g, isDigit b = true

theorem locGroups_sound : ∀ (f : Nat) (s : List Byte) (gs : List (List Byte)) (r : List Byte),
    locGroups f s = (gs, r) → s = renderLocs gs ++ r ∧ ∀ g ∈ gs, IsLoc g := by
  intro f
  induction f with
  | zero => intro s gs r h; simp [locGroups] at h; obtain ⟨rfl, rfl⟩ := h; simp [renderLocs]
  | succ f ih =>
    intro s gs r h
    unfold locGroups at h
    split at h
    · rename_i cs
      split at h
      · rename_i d r0 hd
        cases hrec : locGroups f r0 with
        | mk gs' r' =>
          simp [hrec] at h
          obtain ⟨rfl, rfl⟩ := h
          obtain ⟨h1, h2, h3⟩ := takeN_some _ _ _ _ _ hd
          obtain ⟨h4, h5⟩ := ih r0 gs' r' hrec
          refine ⟨by simp [renderLocs, h1, h4] , ?_⟩
          intro g hg
          rcases List.mem_cons.mp hg with rfl | hg
          · exact ⟨h2, h3⟩
          · exact h5 g hg
      · simp at h; obtain ⟨rfl, rfl⟩ := h; simp [renderLocs]
    · simp at h; obtain ⟨rfl, rfl⟩ := h; simp [renderLocs]

theorem locGroups_complete : ∀ (gs : List (List Byte)) (f : Nat) (r : List Byte),
    (∀ g ∈ gs, IsLoc g) → gs.length ≤ f → r.head? ≠ some 45 →
    locGroups f (renderLocs gs ++ r) = (gs, r) := by
  intro gs
  induction gs with
  | nil =>
    intro f r _ _ hr
    cases f with
    | zero => simp [locGroups, renderLocs]
    | succ f =>
      simp only [renderLocs, List.flatMap_nil, List.nil_append]
      unfold locGroups
      split
      · rename_i cs; simp at hr
      · rfl
  | cons g gs ih =>
    intro f r hg hf hr
    obtain ⟨f', rfl⟩ : ∃ f', f = f' + 1 := ⟨f - 1, by simp at hf; omega⟩
    have hgl : IsLoc g := hg g (by simp)
    have hrest := ih f' r (fun x hx => hg x (by simp [hx])) (by simp at hf; omega) hr
    have htake : takeN isDigit 6 (g ++ (renderLocs gs ++ r)) = some (g, renderLocs gs ++ r) := by
      have := takeN_append isDigit g (renderLocs gs ++ r) hgl.2
      rw [hgl.1] at this; exact this
    have hs : renderLocs (g :: gs) ++ r = 45 :: (g ++ (renderLocs gs ++ r)) := by
      simp [renderLocs]
    rw [hs]
    unfold locGroups
    simp [htake, hrest]

def IsCall (c : List Byte) : Prop := 3 ≤ c.length ∧ c.length ≤ 8 ∧ ∀ b ∈ c, notLF b = true

theorem callTry_sound (s : List Byte) (n : Nat) (c r : List Byte) (h : callTry s n = some (c, r)) :
    s = c ++ 45 :: r ∧ c.length = n ∧ ∀ b ∈ c, notLF b = true := by
  unfold callTry at h
  split at h
  · rename_i c' r' ht
    simp at h; obtain ⟨rfl, rfl⟩ := h
    obtain ⟨h1, h2, h3⟩ := takeN_some _ _ _ _ _ ht
    exact ⟨h1, h2, h3⟩
  · simp at h

theorem callsignOf_sound (s c r : List Byte) (h : callsignOf s = some (c, r)) :
    s = c ++ 45 :: r ∧ IsCall c := by
  unfold callsignOf at h
  obtain ⟨n, hn, hc⟩ := List.exists_of_findSome?_eq_some h
  obtain ⟨h1, h2, h3⟩ := callTry_sound s n c r hc
  refine ⟨h1, ?_, ?_, h3⟩ <;> simp at hn <;> omega

theorem callTry_complete (c r : List Byte) (hc : ∀ b ∈ c, notLF b = true) :
    callTry (c ++ 45 :: r) c.length = some (c, r) := by
  unfold callTry
  rw [takeN_append notLF c (45 :: r) hc]
  rfl

theorem callsignOf_complete (c r : List Byte) (h : IsCall c) : (callsignOf (c ++ 45 :: r)).isSome = true := by
  unfold callsignOf
  rw [List.findSome?_isSome_iff]
  refine ⟨c.length, ?_, ?_⟩
  · obtain ⟨h1, h2, _⟩ := h
    simp; omega
  · rw [callTry_complete c r h.2.2]; rfl

theorem findSome?_decreasing {β : Type} {f : Nat → Option β} {l : List Nat} {b : β}
    (hl : l.Pairwise (· > ·)) (h : l.findSome? f = some b) :
    ∃ n ∈ l, f n = some b ∧ ∀ m ∈ l, (f m).isSome → m ≤ n := by
  obtain ⟨l₁, n, l₂, rfl, hn, hnone⟩ := List.findSome?_eq_some_iff.1 h
  refine ⟨n, by simp, hn, fun m hm hs => ?_⟩
  rcases List.mem_append.1 hm with h1 | h1
  · rw [hnone m h1] at hs; cases hs
  · rcases List.mem_cons.1 h1 with rfl | h2
    · exact Nat.le_refl _
    · exact Nat.le_of_lt ((List.pairwise_cons.1 (List.pairwise_append.1 hl).2.1).1 m h2)

/-- `.{3,8}-` is greedy: no admissible callsign split is longer than the one found -/
theorem callsignOf_greedy (s c r c2 r2 : List Byte) (h : callsignOf s = some (c, r))
    (h2 : s = c2 ++ 45 :: r2) (hc2 : IsCall c2) : c2.length ≤ c.length := by
  have hm : callTry s c2.length = some (c2, r2) := by rw [h2]; exact callTry_complete c2 r2 hc2.2.2
  obtain ⟨n, _, hn, hmax⟩ := findSome?_decreasing (by decide) h
  rw [(callTry_sound s n c r hn).2.1]
  obtain ⟨h3, h8, _⟩ := hc2
  exact hmax _ (by simp; omega) (by rw [hm]; rfl)

end SameVerif
