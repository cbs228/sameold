import SameVerif.Lemmas.HeaderAccessors
import SameVerif.Model.HeaderSem
import SameVerif.Thm.C16
/- Facts about the interpreting accessors (`originator`, `event`, `is_national`). -/
namespace SameVerif
open SameVerif.Gen

theorem natStr_inj (a b : List Byte) (h : natStr a = natStr b) : a = b := by
  induction a generalizing b with
  | nil => cases b <;> simp_all [natStr]
  | cons x xs ih =>
    cases b with
    | nil => simp [natStr] at h
    | cons y ys =>
      simp only [natStr, List.map_cons, List.cons.injEq] at h
      have := UInt8.toNat_inj.mp h.1
      rw [this, ih ys (by simpa [natStr] using h.2)]

theorem locs_national_iff (gs : List (List Byte)) (hne : gs ≠ []) (h : ∀ g ∈ gs, IsLoc g) :
    (natStr ([45].intercalate gs) == LOCATION_NATIONAL) = decide (gs = [[48, 48, 48, 48, 48, 48]]) := by
  have hl := locText_length gs hne h
  rw [locText_eq_intercalate] at hl
  cases gs with
  | nil => exact absurd rfl hne
  | cons g rest =>
    cases rest with
    | nil =>
      simp only [List.intercalate, List.intersperse, List.flatten_cons, List.flatten_nil, List.append_nil]
      by_cases hg : g = [48, 48, 48, 48, 48, 48]
      · subst hg; decide
      · have : natStr g ≠ LOCATION_NATIONAL := by
          intro e
          apply hg
          apply natStr_inj
          rw [e]; rfl
        simp [this, hg]
    | cons g2 rest =>
      have hlen : (natStr ([45].intercalate (g :: g2 :: rest))).length ≠ LOCATION_NATIONAL.length := by
        simp only [natStr, List.length_map, LOCATION_NATIONAL, List.length_cons, List.length_nil] at hl ⊢
        omega
      have : natStr ([45].intercalate (g :: g2 :: rest)) ≠ LOCATION_NATIONAL := fun e => hlen (by rw [e])
      rw [beq_eq_false_iff_ne.mpr this]
      simp


def nationalCodes : List Str := [[69, 65, 78], [78, 73, 67], [78, 65, 84], [78, 80, 84], [78, 83, 84]]

theorem cb3_national : ∀ e ∈ codebook3, (e.2.1.info.national = true ↔ e.1 ∈ nationalCodes) := by decide +kernel
theorem national_in_cb3 : ∀ c ∈ nationalCodes, (lookup3 c).isSome = true := by decide +kernel

theorem find_map_mem {κ β : Type} [BEq κ] [LawfulBEq κ] (tbl : List (κ × β)) (k : κ) (v : β)
    (h : (tbl.find? (fun e => e.1 == k)).map (·.2) = some v) : (k, v) ∈ tbl := by
  obtain ⟨x, hf, rfl⟩ := Option.map_eq_some_iff.1 h
  have hk : x.1 = k := by simpa using List.find?_some hf
  rw [← hk]
  exact List.mem_of_find?_eq_some hf

theorem national_iff (code : Str) :
    (eventCode code).1.info.national = true ↔ code ∈ nationalCodes := by
  unfold eventCode parseEvent
  split
  · rename_i a b c
    cases h3 : lookup3 [a, b, c] with
    | some e => exact cb3_national _ (find_map_mem codebook3 _ e h3)
    | none =>
      have hn : [a, b, c] ∉ nationalCodes := by
        intro hm
        have := national_in_cb3 _ hm
        rw [h3] at this
        cases this
      simp only [hn, iff_false]
      split
      · simp [Phenomenon.info]
      · cases h2 : lookup2 [a, b] with
        | none => simp [Phenomenon.info]
        | some p => simp [(C16.classes_consistent.2.2.2 _ (find_map_mem codebook2 _ p h2)).2]
  · rename_i hne
    have hn : code ∉ nationalCodes := by
      intro hm
      simp only [nationalCodes, List.mem_cons, List.not_mem_nil, or_false] at hm
      rcases hm with rfl | rfl | rfl | rfl | rfl <;> exact hne _ _ _ rfl
    simp [hn, Phenomenon.info]

end SameVerif
