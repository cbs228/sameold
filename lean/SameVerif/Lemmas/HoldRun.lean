import SameVerif.Thm.C09
/-
  A pending result under the receiver glue: which ticks leave it pending (Searching, Reading,
  NoCarrier before the deadline — `RxProv.Early`), and that the first NoCarrier tick at or after the
  deadline reports it.  Thm/C14 is the case of NoCarrier ticks only; Thm/C08rx uses the general form.
  Names follow the users: the one-tick facts, `Holding` and `NoMessage` are in `C14`; `Early` and the
  runs are in `RxProv` with Thm/C08rx (and `TimerQuiet` of Lemmas/ReceiverFacts); `exists_first`
  is about lists only.
-/
namespace SameVerif.C14
open SameVerif SameVerif.C08 SameVerif.C09

/-- no message of any kind among the events -/
def NoMessage (evs : List Event) : Prop :=
  ∀ e ∈ evs, ∀ smp r, e ≠ Event.transport smp (.message r)

/-- the situation `flush()` has to deal with: result `t` is pending, and the two invariants
    that make the pending result differ from the reported transport state hold
    (both hold initially and are preserved by every tick: `rInv_init`, `rInv_tick`) -/
structure Holding (s : RState) (t : Timed MsgResult) : Prop where
  pend : s.asm.pending = some t
  pinv : PendInv s
  noeom : NoEomPending s.asm

theorem holding_of_rInv (s : RState) (t : Timed MsgResult) (h : RInv s) (hp : s.asm.pending = some t) :
    Holding s t := ⟨hp, h.2.1, h.2.2⟩

theorem noMessage_append (a b : List Event) (ha : NoMessage a) (hb : NoMessage b) : NoMessage (a ++ b) := by
  intro e he
  rcases List.mem_append.1 he with h | h
  · exact ha e h
  · exact hb e h

theorem noMessage_linkEv (s : RState) (sample : Nat) (ls : LinkSt) : NoMessage (linkEv s sample ls) := by
  intro e he smp r heq
  subst heq
  unfold linkEv at he
  split at he <;> simp at he

theorem holding_tick (rate : Nat) (s : RState) (t : Timed MsgResult) (h : Holding s t)
    (sample sym : Nat) (ls : LinkSt) (hp : (tlCore s sample sym ls).1.pending = some t) :
    Holding (rTick rate s sample sym ls).1 t := by
  rw [rTick_eq]
  exact ⟨hp, pendInv_next rate s sample sym _ h.pinv, tlCore_noEom s sample sym _ h.noeom⟩

theorem carrier_tick (rate : Nat) (s : RState) (sample sym : Nat) (ls : LinkSt)
    (hls : ls = .searching ∨ ls = .reading) :
    (rTick rate s sample sym ls).1.asm = s.asm
      ∧ (rTick rate s sample sym ls).1.forceEomAt = s.forceEomAt
      ∧ (rTick rate s sample sym ls).1.transportState = s.transportState
      ∧ (rTick rate s sample sym ls).2 = linkEv s sample ls := by
  have hc := tlCore_carrier s sample sym ls hls
  rw [rTick_asm, rTick_force, rTick_transportState, rTick_out, hc]
  exact ⟨rfl, rfl, rfl, List.append_nil _⟩

theorem carrier_tick_holding (rate : Nat) (s : RState) (t : Timed MsgResult) (h : Holding s t)
    (sample sym : Nat) (ls : LinkSt) (hls : ls = .searching ∨ ls = .reading) :
    Holding (rTick rate s sample sym ls).1 t
      ∧ (rTick rate s sample sym ls).1.forceEomAt = s.forceEomAt
      ∧ NoMessage (rTick rate s sample sym ls).2 := by
  obtain ⟨_, h2, _, h4⟩ := carrier_tick rate s sample sym ls hls
  refine ⟨holding_tick rate s t h sample sym ls ?_, h2, ?_⟩
  · rw [tlCore_carrier s sample sym ls hls]; exact h.pend
  · rw [h4]; exact noMessage_linkEv s sample ls

theorem early_tick_holding (rate : Nat) (s : RState) (t : Timed MsgResult) (h : Holding s t)
    (sample sym : Nat) (hearly : sym < t.deadline) :
    Holding (rTick rate s sample sym .noCarrier).1 t :=
  holding_tick rate s t h sample sym _ (nc_tick_early s sample sym t h.pend hearly).1

theorem early_tick (rate : Nat) (s : RState) (t : Timed MsgResult) (h : Holding s t)
    (sample sym : Nat) (hearly : sym < t.deadline) (hnf : ¬ Forced s sample .noCarrier) :
    (rTick rate s sample sym .noCarrier).1.forceEomAt = s.forceEomAt
      ∧ NoMessage (rTick rate s sample sym .noCarrier).2 := by
  have hout : (tlCore s sample sym .noCarrier).2 = some .idle
      ∨ (tlCore s sample sym .noCarrier).2 = some .assembling := by
    rcases (nc_tick_early s sample sym t h.pend hearly).2 with hf | ho
    · exact absurd hf hnf
    · exact ho
  rw [rTick_force, rTick_out]
  refine ⟨?_, noMessage_append _ _ (noMessage_linkEv s sample _) ?_⟩
  · rcases hout with ho | ho <;> rw [ho] <;> rfl
  · intro e he smp r heq
    subst heq
    rcases hout with ho | ho <;> rw [ho] at he <;> unfold trEv at he <;> simp only at he <;>
      split at he <;> simp at he

theorem forced_tick (rate : Nat) (s : RState) (t : Timed MsgResult) (h : Holding s t)
    (sample sym : Nat) (hf : Forced s sample .noCarrier) :
    Holding (rTick rate s sample sym .noCarrier).1 t
      ∧ (rTick rate s sample sym .noCarrier).1.forceEomAt = none := by
  obtain ⟨_, T, hT, hlate⟩ := hf
  have hcore := tlCore_forced s sample sym T hT hlate
  refine ⟨holding_tick rate s t h sample sym _ ?_, ?_⟩
  · rw [hcore]; exact h.pend
  · rw [rTick_force, hcore]; rfl

theorem due_tick (rate : Nat) (s : RState) (t : Timed MsgResult) (h : Holding s t)
    (sample sym : Nat) (hdue : t.deadline ≤ sym) (hnf : ¬ Forced s sample .noCarrier) :
    Event.transport sample (.message t.data) ∈ (rTick rate s sample sym .noCarrier).2
      ∧ (rTick rate s sample sym .noCarrier).1.asm.pending = none
      ∧ (rTick rate s sample sym .noCarrier).1.transportState = .message t.data := by
  obtain ⟨hcore, hnone⟩ := nc_tick_due s sample sym t h.pend hdue hnf
  rw [mem_tick_transport, transportLayer_eq, rTick_asm, rTick_transportState, hcore]
  exact ⟨⟨rfl, rfl, pending_ne_state s t h.pend h.pinv h.noeom⟩, hnone, rfl⟩

theorem not_forced_of (s : RState) (sample : Nat) (ls : LinkSt)
    (h : ∀ T, s.forceEomAt = some T → sample ≤ T) : ¬ Forced s sample ls := by
  rintro ⟨_, T, hT, hgt⟩
  have := h T hT
  omega

end SameVerif.C14

namespace SameVerif
open SameVerif.C08 SameVerif.C09 SameVerif.C14

theorem exists_first {α : Type} (p : α → Prop) (xs : List α) (hex : ∃ x ∈ xs, p x) :
    ∃ pre x post, xs = pre ++ x :: post ∧ (∀ y ∈ pre, ¬ p y) ∧ p x := by
  induction xs with
  | nil => obtain ⟨_, h, _⟩ := hex; cases h
  | cons a as ih =>
    by_cases ha : p a
    · exact ⟨[], a, as, rfl, fun _ h => (by cases h), ha⟩
    · obtain ⟨x, hx, hp⟩ := hex
      have : x ∈ as := by
        rcases List.mem_cons.1 hx with rfl | h
        · exact absurd hp ha
        · exact h
      obtain ⟨pre, x', post, rfl, h1, h2⟩ := ih ⟨x, this, hp⟩
      refine ⟨a :: pre, x', post, rfl, ?_, h2⟩
      intro y hy
      rcases List.mem_cons.1 hy with rfl | hy
      · exact ha
      · exact h1 y hy

namespace RxProv

/-- a tick that cannot release `t`: Searching, Reading, or NoCarrier before the deadline -/
def Early (t : Timed MsgResult) (tk : RTick) : Prop :=
  (tk.2.2 = .searching ∨ tk.2.2 = .reading) ∨ (tk.2.2 = .noCarrier ∧ tk.2.1 < t.deadline)

theorem holding_early_run (rate : Nat) (s : RState) (t : Timed MsgResult) (h : Holding s t)
    (pre : List RTick) (hpre : ∀ tk ∈ pre, Early t tk) : Holding (rRun rate s pre).1 t := by
  induction pre generalizing s with
  | nil => exact h
  | cons x xs ih =>
    obtain ⟨smp, sy, ls⟩ := x
    rw [rRun_cons]
    refine ih _ ?_ (fun tk htk => hpre tk (List.mem_cons_of_mem _ htk))
    rcases hpre (smp, sy, ls) List.mem_cons_self with hls | ⟨hls, hsy⟩
    · exact (carrier_tick_holding rate s t h smp sy ls hls).1
    · simp only at hls hsy
      subst hls
      exact early_tick_holding rate s t h smp sy hsy

theorem quiet_early_run (rate : Nat) (s : RState) (t : Timed MsgResult) (h : Holding s t)
    (pre : List RTick) (hpre : ∀ tk ∈ pre, Early t tk)
    (hforce : ∀ T, s.forceEomAt = some T → ∀ tk ∈ pre, tk.1 ≤ T) :
    Holding (rRun rate s pre).1 t
      ∧ (rRun rate s pre).1.forceEomAt = s.forceEomAt
      ∧ NoMessage (rRun rate s pre).2 := by
  induction pre generalizing s with
  | nil => exact ⟨h, rfl, fun e he => by cases he⟩
  | cons x xs ih =>
    obtain ⟨smp, sy, ls⟩ := x
    rw [rRun_cons]
    have hstep : Holding (rTick rate s smp sy ls).1 t
        ∧ (rTick rate s smp sy ls).1.forceEomAt = s.forceEomAt
        ∧ NoMessage (rTick rate s smp sy ls).2 := by
      rcases hpre (smp, sy, ls) List.mem_cons_self with hls | ⟨hls, hsy⟩
      · exact carrier_tick_holding rate s t h smp sy ls hls
      · simp only at hls hsy
        subst hls
        have hnf := not_forced_of s smp .noCarrier
          (fun T hT => hforce T hT (smp, sy, .noCarrier) List.mem_cons_self)
        exact ⟨early_tick_holding rate s t h smp sy hsy, early_tick rate s t h smp sy hsy hnf⟩
    obtain ⟨s1, s2, s3⟩ := hstep
    obtain ⟨i1, i2, i3⟩ := ih _ s1 (fun tk htk => hpre tk (List.mem_cons_of_mem _ htk))
      (by rw [s2]; intro T hT tk htk; exact hforce T hT tk (List.mem_cons_of_mem _ htk))
    exact ⟨i1, by rw [i2, s2], noMessage_append _ _ s3 i3⟩

theorem hold_releases (rate : Nat) (s : RState) (t : Timed MsgResult) (h : Holding s t)
    (pre : List RTick) (sample sym : Nat) (hpre : ∀ tk ∈ pre, Early t tk)
    (hforce : ∀ T, s.forceEomAt = some T → (∀ tk ∈ pre, tk.1 ≤ T) ∧ sample ≤ T)
    (hdue : t.deadline ≤ sym) :
    NoMessage (rRun rate s pre).2
      ∧ (rRun rate s pre).1.forceEomAt = s.forceEomAt
      ∧ Event.transport sample (.message t.data)
          ∈ (rTick rate (rRun rate s pre).1 sample sym .noCarrier).2
      ∧ (rTick rate (rRun rate s pre).1 sample sym .noCarrier).1.asm.pending = none
      ∧ (rTick rate (rRun rate s pre).1 sample sym .noCarrier).1.transportState = .message t.data := by
  obtain ⟨h1, h2, h3⟩ := quiet_early_run rate s t h pre hpre (fun T hT => (hforce T hT).1)
  have hnf := not_forced_of (rRun rate s pre).1 sample .noCarrier
    (fun T hT => by rw [h2] at hT; exact (hforce T hT).2)
  exact ⟨h3, h2, due_tick rate _ t h1 sample sym hdue hnf⟩

theorem early_of_not_due (t : Timed MsgResult) (tk : RTick) (hnb : ∀ b, tk.2.2 ≠ .burst b)
    (h : ¬ (tk.2.2 = .noCarrier ∧ t.deadline ≤ tk.2.1)) : Early t tk := by
  obtain ⟨smp, sy, ls⟩ := tk
  cases ls with
  | searching => exact Or.inl (Or.inl rfl)
  | reading => exact Or.inl (Or.inr rfl)
  | burst b => exact absurd rfl (hnb b)
  | noCarrier =>
    right
    refine ⟨rfl, ?_⟩
    simp only [true_and] at h
    simp only
    omega

theorem before_first_due (D : Nat) (pre : List RTick)
    (h : ∀ x ∈ pre, ¬ (x.2.2 = .noCarrier ∧ D ≤ x.2.1)) :
    ∀ x ∈ pre, x.2.2 ≠ .noCarrier ∨ x.2.1 < D := by
  intro x hx
  by_cases hx' : x.2.2 = .noCarrier
  · right
    have : ¬ D ≤ x.2.1 := fun hd => h x hx ⟨hx', hd⟩
    omega
  · exact Or.inl hx'

theorem hold_releases_run (rate : Nat) (s : RState) (t : Timed MsgResult) (h : Holding s t)
    (ticks : List RTick) (hnb : ∀ tk ∈ ticks, ∀ b, tk.2.2 ≠ .burst b)
    (hforce : ∀ T, s.forceEomAt = some T → ∀ tk ∈ ticks, tk.1 ≤ T)
    (hex : ∃ tk ∈ ticks, tk.2.2 = .noCarrier ∧ t.deadline ≤ tk.2.1) :
    ∃ pre sample sym post, ticks = pre ++ (sample, sym, .noCarrier) :: post
      ∧ t.deadline ≤ sym
      ∧ (∀ x ∈ pre, x.2.2 ≠ .noCarrier ∨ x.2.1 < t.deadline)
      ∧ NoMessage (rRun rate s pre).2
      ∧ Event.transport sample (.message t.data)
          ∈ (rTick rate (rRun rate s pre).1 sample sym .noCarrier).2
      ∧ (rTick rate (rRun rate s pre).1 sample sym .noCarrier).1.asm.pending = none
      ∧ (rRun rate s ticks).2
          = (rRun rate s pre).2 ++ (rTick rate (rRun rate s pre).1 sample sym .noCarrier).2
              ++ (rRun rate (rTick rate (rRun rate s pre).1 sample sym .noCarrier).1 post).2
      ∧ Event.transport sample (.message t.data) ∈ (rRun rate s ticks).2 := by
  obtain ⟨pre, tk, post, rfl, h1, h2⟩ :=
    exists_first (fun tk => tk.2.2 = .noCarrier ∧ t.deadline ≤ tk.2.1) ticks hex
  obtain ⟨sample, sym, ls⟩ := tk
  simp only at h2
  obtain ⟨rfl, hdue⟩ := h2
  have hearly : ∀ tk ∈ pre, Early t tk := fun tk htk =>
    early_of_not_due t tk (hnb tk (by simp [htk])) (h1 tk htk)
  obtain ⟨r1, _, r3, r4, _⟩ := hold_releases rate s t h pre sample sym hearly
    (fun T hT => ⟨fun tk htk => hforce T hT tk (by simp [htk]),
      hforce T hT (sample, sym, .noCarrier) (by simp)⟩) hdue
  have hsplit : (rRun rate s (pre ++ (sample, sym, .noCarrier) :: post)).2
      = (rRun rate s pre).2 ++ (rTick rate (rRun rate s pre).1 sample sym .noCarrier).2
          ++ (rRun rate (rTick rate (rRun rate s pre).1 sample sym .noCarrier).1 post).2 := by
    rw [rRun_append, rRun_cons]; simp only [List.append_assoc]
  refine ⟨pre, sample, sym, post, rfl, hdue, before_first_due _ pre h1, r1, r3, r4, hsplit, ?_⟩
  rw [hsplit]
  exact List.mem_append_left _ (List.mem_append_right _ r3)

/-- without any assumption on the timer: it can pre-empt the assembler on at most one NoCarrier
    tick (the forced EndOfMessage), so of the first two NoCarrier ticks at or after the deadline —
    with only `Early` ticks around them — one reports the pending result -/
theorem hold_releases_unconditional (rate : Nat) (s : RState) (t : Timed MsgResult) (h : Holding s t)
    (pre mid : List RTick) (sample1 sym1 sample2 sym2 : Nat)
    (hpre : ∀ tk ∈ pre, Early t tk) (hmid : ∀ tk ∈ mid, Early t tk)
    (hdue1 : t.deadline ≤ sym1) (hdue2 : t.deadline ≤ sym2) :
    Event.transport sample1 (.message t.data)
        ∈ (rTick rate (rRun rate s pre).1 sample1 sym1 .noCarrier).2
    ∨ Event.transport sample2 (.message t.data)
        ∈ (rTick rate (rRun rate (rTick rate (rRun rate s pre).1 sample1 sym1 .noCarrier).1 mid).1
            sample2 sym2 .noCarrier).2 := by
  have h1 := holding_early_run rate s t h pre hpre
  by_cases hf : Forced (rRun rate s pre).1 sample1 .noCarrier
  · right
    obtain ⟨h2, hnone⟩ := forced_tick rate _ t h1 sample1 sym1 hf
    obtain ⟨h3, hfo, _⟩ := quiet_early_run rate _ t h2 mid hmid
      (fun T hT => by rw [hnone] at hT; cases hT)
    have hnf := not_forced_of
      (rRun rate (rTick rate (rRun rate s pre).1 sample1 sym1 .noCarrier).1 mid).1 sample2 .noCarrier
      (fun T hT => by rw [hfo, hnone] at hT; cases hT)
    exact (due_tick rate _ t h3 sample2 sym2 hdue2 hnf).1
  · left
    exact (due_tick rate _ t h1 sample1 sym1 hdue1 hf).1

end RxProv
end SameVerif
