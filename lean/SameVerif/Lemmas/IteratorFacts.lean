import SameVerif.Model.IteratorRun
/-
  The iterator model for an arbitrary `step`: `foldEvents`, `Silent`, what a receiver still owes
  (`owed`), `pull` and `next` characterised, conservation under `next`.  For Thm/C13.
-/
namespace SameVerif

variable {σ α ε : Type}

/-- no sample of the list generates an event (starting from state `s`) -/
def Silent (step : σ → α → σ × List ε) : σ → List α → Prop
  | _, [] => True
  | s, x :: xs => (step s x).2 = [] ∧ Silent step (step s x).1 xs

/-- what a receiver still owes: the queued events, then those its samples will generate -/
def owed (step : σ → α → σ × List ε) (r : Rx σ ε) (src : List α) : List ε :=
  r.queue ++ (foldEvents step r.st src).1

theorem foldEvents_nil (step : σ → α → σ × List ε) (s : σ) : foldEvents step s [] = ([], s) := rfl

theorem foldEvents_cons (step : σ → α → σ × List ε) (s : σ) (x : α) (xs : List α) :
    foldEvents step s (x :: xs)
      = ((step s x).2 ++ (foldEvents step (step s x).1 xs).1, (foldEvents step (step s x).1 xs).2) := rfl

theorem foldEvents_append (step : σ → α → σ × List ε) (s : σ) (xs ys : List α) :
    foldEvents step s (xs ++ ys)
      = ((foldEvents step s xs).1 ++ (foldEvents step (foldEvents step s xs).2 ys).1,
         (foldEvents step (foldEvents step s xs).2 ys).2) := by
  induction xs generalizing s with
  | nil => simp [foldEvents_nil]
  | cons x xs ih => simp [foldEvents_cons, ih]

theorem silent_iff_fold (step : σ → α → σ × List ε) (s : σ) (xs : List α) :
    Silent step s xs ↔ (foldEvents step s xs).1 = [] := by
  induction xs generalizing s with
  | nil => simp [Silent, foldEvents_nil]
  | cons x xs ih => simp [Silent, foldEvents_cons, ih]

theorem silent_iff_forall (step : σ → α → σ × List ε) (s : σ) (xs : List α) :
    Silent step s xs ↔
      ∀ pre x post, xs = pre ++ x :: post → (step (foldEvents step s pre).2 x).2 = [] := by
  constructor
  · -- the events of `x` are a segment of the events of `xs`, of which there are none
    intro h pre x post hx
    have := (silent_iff_fold step s xs).1 h
    rw [hx, foldEvents_append, foldEvents_cons] at this
    exact (List.append_eq_nil_iff.1 (List.append_eq_nil_iff.1 this).2).1
  · intro h
    induction xs generalizing s with
    | nil => trivial
    | cons y ys ih =>
      refine ⟨h [] y ys rfl, ih _ (fun pre x post heq => ?_)⟩
      have := h (y :: pre) x post (by rw [heq]; rfl)
      rwa [foldEvents_cons] at this

theorem pull_nil (step : σ → α → σ × List ε) (r : Rx σ ε) : pull step r [] = (none, r, []) := rfl

theorem pull_cons_silent (step : σ → α → σ × List ε) (r : Rx σ ε) (x : α) (xs : List α)
    (h : (step r.st x).2 = []) :
    pull step r (x :: xs)
      = pull step { st := (step r.st x).1, queue := r.queue, consumed := r.consumed + 1 } xs := by
  rw [pull]
  cases hs : step r.st x with
  | mk s' es =>
    rw [hs] at h
    simp at h
    subst h
    rfl

theorem pull_cons_event (step : σ → α → σ × List ε) (r : Rx σ ε) (x : α) (xs : List α) (e : ε) (q : List ε)
    (h : (step r.st x).2 = e :: q) :
    pull step r (x :: xs)
      = (some e, { st := (step r.st x).1, queue := r.queue ++ q, consumed := r.consumed + 1 }, xs) := by
  rw [pull]
  cases hs : step r.st x with
  | mk s' es =>
    rw [hs] at h
    simp at h
    subst h
    rfl

theorem pull_none (step : σ → α → σ × List ε) (r r' : Rx σ ε) (src src' : List α)
    (h : pull step r src = (none, r', src')) :
    src' = [] ∧ Silent step r.st src
      ∧ r' = { st := (foldEvents step r.st src).2, queue := r.queue, consumed := r.consumed + src.length } := by
  induction src generalizing r with
  | nil =>
    rw [pull_nil] at h
    simp at h
    obtain ⟨rfl, rfl⟩ := h
    simp [Silent, foldEvents_nil]
  | cons x xs ih =>
    cases hq : (step r.st x).2 with
    | nil =>
      rw [pull_cons_silent step r x xs hq] at h
      obtain ⟨h1, h2, h3⟩ := ih _ h
      refine ⟨h1, ⟨hq, h2⟩, ?_⟩
      rw [h3, foldEvents_cons]
      simp only [List.length_cons]
      congr 1
      omega
    | cons e q =>
      rw [pull_cons_event step r x xs e q hq] at h
      simp at h

theorem pull_some (step : σ → α → σ × List ε) (r r' : Rx σ ε) (src src' : List α) (e : ε)
    (h : pull step r src = (some e, r', src')) :
    ∃ pre x q, src = pre ++ x :: src' ∧ Silent step r.st pre
      ∧ step (foldEvents step r.st pre).2 x = (r'.st, e :: q)
      ∧ r'.queue = r.queue ++ q ∧ r'.consumed = r.consumed + pre.length + 1 := by
  induction src generalizing r with
  | nil =>
    rw [pull_nil] at h
    simp at h
  | cons x xs ih =>
    cases hq : (step r.st x).2 with
    | nil =>
      rw [pull_cons_silent step r x xs hq] at h
      obtain ⟨pre, y, q, h1, h2, h3, h4, h5⟩ := ih _ h
      refine ⟨x :: pre, y, q, by simp [h1], ⟨hq, h2⟩, ?_, h4, ?_⟩
      · rw [foldEvents_cons]; exact h3
      · simp only [List.length_cons] at *
        omega
    | cons e' q =>
      rw [pull_cons_event step r x xs e' q hq] at h
      simp only [Prod.mk.injEq, Option.some.injEq] at h
      obtain ⟨rfl, rfl, rfl⟩ := h
      refine ⟨[], x, q, rfl, trivial, ?_, rfl, by simp⟩
      rw [foldEvents_nil]
      exact Prod.ext rfl hq

theorem next_queue (step : σ → α → σ × List ε) (r : Rx σ ε) (src : List α) (e : ε) (q : List ε)
    (h : r.queue = e :: q) : next step r src = (some e, { r with queue := q }, src) := by
  unfold next; rw [h]

theorem next_empty (step : σ → α → σ × List ε) (r : Rx σ ε) (src : List α)
    (h : r.queue = []) : next step r src = pull step r src := by
  unfold next; rw [h]

theorem next_conserves (step : σ → α → σ × List ε) (r r' : Rx σ ε) (src src' : List α) (o : Option ε)
    (h : next step r src = (o, r', src')) :
    owed step r src = o.toList ++ owed step r' src'
      ∧ (foldEvents step r.st src).2 = (foldEvents step r'.st src').2
      ∧ r.consumed + src.length = r'.consumed + src'.length := by
  cases hq : r.queue with
  | cons e q =>
    rw [next_queue step r src e q hq] at h
    simp only [Prod.mk.injEq] at h
    obtain ⟨rfl, rfl, rfl⟩ := h
    simp [owed, hq]
  | nil =>
    rw [next_empty step r src hq] at h
    cases o with
    | none =>
      obtain ⟨rfl, hs, rfl⟩ := pull_none step r r' src src' h
      simp [owed, hq, foldEvents_nil, (silent_iff_fold step r.st src).1 hs]
    | some e =>
      obtain ⟨pre, x, q, rfl, hs, hx, hq', hc⟩ := pull_some step r r' src src' e h
      have hpre := (silent_iff_fold step r.st pre).1 hs
      simp only [owed, hq, foldEvents_append, foldEvents_cons, hx, hpre, hq', List.length_append,
        List.length_cons, Option.toList_some]
      refine ⟨by simp, trivial, by omega⟩

end SameVerif
