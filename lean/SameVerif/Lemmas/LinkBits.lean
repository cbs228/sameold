import SameVerif.Lemmas.LinkStep
import SameVerif.Spec.FrontEnd2
/- The correlator window and the power history as functions of the input stream; the transmitted
   bit string and its window errors `werr`; runs over stretches without possible sync hits. -/
namespace SameVerif

theorem getLsbD_corrPush (w : UInt32) (b : Bool) (i : Nat) (hi : i < 32) :
    (corrPush w b).toBitVec.getLsbD i = if i = 31 then b else w.toBitVec.getLsbD (i + 1) := by
  have h1 : (1 : UInt32).toBitVec % 32 = 1#32 := by decide
  have h31 : (31 : UInt32).toBitVec % 32 = 31#32 := by decide
  have h1' : (1#32).toNat = 1 := by decide
  have h31' : (31#32).toNat = 31 := by decide
  unfold corrPush
  simp only [UInt32.toBitVec_or, UInt32.toBitVec_shiftRight, UInt32.toBitVec_shiftLeft, h1, h31,
    BitVec.getLsbD_or, BitVec.ushiftRight_eq', BitVec.getLsbD_ushiftRight, BitVec.shiftLeft_eq',
    BitVec.getLsbD_shiftLeft, h1', h31']
  by_cases h : i = 31
  · subst h
    cases b <;> simp
  · have : i < 31 := by omega
    cases b <;> simp [h, this, Nat.add_comm]

theorem popcount32_xor (a w : UInt32) :
    popcount32 (a ^^^ w)
      = (List.range 32).countP (fun i => a.toBitVec.getLsbD i != w.toBitVec.getLsbD i) := by
  unfold popcount32
  apply List.countP_congr
  intro i _
  simp [UInt32.toBitVec_xor]

/-! ### the state before tick `t` -/

theorem warm_run (c : LCfg) (s : LState) (xs : List Tick) (h : 32 ≤ s.nsym) :
    31 ≤ (lrunState c s xs).nsym := by
  rw [nsym_run]; omega

theorem corr_run (c : LCfg) (s : LState) (xs : List Tick) :
    ∀ t (ht : t ≤ xs.length) i (hi : i < 32) (h : 32 ≤ t + i),
      (lrunState c s (xs.take t)).corr.toBitVec.getLsbD i = (xs[t + i - 32]'(by omega)).1.bit := by
  intro t
  induction t with
  | zero => intro _ i hi h; omega
  | succ t ih =>
    intro ht i hi h
    rw [lrunState_take_succ c s xs t (by omega), lstep_corr, getLsbD_corrPush _ _ _ hi]
    by_cases h31 : i = 31
    · subst h31
      rw [if_pos rfl]
      congr 3
    · rw [if_neg h31, ih (by omega) (i + 1) (by omega) (by omega)]
      congr 3
      omega

/-! ### a stretch without possible hits -/

section
open SameVerif.Spec

theorem lstep_ready (c : LCfg) (s : LState) (o : Obs) (b : Byte) (hs : Ready s)
    (hno : 31 ≤ s.nsym → NoHit c s o) :
    (lstep c s o b).2.1 = .noCarrier ∧ Ready (lstep c s o b).1 := by
  by_cases h : s.nsym + 1 < 32
  · rw [lstep_warm c s o b h]
    exact ⟨congrArg (fun f => (fend f).2) hs.fr, hs.clock, hs.lock, fend_fst _⟩
  · obtain ⟨o1, o2, o3, o4, _⟩ := lstep_quiet c s o b (by omega) hs.clock hs.fr (hno (by omega))
    exact ⟨o1, ⟨o2, by rw [o3, hs.lock], o4⟩⟩

theorem quiet_run (c : LCfg) (xs : List Tick) :
    ∀ s, Ready s → QuietNoHit c s xs →
      (∀ ls ∈ lrun c s xs, ls = .noCarrier) ∧ lrunBursts c s xs = []
        ∧ Ready (lrunState c s xs) := by
  induction xs with
  | nil => intro s hs _; exact ⟨by simp [lrun], rfl, hs⟩
  | cons x xs ih =>
    intro s hs hx
    obtain ⟨o1, hs'⟩ := lstep_ready c s x.1 x.2 hs (fun h => hx 0 (by omega) x rfl)
    have hx' : QuietNoHit c (lstep c s x.1 x.2).1 xs := by
      intro t h31 y hy
      rw [lstep_nsym] at h31
      exact hx (t + 1) (by omega) y (by simpa using hy)
    obtain ⟨r1, r2, r3⟩ := ih _ hs' hx'
    refine ⟨?_, ?_, ?_⟩
    · intro ls hls
      simp only [lrun, List.mem_cons] at hls
      rcases hls with h | h
      · rw [h, o1]
      · exact r1 ls h
    · rw [show x :: xs = [x] ++ xs from rfl, lrunBursts_append, lrunBursts_single, o1]
      exact r2
    · exact r3

end

/-! ### power history -/

theorem push32_drop (H : List Bool) (b : Bool) :
    push32 (H.drop (H.length - 32)) b = (H ++ [b]).drop ((H ++ [b]).length - 32) := by
  unfold push32
  simp only [List.length_append, List.length_drop, List.length_cons, List.length_nil]
  by_cases h : H.length ≤ 32
  · have e1 : H.length - 32 = 0 := by omega
    have e2 : H.length - (H.length - 32) + (0 + 1) - 32 = H.length + (0 + 1) - 32 := by omega
    rw [e2, e1, List.drop_zero]
  · have e : H.length - (H.length - 32) + (0 + 1) - 32 = 1 := by omega
    rw [e, ← List.drop_append_of_le_length (by omega), List.drop_drop]
    congr 1
    omega

theorem map_take_succ {α β : Type} (f : α → β) (xs : List α) (t : Nat) (ht : t < xs.length) :
    (xs.take (t + 1)).map f = (xs.take t).map f ++ [f xs[t]] := by
  rw [← List.take_append_getElem ht, List.map_append]; rfl

theorem pwr_run (c : LCfg) (s : LState) (xs : List Tick) :
    ∀ t, 1 ≤ t → t ≤ xs.length →
      (lrunState c s (xs.take t)).pwr
        = (s.pwr ++ (xs.take t).map (fun x => x.1.closeOk)).drop
            ((s.pwr ++ (xs.take t).map (fun x => x.1.closeOk)).length - 32) := by
  intro t
  induction t with
  | zero => intro h; omega
  | succ t ih =>
    intro _ ht
    rw [lrunState_take_succ c s xs t (by omega), lstep_pwr, map_take_succ _ xs t (by omega),
      ← List.append_assoc]
    by_cases h0 : t = 0
    · subst h0
      simp only [List.take_zero, lrunState, List.map_nil, List.append_nil]
      rfl
    · rw [ih (by omega) (by omega), push32_drop]

theorem head_run (c : LCfg) (s : LState) (xs : List Tick) (t : Nat) (h32 : 32 ≤ t) (ht : t ≤ xs.length) :
    (lrunState c s (xs.take t)).pwr.headD true = (xs[t - 32]'(by omega)).1.closeOk := by
  rw [pwr_run c s xs t (by omega) ht]
  simp only [List.length_append, List.length_map, List.length_take, Nat.min_eq_left ht]
  have e : s.pwr.length + t - 32 = s.pwr.length + (t - 32) := by omega
  rw [e, List.drop_append, List.drop_eq_nil_of_le (by omega)]
  simp only [List.nil_append, Nat.add_sub_cancel_left]
  rw [List.headD_eq_head?_getD, List.head?_drop]
  simp [show t - 32 < t by omega, show t - 32 < xs.length by omega]

/-- bit of stream entry `m` (false beyond the end) -/
def bitAt (xs : List Tick) (m : Nat) : Bool := (xs[m]?.map (fun x => x.1.bit)).getD false

theorem errOf_run (c : LCfg) (s : LState) (xs : List Tick) (t : Nat) (h31 : 31 ≤ t) (ht : t < xs.length) :
    errOf (lrunState c s (xs.take t)) xs[t].1
      = (List.range 32).countP (fun i => SYNC_WORD.toBitVec.getLsbD i != bitAt xs (t - 31 + i)) := by
  unfold errOf
  rw [← lstep_corr c _ _ xs[t].2, ← lrunState_take_succ c s xs t ht, popcount32_xor]
  apply List.countP_congr
  intro i hi
  have hi : i < 32 := List.mem_range.mp hi
  rw [corr_run c s xs (t + 1) (by omega) i hi (by omega)]
  have e : t + 1 + i - 32 = t - 31 + i := by omega
  have hlt : t - 31 + i < xs.length := by omega
  simp [bitAt, e, hlt]

theorem headOf_run (c : LCfg) (s : LState) (xs : List Tick) (t : Nat) (h31 : 31 ≤ t) (ht : t < xs.length) :
    headOf (lrunState c s (xs.take t)) xs[t].1 = (xs[t - 31]'(by omega)).1.closeOk := by
  unfold headOf
  rw [← lstep_pwr c _ _ xs[t].2, ← lrunState_take_succ c s xs t ht, head_run c s xs (t + 1) (by omega) (by omega)]
  congr 3

/-! ### transmitted bits -/

/-- bit `j` of the transmitted bit string -/
def frameBit (T : List Byte) (j : Nat) : Bool := bitOf (T.getD (j / 8) 0) (j % 8)

theorem bitsOf_getD (T : List Byte) (j : Nat) : (Spec.bitsOf T).getD j false = frameBit T j := by
  induction T generalizing j with
  | nil => simp [Spec.bitsOf, frameBit, bitOf]
  | cons b T ih =>
    have hb : Spec.bitsOf (b :: T) = (List.range 8).map (bitOf b) ++ Spec.bitsOf T := by
      simp [Spec.bitsOf]
    rw [hb]
    by_cases hj : j < 8
    · have : j / 8 = 0 := by omega
      have h8 : j % 8 = j := by omega
      simp [frameBit, this, h8, List.getD_eq_getElem?_getD, List.getElem?_append_left, hj]
    · have e1 : j / 8 = (j - 8) / 8 + 1 := by omega
      have e2 : j % 8 = (j - 8) % 8 := by omega
      have := ih (j - 8)
      simp only [List.getD_eq_getElem?_getD] at this ⊢
      rw [List.getElem?_append_right (by simp; omega)]
      simp only [List.length_map, List.length_range]
      rw [this]
      simp [frameBit, e1, e2]

/-- error of the 32-bit window ending at transmitted bit `j ≥ 31` against the sync word -/
def werr (T : List Byte) (j : Nat) : Nat :=
  (List.range 32).countP (fun i => SYNC_WORD.toBitVec.getLsbD i != frameBit T (j - 31 + i))

end SameVerif
