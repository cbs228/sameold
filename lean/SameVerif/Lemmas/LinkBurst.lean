import SameVerif.Lemmas.LinkPhases2
/- One burst through the link model: the phases put together, for a sync at the first
   byte-aligned all-correct window (`syncTick`); behind `C01.burst_delivered` and `C01r.burst_delivered`. -/
namespace SameVerif
open SameVerif.Spec

theorem quiet_rest_run (c : LCfg) (s : LState) (stream : List Tick) (stop : Nat)
    (hr : Ready (lrunState c s (stream.take stop)))
    (hq : QuietNoHit c (lrunState c s (stream.take stop)) (stream.drop stop)) :
    lrunBursts c s stream = lrunBursts c s (stream.take stop) ∧ Ready (lrunState c s stream) := by
  obtain ⟨_, q2, q3⟩ := quiet_run c _ _ hr hq
  have hb := lrunBursts_append c s (stream.take stop) (stream.drop stop)
  have hs := lrunState_append c s (stream.take stop) (stream.drop stop)
  rw [List.take_append_drop] at hb hs
  exact ⟨by rw [hb, q2, List.append_nil], by rw [hs]; exact q3⟩

theorem quiescent_of_ready {s : LState} (h : Ready s) (hw : 32 ≤ s.nsym) : Quiescent s :=
  ⟨hw, h.clock, h.lock, h.fr⟩

theorem quiet_run_closed (c : LCfg) (xs : List Tick) (hx : ∀ x ∈ xs, x.1.openOk = false) :
    ∀ s, Quiescent s →
      (∀ ls ∈ lrun c s xs, ls = .noCarrier) ∧ lrunBursts c s xs = []
        ∧ Quiescent (lrunState c s xs) := by
  intro s hs
  obtain ⟨r1, r2, r3⟩ := quiet_run c xs s hs.ready
    (fun t _ => noHitAt_of_closed c s xs t (fun x h => hx x (List.mem_of_getElem? h)))
  exact ⟨r1, r2, quiescent_of_ready r3 (by rw [nsym_run]; have := hs.warm; omega)⟩

section
variable {pl : List Byte} {lead body tail : List Tick} {acq rel : Nat}

/-- the first sync tick: the end of the first byte-aligned 32-bit window at or after `acq + 31` -/
def syncTick (acq : Nat) : Nat := 8 * ((acq + 31) / 8) + 7

theorem first_sync_state (H : BurstObserved' pl body tail acq rel) (hok : PayloadOk pl)
    (c : LCfg) (hE : c.maxErrors ≤ 6) (hP : c.fc.maxPrefixErr < 15) (s1 : LState) (hq : Quiescent s1)
    (N : BTNoHit c s1 body tail acq) : JustSynced c s1 (body ++ tail) (syncTick acq + 1) := by
  have hacq := H.acq_le
  unfold syncTick
  exact phase_sync H hok c hE hP s1 hq N _ (by omega) (by omega) (by omega) (by intro t h1 h2; omega)

theorem first_sync_facts (H : BurstObserved' pl body tail acq rel) (hok : PayloadOk pl)
    (c : LCfg) (hE : c.maxErrors ≤ 6) (hP : c.fc.maxPrefixErr < 15) (s1 : LState) (hq : Quiescent s1)
    (N : BTNoHit c s1 body tail acq) :
    acq + 31 ≤ syncTick acq ∧ syncTick acq < acq + 39 ∧ syncTick acq % 8 = 7 ∧ syncTick acq ≤ 127
      ∧ (∀ t, t ≤ syncTick acq → (lrunState c s1 ((body ++ tail).take t)).clock = none
            ∧ lrunBursts c s1 ((body ++ tail).take t) = [])
      ∧ (lrunState c s1 ((body ++ tail).take (syncTick acq + 1))).clock = some 1
      ∧ (lrunState c s1 ((body ++ tail).take (syncTick acq + 1))).fr = .search 0xAB 1
      ∧ (lrunState c s1 ((body ++ tail).take (syncTick acq + 1))).train = 3
      ∧ lrunBursts c s1 ((body ++ tail).take (syncTick acq + 1)) = [] := by
  have hacq := H.acq_le
  obtain ⟨f1, _, f3, f4, f5⟩ := first_sync_state H hok c hE hP s1 hq N
  refine ⟨by unfold syncTick; omega, by unfold syncTick; omega, by unfold syncTick; omega,
    by unfold syncTick; omega, ?_, f1, f3, f4, f5⟩
  intro t ht
  obtain ⟨q1, _, _, q4⟩ := phase_quiet H hok c hE s1 hq N (syncTick acq) (by unfold syncTick; omega)
    (by unfold syncTick; intro t h1 h2; omega) t ht
  exact ⟨q1, q4⟩

/-- state before the byte tick that follows the last payload byte (tail index 31): the sync at
    `syncTick acq` comes with an all-correct window, so nothing needs to be assumed about the
    ticks between it and `acq + 31` -/
theorem synced_end (H : BurstObserved' pl body tail acq rel) (hok : PayloadOk pl)
    (hdash : ∀ h : 4 < pl.length, pl[4] = 45)
    (c : LCfg) (hE : c.maxErrors ≤ 6) (hF : PrefixFacts c.fc pl) (s1 : LState) (hq : Quiescent s1)
    (N : BTNoHit c s1 body tail acq) : PayloadRead c s1 (body ++ tail) pl (body.length + 31) := by
  have hacq := H.acq_le
  exact synced_end2 H.tracked hok hdash c hE hF s1 hq.warm ((acq + 31) / 8) (by omega) (by omega)
    N.late (fun t h1 h2 => by omega) (fun t h1 h2 => by omega)
    (first_sync_state H hok c hE hF.b0 s1 hq N)

theorem burst_body_tail (H : BurstObserved' pl body tail acq rel) (hok : PayloadOk pl)
    (hdash : ∀ h : 4 < pl.length, pl[4] = 45)
    (c : LCfg) (hE : c.maxErrors ≤ 6) (hF : PrefixFacts c.fc pl) (s1 : LState) (hq : Quiescent s1)
    (N : BTNoHit c s1 body tail acq) :
    ∃ g, lrunBursts c s1 (body ++ tail) = [pl ++ g] ∧ g.length ≤ (rel + 7) / 8
      ∧ Quiescent (lrunState c s1 (body ++ tail)) := by
  have hacq := H.acq_le
  exact burst_body_tail2 H.tracked hok hdash c hE hF s1 hq.warm ((acq + 31) / 8) (by omega)
    (by omega) N.late (fun t h1 h2 => by omega) (fun t h1 h2 => by omega)
    (first_sync_state H hok c hE hF.b0 s1 hq N)

theorem burst_whole {lead : List Tick} (H : BurstObserved' pl body tail acq rel) (hok : PayloadOk pl)
    (hdash : ∀ h : 4 < pl.length, pl[4] = 45)
    (c : LCfg) (hE : c.maxErrors ≤ 6) (hF : PrefixFacts c.fc pl) (s : LState) (hq : Ready s)
    (hw : 32 ≤ s.nsym + lead.length) (N : NoFalseHits c s lead body tail acq) :
    ∃ g, lrunBursts c s (lead ++ body ++ tail) = [pl ++ g] ∧ g.length ≤ (rel + 7) / 8
      ∧ Quiescent (lrunState c s (lead ++ body ++ tail)) := by
  obtain ⟨_, l2, l3⟩ := quiet_run c lead s hq N.quiet
  obtain ⟨g, b1, b2, b3⟩ := burst_body_tail H hok hdash c hE hF _
    (quiescent_of_ready l3 (by rw [nsym_run]; exact hw)) N.bt
  refine ⟨g, ?_, b2, ?_⟩
  · rw [List.append_assoc, lrunBursts_append, l2, b1]; rfl
  · rw [List.append_assoc, lrunState_append]; exact b3

end
end SameVerif
