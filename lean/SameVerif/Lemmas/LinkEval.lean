import SameVerif.Lemmas.LinkBits
/-
  Running the link model on a concrete stream inside the kernel.

  Two things in `lstep` are slow to evaluate: `popcount32` (a `countP` over 32 bit tests) and
  `push32` (append, length and drop on a 32-element list), each at every tick.  `lrunE` runs the
  same machine with the power history kept as a number and the correlator error counted four bits
  at a time; `lrun_eq_lrunE` says that it reports what `lrun` reports.
-/
namespace SameVerif

/-! ### `popcount32` by nibbles -/

/-- ones among the low `k` bits of `n` -/
def popNat : Nat → Nat → Nat
  | 0, _ => 0
  | k + 1, n => n % 2 + popNat k (n / 2)

theorem countP_range_succ (p : Nat → Bool) (k : Nat) :
    (List.range (k + 1)).countP p = (p 0).toNat + (List.range k).countP (fun i => p (i + 1)) := by
  rw [List.range_succ_eq_map, List.countP_cons, List.countP_map, Nat.add_comm]
  cases p 0 <;> rfl

theorem countP_testBit (k n : Nat) : (List.range k).countP (fun i => n.testBit i) = popNat k n := by
  induction k generalizing n with
  | zero => rfl
  | succ k ih =>
    rw [countP_range_succ, popNat, ← ih]
    simp only [Nat.testBit_succ, Nat.testBit_zero]
    rcases Nat.mod_two_eq_zero_or_one n with h | h <;> rw [h] <;> rfl

theorem popcount32_eq_popNat (w : UInt32) : popcount32 w = popNat 32 w.toNat :=
  countP_testBit 32 w.toNat

theorem popNat_add (a b n : Nat) : popNat (a + b) n = popNat a n + popNat b (n / 2 ^ a) := by
  induction a generalizing n with
  | zero => simp [popNat]
  | succ a ih =>
    rw [Nat.add_right_comm, popNat, popNat, ih, Nat.div_div_eq_div_mul, Nat.pow_succ', Nat.add_assoc]

/-- the sixteen values of `popNat 4`, four bits each, the count of `0` lowest -/
def pop4 (n : Nat) : Nat := (0x4332322132212110 >>> (4 * n)) % 16

theorem popNat4 (n : Nat) : popNat 4 n = pop4 (n % 16) := by
  have h : ∀ m, m < 16 → popNat 4 m = pop4 m := by decide
  rw [← h _ (Nat.mod_lt n (by decide))]
  simp only [popNat]
  omega

def popW (x : Nat) : Nat :=
  pop4 (x % 16) + pop4 (x / 16 % 16) + pop4 (x / 256 % 16) + pop4 (x / 4096 % 16)
    + pop4 (x / 65536 % 16) + pop4 (x / 1048576 % 16) + pop4 (x / 16777216 % 16)
    + pop4 (x / 268435456 % 16)

theorem popcount32_eq (w : UInt32) : popcount32 w = popW w.toNat := by
  rw [popcount32_eq_popNat]
  generalize w.toNat = x
  have h8 (y : Nat) : popNat 8 y = pop4 (y % 16) + pop4 (y / 16 % 16) := by
    rw [popNat_add 4 4, popNat4, popNat4]
  have h16 (y : Nat) : popNat 16 y = popNat 8 y + popNat 8 (y / 256) := popNat_add 8 8 y
  rw [popNat_add 16 16, h16, h16, h8, h8, h8, h8]
  unfold popW
  simp only [Nat.div_div_eq_div_mul, Nat.reducePow, Nat.reduceMul, Nat.add_assoc]

/-! ### the power history as a number -/

/-- the last `l` entries, oldest first, of a Boolean history whose newest entry is bit 0 of `h` -/
def histList (h : Nat) : Nat → List Bool
  | 0 => []
  | l + 1 => h.testBit l :: histList h l

theorem histList_length (h l : Nat) : (histList h l).length = l := by
  induction l with
  | zero => rfl
  | succ l ih => rw [histList, List.length_cons, ih]

theorem histList_drop (h l d : Nat) : (histList h l).drop d = histList h (l - d) := by
  induction l generalizing d with
  | zero => rw [Nat.zero_sub]; exact List.drop_nil
  | succ l ih =>
    cases d with
    | zero => rfl
    | succ d => rw [histList, List.drop_succ_cons, ih, Nat.add_sub_add_right]

theorem histList_push (h l : Nat) (b : Bool) :
    histList h l ++ [b] = histList (2 * h + b.toNat) (l + 1) := by
  induction l with
  | zero => cases b <;> simp [histList, Nat.testBit_zero] <;> omega
  | succ l ih =>
    have hdiv : (2 * h + b.toNat) / 2 = h := by cases b <;> simp <;> omega
    show h.testBit l :: (histList h l ++ [b]) = (2 * h + b.toNat).testBit (l + 1) :: _
    rw [ih, Nat.testBit_succ, hdiv]

theorem push32_histList (h l : Nat) (b : Bool) :
    push32 (histList h l) b = histList (2 * h + b.toNat) (min (l + 1) 32) := by
  show (histList h l ++ [b]).drop ((histList h l ++ [b]).length - 32) = _
  rw [histList_push, histList_length, histList_drop]
  congr 1
  omega

/-! ### one tick -/

/-- `lstep` after the unconditional part of the tick (`s1 = baseOf s o`), with the hit flag and
    the oldest entry of the power history as parameters: the right side of `lstep_eq` -/
def lcore (c : LCfg) (s1 : LState) (hit head : Bool) (eqByte : Byte) : LState × LinkSt × Option Bool :=
  if s1.nsym < 32 then endTick s1
  else if hit then byteTick c s1 (adjOf s1.clock) eqByte
  else if s1.clock.isSome && !head then endTick s1.endRx
  else match s1.clock with
    | none => endTick s1
    | some 0 => byteTick c s1 false eqByte
    | some (k + 1) => ({ s1 with clock := some ((k + 2) % 8) }, fstate s1.fr, none)

theorem lstep_eq_lcore (c : LCfg) (s : LState) (o : Obs) (b : Byte) :
    lstep c s o b
      = lcore c (baseOf s o)
          (!s.lock && decide (popcount32 (SYNC_WORD ^^^ corrPush s.corr o.bit) ≤ c.maxErrors) && o.openOk)
          ((push32 s.pwr o.closeOk).headD true) b := by
  rw [lstep_eq]
  unfold lcore droppedOf
  show _ = if s.nsym + 1 < 32 then _ else if hitOf c s o = true then _ else _
  cases hitOf c s o <;> rfl

/-! ### the run -/

/-- The evaluator's state: the model's own state `s`, whose fields `corr` and `pwr` are never
    looked at (the kernel evaluates lazily, so they are never computed either), and beside it the
    correlator word and the close-threshold history as numbers. -/
structure EState where
  corr : Nat
  hist : Nat
  hlen : Nat
  s : LState

structure EState.Ok (e : EState) : Prop where
  corr : e.s.corr.toNat = e.corr
  pwr : e.s.pwr = histList e.hist e.hlen

/-- from a state with empty power history -/
def EState.start (s : LState) : EState := ⟨s.corr.toNat, 0, 0, s⟩

theorem EState.start_ok (s : LState) (h : s.pwr = []) : (EState.start s).Ok := ⟨rfl, h⟩

theorem corrPush_toNat (w : UInt32) (b : Bool) :
    (corrPush w b).toNat = w.toNat / 2 + (if b then 2147483648 else 0) := by
  have hw : w.toNat / 2 < 2 ^ 31 := by have := w.toNat_lt; omega
  have h1 : ((1 : UInt32) <<< 31).toNat = 2 ^ 31 * 1 := by decide
  rw [corrPush, UInt32.toNat_or, UInt32.toNat_shiftRight]
  cases b
  · exact Nat.or_zero _
  · show w.toNat / 2 ||| ((1 : UInt32) <<< 31).toNat = w.toNat / 2 + 2 ^ 31 * 1
    rw [h1, Nat.or_comm, Nat.add_comm]
    exact (Nat.two_pow_add_eq_or_of_lt hw 1).symm

def estep (c : LCfg) (e : EState) (o : Obs) (eqByte : Byte) : EState × LinkSt :=
  let corr := e.corr / 2 + (if o.bit then 2147483648 else 0)
  let hist := 2 * e.hist + o.closeOk.toNat
  let hlen := min (e.hlen + 1) 32
  let r := lcore c (baseOf e.s o)
    (!e.s.lock && decide (popW (SYNC_WORD.toNat ^^^ corr) ≤ c.maxErrors) && o.openOk)
    (hist.testBit (hlen - 1)) eqByte
  (⟨corr, hist, hlen, r.1⟩, r.2.1)

theorem estep_eq (c : LCfg) (e : EState) (o : Obs) (b : Byte) (he : e.Ok) :
    estep c e o b
      = (⟨e.corr / 2 + (if o.bit then 2147483648 else 0), 2 * e.hist + o.closeOk.toNat,
           min (e.hlen + 1) 32, (lstep c e.s o b).1⟩, (lstep c e.s o b).2.1) := by
  have hhead : (push32 e.s.pwr o.closeOk).headD true
      = (2 * e.hist + o.closeOk.toNat).testBit (min (e.hlen + 1) 32 - 1) := by
    rw [he.pwr, push32_histList]
    obtain ⟨k, hk⟩ : ∃ k, min (e.hlen + 1) 32 = k + 1 := ⟨min e.hlen 31, by omega⟩
    rw [hk]
    rfl
  have herr : popcount32 (SYNC_WORD ^^^ corrPush e.s.corr o.bit)
      = popW (SYNC_WORD.toNat ^^^ (e.corr / 2 + (if o.bit then 2147483648 else 0))) := by
    rw [popcount32_eq, UInt32.toNat_xor, corrPush_toNat, he.corr]
  rw [lstep_eq_lcore, herr, hhead]
  rfl

theorem estep_ok (c : LCfg) (e : EState) (o : Obs) (b : Byte) (he : e.Ok) : (estep c e o b).1.Ok := by
  rw [estep_eq c e o b he]
  exact ⟨by rw [lstep_corr, corrPush_toNat, he.corr], by rw [lstep_pwr, he.pwr, push32_histList]⟩

def lrunE (c : LCfg) : EState → List Tick → List LinkSt
  | _, [] => []
  | e, x :: xs => (estep c e x.1 x.2).2 :: lrunE c (estep c e x.1 x.2).1 xs

theorem lrun_eq_lrunE (c : LCfg) (e : EState) (xs : List Tick) (he : e.Ok) :
    lrun c e.s xs = lrunE c e xs := by
  induction xs generalizing e with
  | nil => rfl
  | cons x xs ih =>
    rw [lrunE, ← ih _ (estep_ok c e x.1 x.2 he), estep_eq c e x.1 x.2 he]
    rfl

theorem lrun_eq_lrunE_start (c : LCfg) (s : LState) (xs : List Tick) (hp : s.pwr = []) :
    lrun c s xs = lrunE c (EState.start s) xs :=
  lrun_eq_lrunE c _ xs (EState.start_ok s hp)

theorem lrunBursts_eq_lrunE (c : LCfg) (s : LState) (xs : List Tick) (hp : s.pwr = []) :
    lrunBursts c s xs = (lrunE c (EState.start s) xs).flatMap burstOf := by
  rw [lrunBursts_eq, lrun_eq_lrunE_start c s xs hp]

/-! ### frame lookups

  The demo streams read bit `j` and byte `k` of a frame at every tick, and `List.getD` walks the
  frame each time.  With the frame packed into one number (the kernel evaluates the closed term
  `packNat (frameOf …)` once) a lookup is a shift. -/

/-- a byte string as one number, byte `k` in bits `8k … 8k + 7` -/
def packNat : List Byte → Nat
  | [] => 0
  | b :: T => b.toNat + 256 * packNat T

theorem frameBit_eq_testBit (T : List Byte) (j : Nat) : frameBit T j = (packNat T).testBit j := by
  induction T generalizing j with
  | nil => simp [frameBit, packNat, bitOf]
  | cons b T ih =>
    have hb : b.toNat < 2 ^ 8 := b.toNat_lt
    rw [packNat, Nat.add_comm, show 256 = 2 ^ 8 from rfl, Nat.testBit_two_pow_mul_add _ hb]
    by_cases hj : j < 8
    · rw [if_pos hj, frameBit, Nat.div_eq_of_lt hj, Nat.mod_eq_of_lt hj]
      rfl
    · obtain ⟨i, rfl⟩ : ∃ i, j = i + 8 := ⟨j - 8, by omega⟩
      rw [if_neg hj, ← ih, frameBit, frameBit, Nat.add_sub_cancel, Nat.add_div_right _ (by decide),
        Nat.add_mod_right]
      rfl

theorem getD_eq_packNat (T : List Byte) (k : Nat) :
    T.getD k 0 = UInt8.ofNat (packNat T >>> (8 * k)) := by
  induction T generalizing k with
  | nil => simp [packNat]
  | cons b T ih =>
    cases k with
    | zero =>
      apply UInt8.toNat_inj.1
      simp [packNat]
    | succ k =>
      have hb := b.toNat_lt
      rw [List.getD_cons_succ, ih, packNat, Nat.mul_succ, Nat.add_comm (8 * k), Nat.shiftRight_add,
        show (b.toNat + 256 * packNat T) >>> 8 = packNat T by rw [Nat.shiftRight_eq_div_pow]; omega]

end SameVerif
