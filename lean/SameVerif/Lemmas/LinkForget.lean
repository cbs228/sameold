import SameVerif.Lemmas.LinkInv
import SameVerif.Lemmas.LinkBits
/-
  For C10: the two shift registers of the squelch (power history,
  sync-word correlator) forget everything older than 32 ticks, and link states that agree in
  everything live are indistinguishable by any future input.
-/
namespace SameVerif

/-! ### the two shift registers forget: power history -/

def lastN {α : Type} (n : Nat) (l : List α) : List α := l.drop (l.length - n)

theorem lastN_length {α : Type} (n : Nat) (l : List α) : (lastN n l).length = min l.length n := by
  simp only [lastN, List.length_drop]; omega

theorem lastN_append_of_le {α : Type} (n : Nat) (l m : List α) (h : n ≤ m.length) :
    lastN n (l ++ m) = lastN n m := by
  unfold lastN
  have e : (l ++ m).length - n = l.length + (m.length - n) := by
    rw [List.length_append]; omega
  rw [e, ← List.drop_drop, List.drop_left]

theorem lrunState_pwr_forget (c : LCfg) (xs : List Tick) (s : LState) (h : 32 ≤ xs.length) :
    (lrunState c s xs).pwr = lastN 32 (xs.map (fun x => x.1.closeOk)) := by
  have hp := pwr_run c s xs xs.length (by omega) (Nat.le_refl _)
  rw [List.take_length] at hp
  rw [hp]
  exact lastN_append_of_le 32 _ _ (by rw [List.length_map]; exact h)

/-! ### the two shift registers forget: sync-word correlator -/

theorem lrunState_corr_forget (c : LCfg) (xs : List Tick) (s1 s2 : LState) (h : 32 ≤ xs.length) :
    (lrunState c s1 xs).corr = (lrunState c s2 xs).corr := by
  apply UInt32.eq_of_toBitVec_eq
  apply BitVec.eq_of_getLsbD_eq
  intro i hi
  have h1 := corr_run c s1 xs xs.length (Nat.le_refl _) i hi (by omega)
  have h2 := corr_run c s2 xs xs.length (Nat.le_refl _) i hi (by omega)
  rw [List.take_length] at h1 h2
  rw [h1, h2]

/-! ### observational equivalence of link states -/

/-- two link states that no future input can tell apart: equal in everything except the number
    of symbols seen (both histories full) and — while the byte clock is stopped — the dead
    training counter -/
structure LEquiv (s1 s2 : LState) : Prop where
  corr : s1.corr = s2.corr
  pwr : s1.pwr = s2.pwr
  clock : s1.clock = s2.clock
  lock : s1.lock = s2.lock
  fr : s1.fr = s2.fr
  full1 : 32 ≤ s1.nsym
  full2 : 32 ≤ s2.nsym
  train : s1.clock.isSome = true → s1.train = s2.train

theorem lequiv_byteTick (c : LCfg) (s1 s2 : LState) (adj : Bool) (b : Byte)
    (hcorr : s1.corr = s2.corr) (hpwr : s1.pwr = s2.pwr) (hlock : s1.lock = s2.lock)
    (hfr : s1.fr = s2.fr) (h1 : 32 ≤ s1.nsym) (h2 : 32 ≤ s2.nsym)
    (htrain : adj = false → s1.train = s2.train) :
    (byteTick c s1 adj b).2 = (byteTick c s2 adj b).2
      ∧ LEquiv (byteTick c s1 adj b).1 (byteTick c s2 adj b).1 := by
  have ht : (if adj = true then 4 else s1.train) = (if adj = true then 4 else s2.train) := by
    cases adj with
    | true => rfl
    | false => simp [htrain rfl]
  -- both byte ticks put the same question to the framer
  obtain ⟨a1, a2, a3, a4, a5⟩ := byteTick_spec c s1 adj b
  obtain ⟨b1, b2, b3, b4, b5⟩ := byteTick_spec c s2 adj b
  obtain ⟨g1, g2, g3⟩ := byteTick_base c s1 adj b
  obtain ⟨k1, k2, k3⟩ := byteTick_base c s2 adj b
  rw [← hfr, ← ht] at b1 b2 b4 b5
  rw [← ht] at b3
  refine ⟨by rw [a1, b1], ?_⟩
  exact ⟨by rw [g1, k1, hcorr], by rw [g2, k2, hpwr], by rw [a4, b4], by rw [a5, b5, hlock],
    by rw [a2, b2], by rw [g3]; exact h1, by rw [k3]; exact h2, fun _ => by rw [a3, b3]⟩

theorem lequiv_step (c : LCfg) (s1 s2 : LState) (o : Obs) (b : Byte) (h : LEquiv s1 s2) :
    (lstep c s1 o b).2 = (lstep c s2 o b).2 ∧ LEquiv (lstep c s1 o b).1 (lstep c s2 o b).1 := by
  obtain ⟨hcorr, hpwr, hclock, hlock, hfr, h1, h2, htrain⟩ := h
  have hhit : hitOf c s1 o = hitOf c s2 o := by unfold hitOf; rw [hcorr, hlock]
  have hdrop : droppedOf c s1 o = droppedOf c s2 o := by simp [droppedOf, hhit, hclock, hpwr]
  have hb : ∀ adj, (adj = false → s1.train = s2.train) →
      (byteTick c (baseOf s1 o) adj b).2 = (byteTick c (baseOf s2 o) adj b).2
      ∧ LEquiv (byteTick c (baseOf s1 o) adj b).1 (byteTick c (baseOf s2 o) adj b).1 := by
    intro adj ha
    apply lequiv_byteTick c _ _ adj b
    · simp [baseOf, corrPush, hcorr]
    · simp [baseOf, hpwr]
    · exact hlock
    · exact hfr
    · simp only [baseOf]; omega
    · simp only [baseOf]; omega
    · exact ha
  have he : ∀ (t1 t2 : LState), t1.corr = t2.corr → t1.pwr = t2.pwr → t1.clock = t2.clock →
      t1.lock = t2.lock → t1.fr = t2.fr → 32 ≤ t1.nsym → 32 ≤ t2.nsym →
      (t1.clock.isSome = true → t1.train = t2.train) →
      (endTick t1).2 = (endTick t2).2 ∧ LEquiv (endTick t1).1 (endTick t2).1 := by
    intro t1 t2 g1 g2 g3 g4 g5 g6 g7 g8
    refine ⟨by simp [g5], ?_⟩
    rw [endTick_fst, endTick_fst]
    exact ⟨g1, g2, g3, g4, rfl, g6, g7, g8⟩
  rw [lstep_eq, lstep_eq, ← hhit, ← hdrop, ← hclock]
  have hw1 : ¬ s1.nsym + 1 < 32 := by omega
  have hw2 : ¬ s2.nsym + 1 < 32 := by omega
  simp only [hw1, hw2, ↓reduceIte]
  split
  · apply hb
    intro ha
    apply htrain
    cases hc : s1.clock with
    | none => rw [hc] at ha; cases ha
    | some k => rfl
  · split
    · apply he <;> simp [baseOf, LState.endRx, corrPush, hcorr, hpwr, hfr] <;> omega
    · split
      · next hc =>
        apply he <;> simp [baseOf, corrPush, hcorr, hpwr, hfr, hlock, hc, ← hclock] <;> omega
      · next hc => exact hb false (fun _ => htrain (by rw [hc]; rfl))
      · next k hc =>
        refine ⟨by rw [hfr], ?_⟩
        exact ⟨by simp [baseOf, corrPush, hcorr], by simp [baseOf, hpwr], rfl, hlock, hfr,
          by simp only [baseOf]; omega, by simp only [baseOf]; omega,
          fun _ => htrain (by rw [hc]; rfl)⟩

theorem lequiv_run (c : LCfg) (ys : List Tick) : ∀ s1 s2, LEquiv s1 s2 →
    lrun c s1 ys = lrun c s2 ys ∧ LEquiv (lrunState c s1 ys) (lrunState c s2 ys) := by
  induction ys with
  | nil => intro s1 s2 h; exact ⟨rfl, h⟩
  | cons y ys ih =>
    intro s1 s2 h
    obtain ⟨g1, g2⟩ := lequiv_step c s1 s2 y.1 y.2 h
    obtain ⟨g3, g4⟩ := ih _ _ g2
    simp only [lrun, lrunState]
    exact ⟨by rw [g1, g3], g4⟩

end SameVerif
