import SameVerif.Lemmas.LinkSync
import SameVerif.Lemmas.FramerRun
/-
  The framer's state, in closed form, while it is fed `0xAB × a ++ payload` after a restart, and
  what the prefix-error budget must exclude and include for that (`PrefixFacts`).
-/
namespace SameVerif
open SameVerif.Spec

/-- search word after `m` preamble bytes -/
def abw (m : Nat) : UInt32 :=
  if m = 0 then 0 else if m = 1 then 0xAB else if m = 2 then 0xABAB else if m = 3 then 0xABABAB
  else 0xABABABAB

/-- framer state after `m ≥ 1` bytes of `0xAB × a ++ pl` -/
def Fst (a : Nat) (pl : List Byte) (m : Nat) : FState :=
  if m ≤ a then .search (abw m) m
  else if m = a + 1 then .search (wordOf [0xAB, 0xAB, 0xAB, pl.getD 0 0]) m
  else if m = a + 2 then .search (wordOf [0xAB, 0xAB, pl.getD 0 0, pl.getD 1 0]) m
  else if m = a + 3 then .search (wordOf [0xAB, pl.getD 0 0, pl.getD 1 0, pl.getD 2 0]) m
  else .read (pl.take (m - a)) 0

/-- byte number `m` (0-based) of `0xAB × a ++ pl`, as a byte of the frame -/
def byteAt (a : Nat) (pl : List Byte) (m : Nat) : Byte := (frameOf pl).getD (16 - a + m) 0

theorem abw_step (m : Nat) (hm : 1 ≤ m) : (abw m <<< 8) ||| (0xAB : Byte).toUInt32 = abw (m + 1) := by
  have : m = 1 ∨ m = 2 ∨ m = 3 ∨ 4 ≤ m := by omega
  rcases this with rfl | rfl | rfl | h
  · decide
  · decide
  · decide
  · have e1 : abw m = 0xABABABAB := by
      unfold abw
      rw [if_neg (by omega), if_neg (by omega), if_neg (by omega), if_neg (by omega)]
    have e2 : abw (m + 1) = 0xABABABAB := by
      unfold abw
      rw [if_neg (by omega), if_neg (by omega), if_neg (by omega), if_neg (by omega)]
    rw [e1, e2]
    decide

theorem abw_ge4 (m : Nat) (hm : 4 ≤ m) : abw m = wordOf [0xAB, 0xAB, 0xAB, 0xAB] := by
  unfold abw
  rw [if_neg (by omega), if_neg (by omega), if_neg (by omega), if_neg (by omega)]
  decide

theorem abw_errors (m : Nat) (hm : 1 ≤ m) : 15 ≤ prefixErrors (abw m) := by
  have : m = 1 ∨ m = 2 ∨ m = 3 ∨ 4 ≤ m := by omega
  rcases this with rfl | rfl | rfl | h
  · decide +kernel
  · decide +kernel
  · decide +kernel
  · rw [abw_ge4 m h]; decide +kernel

theorem take4_eq {pl : List Byte} (h : 4 ≤ pl.length) :
    pl.take 4 = [pl.getD 0 0, pl.getD 1 0, pl.getD 2 0, pl.getD 3 0] := by
  match pl, h with
  | a :: b :: c :: d :: rest, _ => simp

/-- what the prefix-error budget must exclude (windows with preamble bytes) and include (the prefix) -/
structure PrefixFacts (fc : FCfg) (pl : List Byte) : Prop where
  b0 : fc.maxPrefixErr < 15
  b1 : ¬ prefixErrors (wordOf [0xAB, 0xAB, 0xAB, pl.getD 0 0]) ≤ fc.maxPrefixErr
  b2 : ¬ prefixErrors (wordOf [0xAB, 0xAB, pl.getD 0 0, pl.getD 1 0]) ≤ fc.maxPrefixErr
  b3 : ¬ prefixErrors (wordOf [0xAB, pl.getD 0 0, pl.getD 1 0, pl.getD 2 0]) ≤ fc.maxPrefixErr
  b4 : prefixErrors (wordOf [pl.getD 0 0, pl.getD 1 0, pl.getD 2 0, pl.getD 3 0]) ≤ fc.maxPrefixErr

/-- prefix-error budgets up to 7 are safe for `ZCZC`, up to 4 for `NNNN`
    (`AB 4E 4E 4E` is 5 bit errors from `NNNN`) -/
theorem prefixFacts_of (fc : FCfg) (pl : List Byte) (hok : PayloadOk pl) (h7 : fc.maxPrefixErr ≤ 7)
    (h4 : pl.take 4 = [78, 78, 78, 78] → fc.maxPrefixErr ≤ 4) : PrefixFacts fc pl := by
  rcases hok.starts with hs | hs
  · obtain ⟨g0, g1, g2, g3⟩ := getD_of_take4 hs
    have e1 : prefixErrors (wordOf [0xAB, 0xAB, 0xAB, 90]) = 17 := by decide +kernel
    have e2 : prefixErrors (wordOf [0xAB, 0xAB, 90, 67]) = 9 := by decide +kernel
    have e3 : prefixErrors (wordOf [0xAB, 90, 67, 90]) = 12 := by decide +kernel
    have e4 : prefixErrors (wordOf [90, 67, 90, 67]) = 0 := by decide +kernel
    refine ⟨by omega, ?_, ?_, ?_, ?_⟩ <;> simp only [g0, g1, g2, g3, e1, e2, e3, e4] <;> omega
  · obtain ⟨g0, g1, g2, g3⟩ := getD_of_take4 hs
    have := h4 hs
    have e1 : prefixErrors (wordOf [0xAB, 0xAB, 0xAB, 78]) = 15 := by decide +kernel
    have e2 : prefixErrors (wordOf [0xAB, 0xAB, 78, 78]) = 10 := by decide +kernel
    have e3 : prefixErrors (wordOf [0xAB, 78, 78, 78]) = 5 := by decide +kernel
    have e4 : prefixErrors (wordOf [78, 78, 78, 78]) = 0 := by decide +kernel
    refine ⟨by omega, ?_, ?_, ?_, ?_⟩ <;> simp only [g0, g1, g2, g3, e1, e2, e3, e4] <;> omega

end SameVerif
