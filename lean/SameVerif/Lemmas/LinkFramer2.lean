import SameVerif.Lemmas.LinkFramer
/-
  The framer fed `0xAB × a ++ payload`, `a` up to 18, one byte at a time (`Fst_step2`): when the
  squelch synchronises early — at body tick 15 or 23, on a window that still contains lead-in
  ticks — the framer is fed `19 - q` bytes `0xAB` (4 of them training bytes) before the payload,
  `q` the index of the sync byte; the search gives up only after `PREFIX_SEARCH_LEN = 21` bytes.
-/
namespace SameVerif
open SameVerif.Spec

/-- byte number `m` (0-based) of `0xAB × a ++ pl` -/
def byteAt2 (a : Nat) (pl : List Byte) (m : Nat) : Byte := if m < a then 0xAB else pl.getD (m - a) 0

theorem byteAt2_eq (a : Nat) (ha : a ≤ 16) (pl : List Byte) (m : Nat) : byteAt2 a pl m = byteAt a pl m := by
  unfold byteAt2 byteAt
  by_cases h : m < a
  · rw [if_pos h, frame_getD_lt pl _ (by omega)]
  · rw [if_neg h, frame_getD_ge pl _ (by omega)]
    congr 1
    omega

theorem Fst_step2 (fc : FCfg) (a : Nat) (ha4 : 4 ≤ a) (ha18 : a ≤ 18) (pl : List Byte)
    (hall : ∀ b ∈ pl, isAllowed b = true) (hfits : pl.length ≤ Gen.MAX_BURST_LENGTH)
    (hlen : 4 ≤ pl.length) (hF : PrefixFacts fc pl)
    (m : Nat) (hm1 : 1 ≤ m) (hmM : m < a + pl.length) :
    finputNR fc (Fst a pl m) (byteAt2 a pl m)
      = (Fst a pl (m + 1), if m + 1 < a + 4 then .searching else .reading) := by
  obtain ⟨hb0, hb1, hb2, hb3, hb4⟩ := hF
  have hps : Gen.PREFIX_SEARCH_LEN = 21 := rfl
  by_cases c1 : m < a
  · -- preamble byte onto preamble bytes
    have hbyte : byteAt2 a pl m = 0xAB := by unfold byteAt2; rw [if_pos c1]
    have := abw_errors (m + 1) (by omega)
    unfold Fst
    rw [if_pos (by omega), if_pos (by omega), hbyte]
    simp only [finputNR]
    rw [abw_step m hm1, if_neg (by omega), if_neg (by omega), if_pos (by omega)]
  · have hbyte : byteAt2 a pl m = pl.getD (m - a) 0 := by
      unfold byteAt2; rw [if_neg c1]
    by_cases c2 : m = a
    · subst c2
      unfold Fst
      rw [if_pos (Nat.le_refl _), if_neg (by omega), if_pos rfl, hbyte, abw_ge4 m ha4,
        Nat.sub_self]
      simp only [finputNR]
      rw [← wordOf_slide, if_neg hb1, if_neg (by omega), if_pos (by omega)]
    · by_cases c3 : m = a + 1
      · subst c3
        unfold Fst
        rw [if_neg (by omega), if_pos rfl, if_neg (by omega), if_neg (by omega), if_pos rfl, hbyte,
          show a + 1 - a = 1 by omega]
        simp only [finputNR]
        rw [← wordOf_slide, if_neg hb2, if_neg (by omega), if_pos (by omega)]
      · by_cases c4 : m = a + 2
        · subst c4
          unfold Fst
          rw [if_neg (by omega), if_neg (by omega), if_pos rfl, if_neg (by omega), if_neg (by omega),
            if_neg (by omega), if_pos rfl, hbyte, show a + 2 - a = 2 by omega]
          simp only [finputNR]
          rw [← wordOf_slide, if_neg hb3, if_neg (by omega), if_pos (by omega)]
        · by_cases c5 : m = a + 3
          · subst c5
            unfold Fst
            rw [if_neg (by omega), if_neg (by omega), if_neg (by omega), if_pos rfl, if_neg (by omega),
              if_neg (by omega), if_neg (by omega), if_neg (by omega), hbyte,
              show a + 3 - a = 3 by omega, show a + 3 + 1 - a = 4 by omega]
            simp only [finputNR]
            rw [← wordOf_slide, if_pos hb4, beBytes_wordOf_four, if_neg (by omega), take4_eq hlen]
          · -- reading the payload
            have hk : m - a < pl.length := by omega
            have hby : pl.getD (m - a) 0 = pl[m - a] := by
              rw [List.getD_eq_getElem?_getD, List.getElem?_eq_getElem hk]; rfl
            have hal : isAllowed pl[m - a] = true := hall _ (List.getElem_mem hk)
            unfold Fst
            rw [if_neg (by omega), if_neg (by omega), if_neg (by omega), if_neg (by omega),
              if_neg (by omega), if_neg (by omega), if_neg (by omega), if_neg (by omega), hbyte, hby,
              if_neg (by omega)]
            simp only [finputNR, hal, if_true, Nat.add_zero]
            have hl : (pl.take (m - a)).length = m - a := by rw [List.length_take]; omega
            have hnot : ¬ ((decide (0 > fc.maxInvalid) || decide ((pl.take (m - a)).length ≥ Gen.MAX_BURST_LENGTH)) = true) := by
              rw [hl]; simp; omega
            rw [if_neg hnot, List.take_append_getElem hk, show m + 1 - a = m - a + 1 by omega]

end SameVerif
