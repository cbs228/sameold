import SameVerif.Lemmas.LinkInv
/-
  For C10: how much a burst can still grow once silence has begun —
  at most one byte per 8 ticks until the power history has drained, i.e. at most 4 bytes.
-/
namespace SameVerif

/-- the number of byte ticks that can still happen when `j` silent ticks have been heard and the
    byte clock shows `clk`: byte ticks need clock 0, and tick number `32 - j` from now is a
    carrier drop at the latest -/
def byteBudget (j : Nat) (clk : Option Nat) : Nat :=
  match clk with
  | none => 0
  | some k => (31 - j - (8 - k) % 8 + 7) / 8

theorem byteBudget_le (clk : Option Nat) : byteBudget 0 clk ≤ 4 := by
  cases clk with
  | none => simp [byteBudget]
  | some k => simp only [byteBudget]; omega

theorem read_step (c : LCfg) (s : LState) (o : Obs) (b : Byte) (msg : List Byte) (inv : Nat)
    (j : Nat) (hinv : LinkInv s) (hj : j < 32) (ht : TailFalse j s.pwr)
    (hf : s.fr = .read msg inv) (ho : o.openOk = false) (hcl : o.closeOk = false) :
    (∃ msg' inv', (lstep c s o b).1.fr = .read msg' inv' ∧ msg <+: msg'
        ∧ (∀ m, (lstep c s o b).2.1 ≠ .burst m)
        ∧ msg'.length + byteBudget (j + 1) (lstep c s o b).1.clock
            ≤ msg.length + byteBudget j s.clock)
      ∨ ((lstep c s o b).1.fr = .idle ∧ (lstep c s o b).2.1 = .burst msg) := by
  have ht' : TailFalse (j + 1) (push32 s.pwr false) := tailFalse_push j _ ht
  rw [lstep_closed c s o b ho, hcl]
  split
  · right; simp [baseOf, hf, fend]
  · split
    · right; simp [baseOf, hf, fend, LState.endRx]
    · next hnd =>
      split
      · right; simp [baseOf, hf, fend]
      · next hc =>
        -- a byte tick: the history has not drained yet, so `j ≤ 30`
        have hj30 : j + 1 < 32 := by
          apply Classical.byContradiction
          intro hge
          have hhead : (push32 s.pwr false).headD true = false := by
            apply tailFalse_head (j + 1) _ ht' _ (push32_ne_nil _ _)
            rw [push32_length]; omega
          apply hnd
          rw [hc, hhead]; rfl
        obtain ⟨hout, hfr, _, hck, _⟩ := byteTick_noadj c (baseOf s o) b
        rw [hout, hfr, hck]
        have e : (baseOf s o).fr = .read msg inv := hf
        rw [e]
        rcases finputNR_read_cases c.fc msg inv (if (baseOf s o).train > 0 then PREAMBLE_BYTE else b)
          with h | ⟨_, inv', h⟩
        · right; rw [h]; exact ⟨rfl, rfl⟩
        · left
          rw [h, hc]
          refine ⟨_, inv', rfl, List.prefix_append _ _, fun m hm => (by cases hm), ?_⟩
          simp only [byteBudget, List.length_append, List.length_singleton]
          omega
      · next k hc =>
        left
        have hk := hinv.clock_lt _ hc
        refine ⟨msg, inv, hf, List.prefix_rfl, ?_, ?_⟩
        · intro m hm
          simp [hf, fstate] at hm
        · rw [hc]
          simp only [byteBudget]
          omega

theorem read_run (c : LCfg) (xs : List Tick) : ∀ (s : LState) (j : Nat) msg inv,
    LinkInv s → j < 32 → TailFalse j s.pwr → s.fr = .read msg inv → AllSilent xs →
    (∃ msg' inv', (lrunState c s xs).fr = .read msg' inv' ∧ lrunBursts c s xs = [])
      ∨ (∃ msg', msg <+: msg' ∧ msg'.length ≤ msg.length + byteBudget j s.clock
          ∧ lrunBursts c s xs = [msg']) := by
  induction xs with
  | nil => intro s j msg inv _ _ _ h _; exact Or.inl ⟨msg, inv, h, rfl⟩
  | cons x xs ih =>
    intro s j msg inv hinv hj ht h hx
    have hx' : AllSilent xs := fun y hy => hx y (by simp [hy])
    obtain ⟨ho, hcl⟩ := hx x (by simp)
    rcases read_step c s x.1 x.2 msg inv j hinv hj ht h ho hcl with
      ⟨msg', inv', h1, h2, h3, h4⟩ | ⟨h1, h2⟩
    · rw [lrunBursts_cons_other c s x xs h3]
      have hd := draining_step c j s x.1 x.2 hinv (Or.inr ⟨hj, ht⟩) ho hcl
      rcases hd with ⟨_, _, hq⟩ | ⟨hj', ht'⟩
      · rw [hq] at h1; cases h1
      · rcases ih _ (j + 1) msg' inv' (linkInv_step c s x.1 x.2 hinv) hj' ht' h1 hx' with
          ⟨m2, i2, g1, g2⟩ | ⟨m2, g0, g1, g2⟩
        · exact Or.inl ⟨m2, i2, g1, g2⟩
        · exact Or.inr ⟨m2, h2.trans g0, by omega, g2⟩
    · rw [lrunBursts_cons_burst c s x xs msg h2]
      obtain ⟨g1, _⟩ := idle_run c xs _ h1 hx'.closed
      exact Or.inr ⟨msg, List.prefix_rfl, by omega, by rw [g1]⟩

end SameVerif
