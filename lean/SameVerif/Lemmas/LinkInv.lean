import SameVerif.Lemmas.LinkBits
import SameVerif.Lemmas.FramerBits
/-
  For C10, over the decomposition of `lstep` in Lemmas/LinkRun.lean: the structural
  invariant `LinkInv` and the "silence drains the squelch" argument.
-/
namespace SameVerif

theorem fend_idle : fend .idle = (.idle, .noCarrier) := rfl

theorem hitOf_closed (c : LCfg) (s : LState) (o : Obs) (h : o.openOk = false) :
    hitOf c s o = false := by simp [hitOf, h]

theorem hitOf_unlocked (c : LCfg) (s : LState) (o : Obs) (h : hitOf c s o = true) :
    s.lock = false := by
  simp only [hitOf, Bool.and_eq_true, Bool.not_eq_true'] at h
  exact h.1.1

theorem push32_length (h : List Bool) (b : Bool) : (push32 h b).length = min (h.length + 1) 32 := by
  simp only [push32, List.length_drop, List.length_append, List.length_singleton]; omega

theorem push32_ne_nil (h : List Bool) (b : Bool) : push32 h b ≠ [] := by
  intro e
  have := push32_length h b
  rw [e] at this
  simp only [List.length_nil] at this; omega

@[simp] theorem endTick_fst (s1 : LState) : (endTick s1).1 = { s1 with fr := .idle } := by
  simp [endTick, fend_fst]

@[simp] theorem endTick_snd (s1 : LState) : (endTick s1).2 = ((fend s1.fr).2, none) := rfl

theorem lstep_closed (c : LCfg) (s : LState) (o : Obs) (b : Byte) (h : o.openOk = false) :
    lstep c s o b =
      if s.nsym + 1 < 32 then endTick (baseOf s o)
      else if (s.clock.isSome && !((push32 s.pwr o.closeOk).headD true)) = true then
        endTick (baseOf s o).endRx
      else match s.clock with
        | none => endTick (baseOf s o)
        | some 0 => byteTick c (baseOf s o) false b
        | some (k + 1) => ({ baseOf s o with clock := some ((k + 2) % 8) }, fstate s.fr, none) := by
  rw [lstep_eq]
  simp only [droppedOf, hitOf_closed c s o h, Bool.not_false, Bool.true_and, Bool.false_eq_true,
    ↓reduceIte]
  rfl

/-! ### the structural invariant -/

/-- what every reachable link state satisfies, for every configuration -/
structure LinkInv (s : LState) : Prop where
  /-- the power history holds one entry per symbol seen, at most 32 -/
  pwr_len : s.pwr.length = min s.nsym 32
  /-- no synchronisation before the sample history is full -/
  warm : s.nsym < 32 → s.clock = none
  /-- a sync lock is only held while the byte clock runs -/
  lock_sync : s.lock = true → s.clock.isSome = true
  /-- the byte clock counts symbols modulo 8 -/
  clock_lt : ∀ k, s.clock = some k → k < 8

theorem linkInv_init : LinkInv {} := by
  constructor <;> simp

theorem unlocked_of_unsync {s : LState} (h : LinkInv s) (hc : s.clock = none) : s.lock = false := by
  cases hl : s.lock with
  | false => rfl
  | true => have := h.lock_sync hl; rw [hc] at this; cases this

/-- the invariant, as its proof sees it: unsynchronised and unlocked, or (sample history full)
    synchronised at one of the eight phases -/
theorem linkInv_of_sync {s : LState} (hp : s.pwr.length = min s.nsym 32)
    (h : (s.clock = none ∧ s.lock = false) ∨ (32 ≤ s.nsym ∧ ∃ k, s.clock = some k ∧ k < 8)) :
    LinkInv s := by
  rcases h with ⟨hc, hl⟩ | ⟨hn, k, hc, hk⟩
  · refine ⟨hp, fun _ => hc, fun h => ?_, fun k h => ?_⟩
    · rw [hl] at h; cases h
    · rw [hc] at h; cases h
  · refine ⟨hp, fun h => ?_, fun _ => ?_, fun k' h => ?_⟩
    · omega
    · rw [hc]; rfl
    · rw [hc] at h; cases h; exact hk

theorem byteTick_sync (c : LCfg) (s1 : LState) (adj : Bool) (b : Byte) :
    ((byteTick c s1 adj b).1.clock = none ∧ (byteTick c s1 adj b).1.lock = false)
      ∨ (byteTick c s1 adj b).1.clock = some 1 := by
  obtain ⟨_, _, _, h4, h5⟩ := byteTick_spec c s1 adj b
  rw [h4, h5]
  split <;> simp

theorem linkInv_step (c : LCfg) (s : LState) (o : Obs) (b : Byte) (h : LinkInv s) :
    LinkInv (lstep c s o b).1 := by
  obtain ⟨_, hpwr, hnsym⟩ := lstep_base c s o b
  apply linkInv_of_sync
  · rw [hpwr, hnsym, push32_length, h.pwr_len]; omega
  rw [hnsym]
  have hbyte : ∀ adj, ¬ s.nsym + 1 < 32 →
      ((byteTick c (baseOf s o) adj b).1.clock = none ∧ (byteTick c (baseOf s o) adj b).1.lock = false)
      ∨ (32 ≤ s.nsym + 1 ∧ ∃ k, (byteTick c (baseOf s o) adj b).1.clock = some k ∧ k < 8) := by
    intro adj hw
    rcases byteTick_sync c (baseOf s o) adj b with h1 | h1
    · exact Or.inl h1
    · exact Or.inr ⟨by omega, 1, h1, by omega⟩
  rw [lstep_eq]
  split
  · exact Or.inl ⟨h.warm (by omega), (unlocked_of_unsync h (h.warm (by omega)) : s.lock = false)⟩
  · next hw =>
    split
    · exact hbyte _ hw
    · split
      · exact Or.inl ⟨rfl, rfl⟩
      · split
        · next hc => exact Or.inl ⟨hc, (unlocked_of_unsync h hc : s.lock = false)⟩
        · exact hbyte _ hw
        · exact Or.inr ⟨by omega, _, rfl, Nat.mod_lt _ (by omega)⟩

theorem linkInv_run (c : LCfg) (xs : List Tick) : ∀ s, LinkInv s → LinkInv (lrunState c s xs) := by
  induction xs with
  | nil => intro s h; exact h
  | cons x xs ih => intro s h; exact ih _ (linkInv_step c s x.1 x.2 h)

/-! ### the unsynchronised state -/

/-- the squelch is not synchronised, holds no lock, and the framer is idle — the state of a
    new receiver as far as everything except the two shift registers is concerned -/
def QuietState (s : LState) : Prop := s.clock = none ∧ s.lock = false ∧ s.fr = .idle

theorem quietState_init : QuietState {} := ⟨rfl, rfl, rfl⟩

/-- streams whose every tick is below the opening threshold -/
def AllClosed (xs : List Tick) : Prop := ∀ x ∈ xs, x.1.openOk = false

/-- streams whose every tick is below both thresholds -/
def AllSilent (xs : List Tick) : Prop := ∀ x ∈ xs, x.1.openOk = false ∧ x.1.closeOk = false

theorem AllSilent.closed {xs : List Tick} (h : AllSilent xs) : AllClosed xs :=
  fun x hx => (h x hx).1

theorem QuietState.ready {s : LState} (h : QuietState s) : Spec.Ready s := ⟨h.1, h.2.1, h.2.2⟩

theorem quietState_run (c : LCfg) (xs : List Tick) : ∀ s, QuietState s → AllClosed xs →
    QuietState (lrunState c s xs) ∧ ∀ ls ∈ lrun c s xs, ls = .noCarrier := by
  intro s h hx
  obtain ⟨r1, _, r3⟩ := quiet_run c xs s h.ready (fun t _ =>
    Spec.noHitAt_of_closed c s xs t (fun x hx' => hx x (List.mem_of_getElem? hx')))
  exact ⟨⟨r3.clock, r3.lock, r3.fr⟩, r1⟩

theorem lrunState_nsym (c : LCfg) (xs : List Tick) : ∀ s,
    (lrunState c s xs).nsym = s.nsym + xs.length := fun s => nsym_run c s xs

/-! ### silence drains the power history -/

/-- the newest `k` entries of the power history are all "below the closing threshold" -/
def TailFalse (k : Nat) (h : List Bool) : Prop := ∀ x ∈ h.drop (h.length - k), x = false

theorem tailFalse_zero (h : List Bool) : TailFalse 0 h := by
  intro x hx; simp at hx

theorem mem_drop_of_le {α : Type} {l : List α} {m n : Nat} {x : α} (hmn : m ≤ n)
    (hx : x ∈ l.drop n) : x ∈ l.drop m := by
  have : l.drop n = (l.drop m).drop (n - m) := by
    rw [List.drop_drop]; congr 1; omega
  rw [this] at hx
  exact List.mem_of_mem_drop hx

theorem tailFalse_push (k : Nat) (h : List Bool) (hk : TailFalse k h) :
    TailFalse (k + 1) (push32 h false) := by
  intro x hx
  rw [push32_length] at hx
  simp only [push32, List.drop_drop, List.length_append, List.length_singleton] at hx
  have hx' : x ∈ (h ++ [false]).drop (h.length - k) := by
    apply mem_drop_of_le _ hx
    omega
  rw [List.drop_append_of_le_length (by omega)] at hx'
  simp only [List.mem_append, List.mem_singleton] at hx'
  rcases hx' with hx' | hx'
  · exact hk x hx'
  · exact hx'

theorem headD_of_all_false (l : List Bool) (hne : l ≠ []) (h : ∀ x ∈ l, x = false) :
    l.headD true = false := by
  cases l with
  | nil => exact absurd rfl hne
  | cons a l => simpa using h a (by simp)

theorem tailFalse_head (k : Nat) (h : List Bool) (hk : TailFalse k h) (hlen : h.length ≤ k)
    (hne : h ≠ []) : h.headD true = false := by
  apply headD_of_all_false h hne
  intro x hx
  apply hk
  have : h.length - k = 0 := by omega
  rw [this]; exact hx

/-- `k` silent ticks have been heard: either the link is already unsynchronised, or the newest
    `k` power-history entries are below the closing threshold -/
def Draining (k : Nat) (s : LState) : Prop := QuietState s ∨ (k < 32 ∧ TailFalse k s.pwr)

theorem draining_zero (s : LState) : Draining 0 s := Or.inr ⟨by omega, tailFalse_zero _⟩

theorem draining_done (k : Nat) (s : LState) (hk : 32 ≤ k) (h : Draining k s) : QuietState s := by
  rcases h with h | ⟨h, _⟩
  · exact h
  · omega

theorem draining_step (c : LCfg) (k : Nat) (s : LState) (o : Obs) (b : Byte) (hinv : LinkInv s)
    (hd : Draining k s) (ho : o.openOk = false) (hcl : o.closeOk = false) :
    Draining (k + 1) (lstep c s o b).1 := by
  rcases hd with hq | ⟨hk, ht⟩
  · have r := (lstep_ready c s o b hq.ready (fun _ => Or.inr (Or.inl ho))).2
    exact Or.inl ⟨r.clock, r.lock, r.fr⟩
  · have ht' : TailFalse (k + 1) (push32 s.pwr false) := tailFalse_push k _ ht
    by_cases hk' : k + 1 < 32
    · right
      refine ⟨hk', ?_⟩
      rw [(lstep_base c s o b).2.1, hcl]; exact ht'
    · left
      have hhead : (push32 s.pwr false).headD true = false := by
        apply tailFalse_head (k + 1) _ ht' _ (push32_ne_nil _ _)
        rw [push32_length]; omega
      rw [lstep_closed c s o b ho, hcl, hhead]
      split
      · next hw =>
        have hc := hinv.warm (by omega)
        simp [QuietState, baseOf, hc, unlocked_of_unsync hinv hc]
      · cases hc : s.clock with
        | none => simp [QuietState, baseOf, hc, unlocked_of_unsync hinv hc]
        | some j => simp [QuietState, baseOf, LState.endRx]

theorem draining_run (c : LCfg) (xs : List Tick) : ∀ (k : Nat) (s : LState), LinkInv s →
    Draining k s → AllSilent xs → Draining (k + xs.length) (lrunState c s xs) := by
  induction xs with
  | nil => intro k s _ hd _; exact hd
  | cons x xs ih =>
    intro k s hinv hd hx
    have h1 := draining_step c k s x.1 x.2 hinv hd (hx x (by simp)).1 (hx x (by simp)).2
    have h2 := ih (k + 1) _ (linkInv_step c s x.1 x.2 hinv) h1 (fun y hy => hx y (by simp [hy]))
    simp only [lrunState, List.length_cons]
    have e : k + (xs.length + 1) = k + 1 + xs.length := by omega
    rw [e]; exact h2

/-! ### a frame in progress is emitted, not lost -/

theorem idle_step (c : LCfg) (s : LState) (o : Obs) (b : Byte) (hf : s.fr = .idle)
    (ho : o.openOk = false) :
    (lstep c s o b).1.fr = .idle ∧ ∀ m, (lstep c s o b).2.1 ≠ .burst m := by
  rw [lstep_closed c s o b ho]
  split
  · simp [baseOf, hf, fend]
  · split
    · simp [baseOf, hf, fend, LState.endRx]
    · split
      · simp [baseOf, hf, fend]
      · obtain ⟨hout, hfr, _⟩ := byteTick_noadj c (baseOf s o) b
        rw [hout, hfr]
        have e : (baseOf s o).fr = .idle := hf
        rw [e]
        exact ⟨rfl, fun m hm => by cases hm⟩
      · simp [baseOf, hf, fstate]

theorem lrunBursts_cons_burst (c : LCfg) (s : LState) (x : Tick) (xs : List Tick) (m : List Byte)
    (h : (lstep c s x.1 x.2).2.1 = .burst m) :
    lrunBursts c s (x :: xs) = m :: lrunBursts c (lstep c s x.1 x.2).1 xs := by
  simp only [lrunBursts, lrun, List.filterMap_cons, h]

theorem lrunBursts_cons_other (c : LCfg) (s : LState) (x : Tick) (xs : List Tick)
    (h : ∀ m, (lstep c s x.1 x.2).2.1 ≠ .burst m) :
    lrunBursts c s (x :: xs) = lrunBursts c (lstep c s x.1 x.2).1 xs := by
  simp only [lrunBursts, lrun, List.filterMap_cons]

theorem idle_run (c : LCfg) (xs : List Tick) : ∀ s, s.fr = .idle → AllClosed xs →
    lrunBursts c s xs = [] ∧ (lrunState c s xs).fr = .idle := by
  induction xs with
  | nil => intro s h _; exact ⟨rfl, h⟩
  | cons x xs ih =>
    intro s h hx
    obtain ⟨h1, h2⟩ := idle_step c s x.1 x.2 h (hx x (by simp))
    rw [lrunBursts_cons_other c s x xs h2]
    exact ih _ h1 (fun y hy => hx y (by simp [hy]))

/-! ### framer / squelch coupling (needs the builder's bound on the prefix error budget) -/

/-- the framer is only busy while the squelch is synchronised, and only reads under lock -/
structure FrInv (s : LState) : Prop where
  fr_sync : s.fr ≠ .idle → s.clock.isSome = true
  read_lock : ∀ msg inv, s.fr = .read msg inv → s.lock = true

theorem frInv_init : FrInv {} := by constructor <;> simp

theorem finputNR_state (fc : FCfg) (f : FState) (data : Byte) :
    (finputNR fc f data).2 = fstate (finputNR fc f data).1
      ∨ ((finputNR fc f data).1 = .idle ∧ ∃ m, (finputNR fc f data).2 = .burst m) := by
  cases f with
  | idle => exact Or.inl rfl
  | search w n =>
    simp only [finputNR]
    split
    · exact Or.inl rfl
    · split <;> exact Or.inl rfl
  | read msg inv =>
    rcases finputNR_read_cases fc msg inv data with h | ⟨_, inv', h⟩ <;> rw [h]
    · exact Or.inr ⟨rfl, msg, rfl⟩
    · exact Or.inl rfl

theorem frInv_byteTick (c : LCfg) (s1 : LState) (adj : Bool) (b : Byte)
    (hc : c.fc.maxPrefixErr < 15) (hl : adj = true → s1.lock = false) (h : FrInv s1) :
    FrInv (byteTick c s1 adj b).1 := by
  cases adj with
  | true =>
    have hnr : ∀ msg inv, s1.fr ≠ .read msg inv := by
      intro msg inv e
      have := h.read_lock msg inv e
      rw [hl rfl] at this; cases this
    rw [byteTick_restart c s1 b hc hnr]
    exact ⟨fun _ => rfl, fun msg inv e => by cases e⟩
  | false =>
    -- clock and lock are set from the link state the framer reports: compare it with its state
    obtain ⟨_, hfr, _, hck, hlk⟩ := byteTick_noadj c s1 b
    have hst := finputNR_state c.fc s1.fr (if s1.train > 0 then PREAMBLE_BYTE else b)
    generalize finputNR c.fc s1.fr (if s1.train > 0 then PREAMBLE_BYTE else b) = r
      at hfr hck hlk hst
    obtain ⟨f', ls⟩ := r
    constructor
    · intro hne
      rw [hfr] at hne
      rw [hck]
      rcases hst with h' | ⟨h', _⟩
      · cases f' with
        | idle => exact absurd rfl hne
        | search w n => rw [h']; rfl
        | read msg inv => rw [h']; rfl
      · exact absurd h' hne
    · intro msg inv hm
      rw [hfr] at hm
      rw [hlk]
      rcases hst with h' | ⟨h', _⟩
      · rw [h', hm]; rfl
      · rw [h'] at hm; cases hm

theorem frInv_step (c : LCfg) (s : LState) (o : Obs) (b : Byte) (hc : c.fc.maxPrefixErr < 15)
    (h : FrInv s) : FrInv (lstep c s o b).1 := by
  have hidle : ∀ s1 : LState, FrInv { s1 with fr := .idle } := by
    intro s1; constructor <;> simp
  rw [lstep_eq]
  split
  · rw [endTick_fst]; exact hidle _
  · split
    · next hh =>
      exact frInv_byteTick c _ _ b hc (fun _ => hitOf_unlocked c s o hh) ⟨h.fr_sync, h.read_lock⟩
    · split
      · rw [endTick_fst]; exact hidle _
      · split
        · rw [endTick_fst]; exact hidle _
        · exact frInv_byteTick c _ _ b hc (fun x => by cases x) ⟨h.fr_sync, h.read_lock⟩
        · exact ⟨fun _ => rfl, h.read_lock⟩

end SameVerif
