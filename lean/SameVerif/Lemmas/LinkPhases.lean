import SameVerif.Lemmas.LinkSignal
import SameVerif.Lemmas.LinkFramer
/-
  The phases of one burst through the link model:
  quiet until the first aligned all-correct window, first sync, [search and read: `LinkPhases2`],
  garbage, drop.
-/
namespace SameVerif
open SameVerif.Spec

theorem payload_len_ge {pl : List Byte} (hok : PayloadOk pl) : 4 ≤ pl.length := by
  have : (pl.take 4).length = 4 := by
    rcases hok.starts with h | h <;> rw [h] <;> rfl
  rw [List.length_take] at this
  omega

theorem lrunBursts_nil (c : LCfg) (s : LState) : lrunBursts c s [] = [] := rfl

/-- right after an adjusting sync hit at tick `t - 1` of `xs`: the byte clock has just started,
    four training bytes are pending (one consumed), the framer has been restarted with one preamble
    byte, nothing has been reported -/
def JustSynced (c : LCfg) (s : LState) (xs : List Tick) (t : Nat) : Prop :=
  (lrunState c s (xs.take t)).clock = some 1
    ∧ (lrunState c s (xs.take t)).lock = false
    ∧ (lrunState c s (xs.take t)).fr = .search 0xAB 1
    ∧ (lrunState c s (xs.take t)).train = 3
    ∧ lrunBursts c s (xs.take t) = []

/-- before the byte tick that follows the last payload byte: the framer holds exactly the payload,
    the squelch is locked, training is over, nothing has been reported -/
def PayloadRead (c : LCfg) (s : LState) (xs : List Tick) (pl : List Byte) (t : Nat) : Prop :=
  (lrunState c s (xs.take t)).clock = some 0
    ∧ (lrunState c s (xs.take t)).lock = true
    ∧ (lrunState c s (xs.take t)).train = 0
    ∧ (lrunState c s (xs.take t)).fr = .read pl 0
    ∧ lrunBursts c s (xs.take t) = []

section
variable {pl : List Byte} {lead body tail : List Tick} {acq rel : Nat}

/-- phase 1: nothing happens before the first aligned window that ends at or after `acq + 31` -/
theorem phase_quiet (H : BurstObserved' pl body tail acq rel) (hok : PayloadOk pl)
    (c : LCfg) (hE : c.maxErrors ≤ 6) (s1 : LState) (hq : Quiescent s1)
    (N : BTNoHit c s1 body tail acq)
    (j0 : Nat) (hj0 : j0 ≤ 127) (hmis : ∀ t, acq + 31 ≤ t → t < j0 → t % 8 ≠ 7) :
    ∀ t, t ≤ j0 →
      (lrunState c s1 ((body ++ tail).take t)).clock = none
      ∧ (lrunState c s1 ((body ++ tail).take t)).lock = false
      ∧ (lrunState c s1 ((body ++ tail).take t)).fr = .idle
      ∧ lrunBursts c s1 ((body ++ tail).take t) = [] := by
  have hlen := H.body_len
  have hfl := frame_length pl
  have hpl := payload_len_ge hok
  intro t
  induction t with
  | zero => intro _; exact ⟨hq.clock, hq.lock, hq.fr, rfl⟩
  | succ t ih =>
    intro ht
    obtain ⟨i1, i2, i3, i4⟩ := ih (by omega)
    have htb : t < body.length := by omega
    have htx : t < (body ++ tail).length := by rw [List.length_append]; omega
    have hns := warm_run c s1 ((body ++ tail).take t) hq.warm
    have hno : NoHit c (lrunState c s1 ((body ++ tail).take t)) ((body ++ tail)[t]).1 := by
      by_cases he : t < acq + 31
      · exact (N.early t he).getElem htx
      · refine Or.inr (Or.inr ?_)
        rw [err_body H.tracked c s1 t (by omega) htb]
        have := werr_preamble_misaligned pl t (by omega) (by omega) (hmis t (by omega) (by omega))
        omega
    obtain ⟨o1, o2, o3, o4, _⟩ := lstep_quiet c _ _ ((body ++ tail)[t]).2 hns i1 i3 hno
    rw [lrunState_take_succ c s1 _ t htx, lrunBursts_take_succ c s1 _ t htx, o1, i4]
    exact ⟨o2, by rw [o3, i2], o4, rfl⟩

theorem phase_sync (H : BurstObserved' pl body tail acq rel) (hok : PayloadOk pl)
    (c : LCfg) (hE : c.maxErrors ≤ 6) (hP : c.fc.maxPrefixErr < 15) (s1 : LState) (hq : Quiescent s1)
    (N : BTNoHit c s1 body tail acq)
    (j0 : Nat) (hj0 : j0 ≤ 127) (hj0a : acq + 31 ≤ j0) (hj07 : j0 % 8 = 7)
    (hmis : ∀ t, acq + 31 ≤ t → t < j0 → t % 8 ≠ 7) :
    JustSynced c s1 (body ++ tail) (j0 + 1) := by
  have hlen := H.body_len
  have hfl := frame_length pl
  have hpl := payload_len_ge hok
  obtain ⟨i1, i2, i3, i4⟩ := phase_quiet H hok c hE s1 hq N j0 hj0 hmis j0 (Nat.le_refl _)
  have htb : j0 < body.length := by omega
  have htx : j0 < (body ++ tail).length := by rw [List.length_append]; omega
  have hns := warm_run c s1 ((body ++ tail).take j0) hq.warm
  have herr : errOf (lrunState c s1 ((body ++ tail).take j0)) ((body ++ tail)[j0]).1 ≤ c.maxErrors := by
    rw [err_body H.tracked c s1 j0 hj0a htb, werr_preamble_aligned pl j0 (by omega) hj0 hj07]
    omega
  obtain ⟨o1, o2, o3, o4, o5⟩ := lstep_adjust c _ _ ((body ++ tail)[j0]).2 hns (by rw [i1]; nofun)
    (by rw [i3]; nofun) ((hitOf_true_iff c _ _).2 ⟨i2, herr, open_body H j0 hj0a htb⟩) (by omega)
  unfold JustSynced
  rw [lrunState_take_succ c s1 _ j0 htx, lrunBursts_take_succ c s1 _ j0 htx, o1, i4]
  exact ⟨o2, o3, o4, o5, rfl⟩

/-- what phase 4 maintains at tail tick `k ≥ 31`: still reading `payload ++ g`, or done -/
def GarbageInv (c : LCfg) (s1 : LState) (xs : List Tick) (pl : List Byte) (n rel k : Nat) : Prop :=
  (k ≤ rel + 31
    ∧ (lrunState c s1 (xs.take (n + k))).clock = some ((k - 31) % 8)
    ∧ (lrunState c s1 (xs.take (n + k))).lock = true
    ∧ (lrunState c s1 (xs.take (n + k))).train = 0
    ∧ ∃ g inv, (lrunState c s1 (xs.take (n + k))).fr = .read (pl ++ g) inv
        ∧ g.length ≤ (k - 31 + 7) / 8
        ∧ lrunBursts c s1 (xs.take (n + k)) = [])
  ∨ ((lrunState c s1 (xs.take (n + k))).clock = none
    ∧ (lrunState c s1 (xs.take (n + k))).lock = false
    ∧ (lrunState c s1 (xs.take (n + k))).fr = .idle
    ∧ ∃ g, lrunBursts c s1 (xs.take (n + k)) = [pl ++ g] ∧ g.length ≤ (rel + 7) / 8)

/-- phase 4: after the last payload byte the framer reads garbage until it gives up or the power
    history empties; exactly one burst `payload ++ g` comes out -/
theorem phase_garbage (H : BurstTracked pl body tail acq rel)
    (c : LCfg) (s1 : LState) (hw : 32 ≤ s1.nsym)
    (N : ∀ t, body.length ≤ t → NoHitAt c s1 (body ++ tail) t)
    (hbase : PayloadRead c s1 (body ++ tail) pl (body.length + 31)) :
    ∀ e, 31 + e ≤ tail.length → GarbageInv c s1 (body ++ tail) pl body.length rel (31 + e) := by
  have hlen := H.body_len
  have hfl := frame_length pl
  have htl := H.tail_len
  have hacq := H.acq_le
  intro e
  induction e with
  | zero =>
    intro _
    obtain ⟨b1, b2, b3, b4, b5⟩ := hbase
    left
    exact ⟨by omega, b1, b2, b3, [], 0, by simpa using b4, by simp, b5⟩
  | succ e ih =>
    intro he
    have htx : body.length + (31 + e) < (body ++ tail).length := by rw [List.length_append]; omega
    have hns := warm_run c s1 ((body ++ tail).take (body.length + (31 + e))) hw
    unfold GarbageInv
    rw [show body.length + (31 + (e + 1)) = body.length + (31 + e) + 1 by omega,
      lrunState_take_succ c s1 _ _ htx, lrunBursts_take_succ c s1 _ _ htx]
    rcases ih (by omega) with ⟨hk, i1, i2, i3, g, inv, i4, i5, i6⟩ | ⟨i1, i2, i3, g, i4, i5⟩
    · have hno : NoHit c (lrunState c s1 ((body ++ tail).take (body.length + (31 + e))))
          ((body ++ tail)[body.length + (31 + e)]).1 := Or.inl i2
      by_cases hend : 31 + e = rel + 31
      · -- the power history has emptied: carrier dropped, burst emitted
        have hh := head_false H c s1 (body.length + (31 + e)) (by omega) htx
        obtain ⟨o1, o2, o3, o4⟩ := lstep_drop c _ _ ((body ++ tail)[body.length + (31 + e)]).2 _ hns i1 hno hh
        right
        rw [o1, o2, o3, o4, i4, i6]
        exact ⟨rfl, rfl, rfl, g, rfl, by omega⟩
      · have hh := head_true H c s1 (body.length + (31 + e)) (by omega) (by omega) htx
        by_cases hbt : (31 + e - 31) % 8 = 0
        · -- byte tick: a garbage byte is appended, or the framer ends the burst
          have hstep := lstep_byte c _ _ ((body ++ tail)[body.length + (31 + e)]).2 hns (by rw [i1, hbt])
            (Or.inr hh)
          simp only at hstep
          rw [i3, if_neg (by omega), i4] at hstep
          simp only [finputNR] at hstep
          by_cases hc : (decide ((inv + if isAllowed ((body ++ tail)[body.length + (31 + e)]).2 = true then 0 else 1)
              > c.fc.maxInvalid) || decide ((pl ++ g).length ≥ Gen.MAX_BURST_LENGTH)) = true
          · rw [if_pos hc] at hstep
            obtain ⟨o1, o2, o3, o4, o5⟩ := hstep
            right
            rw [o1, o2, o4, o5, i6]
            exact ⟨rfl, rfl, rfl, g, rfl, by omega⟩
          · rw [if_neg hc] at hstep
            obtain ⟨o1, o2, o3, o4, o5⟩ := hstep
            left
            rw [o1, o2, o3, o4, o5, i6]
            refine ⟨by omega, by simp; omega, rfl, rfl,
              g ++ [((body ++ tail)[body.length + (31 + e)]).2], _, by rw [List.append_assoc], ?_, rfl⟩
            rw [List.length_append, List.length_singleton]
            omega
        · -- ordinary tick
          obtain ⟨o1, o2, o3, o4, o5⟩ := lstep_tick c _ _ ((body ++ tail)[body.length + (31 + e)]).2
            ((31 + e - 31) % 8) hns i1 (by omega) hno hh
          left
          rw [o1, o2, o3, o4, o5, i2, i3, i4, i6]
          exact ⟨by omega, congrArg some (by omega), rfl, rfl, g, inv, rfl, by omega, rfl⟩
    · -- done: quiet until the end of the tail
      have hno := noHit_tail N (body.length + (31 + e)) (by omega) htx
      obtain ⟨o1, o2, o3, o4, _⟩ := lstep_quiet c _ _ ((body ++ tail)[body.length + (31 + e)]).2 hns i1 i3 hno
      right
      rw [o1, o2, o3, o4, i2, i4]
      exact ⟨rfl, rfl, rfl, g, rfl, i5⟩

end
end SameVerif
