import SameVerif.Lemmas.LinkPhases
import SameVerif.Lemmas.LinkPre
/-
  The synchronised phases of one burst when the (last adjusting) sync hit comes at ANY byte-aligned
  body tick `8 q0 + 7`, `1 ≤ q0 ≤ 15` — possibly before the correlator window is all-correct.
  The start state `s1` (at the first body tick) is arbitrary but warm; between the sync tick and
  `acq + 31` the absence of wrong-phase hits (`Ne`) and of carrier drops (`Hh`) is assumed, from
  `acq + 31` on it is derived from the frame.  For the first aligned all-correct window both
  assumptions are vacuous (`synced_end`, `burst_body_tail` in `LinkBurst`).
-/
namespace SameVerif
open SameVerif.Spec

/-- running from `s` over `xs`, the power history does not drop the carrier at tick `t` -/
def HeadAt (c : LCfg) (s : LState) (xs : List Tick) (t : Nat) : Prop :=
  ∀ x, xs[t]? = some x → headOf (lrunState c s (xs.take t)) x.1 = true

theorem HeadAt.getElem {c : LCfg} {s : LState} {xs : List Tick} {t : Nat}
    (h : HeadAt c s xs t) (ht : t < xs.length) :
    headOf (lrunState c s (xs.take t)) xs[t].1 = true :=
  h _ (List.getElem?_eq_getElem ht)

section
variable {pl : List Byte} {body tail : List Tick} {acq rel : Nat}

theorem clock_byte (d : Nat) (h : d % 8 = 7) :
    (d + 1) / 8 + 1 = d / 8 + 1 + 1 ∧ ((d + 1) % 8 + 1) % 8 = 1 := by omega

theorem clock_tick (d : Nat) (h : d % 8 ≠ 7) :
    (d + 1) / 8 = d / 8 ∧ (d % 8 + 1) % 8 = d % 8 + 1
      ∧ (d % 8 + 1 + 1) % 8 = ((d + 1) % 8 + 1) % 8 := by omega

theorem body_length (H : BurstTracked pl body tail acq rel) : body.length = 128 + 8 * pl.length := by
  rw [H.body_len, frame_length]; omega

theorem noHit_misaligned (H : BurstTracked pl body tail acq rel) (hok : PayloadOk pl)
    (hdash : ∀ h : 4 < pl.length, pl[4] = 45) (c : LCfg) (hE : c.maxErrors ≤ 6) (s : LState)
    (t : Nat) (h1 : acq + 31 ≤ t) (h2 : t < body.length) (h182 : t ≤ 182) (hmis : t % 8 ≠ 7) :
    NoHit c (lrunState c s ((body ++ tail).take t))
      ((body ++ tail)[t]'(by rw [List.length_append]; omega)).1 := by
  refine Or.inr (Or.inr ?_)
  rw [err_body H c s t h1 h2]
  have hlen := H.body_len
  by_cases hpre : t ≤ 126
  · have := werr_preamble_misaligned pl t (by omega) hpre hmis
    omega
  · have := werr_payload_misaligned pl hok hdash t (by omega) h182 (by omega) hmis
    omega

theorem eq_byte_synced (H : BurstTracked pl body tail acq rel) (q0 m : Nat) (hq : q0 ≤ 15)
    (hm : 4 ≤ m) (hmM : m < 19 - q0 + pl.length)
    (hlt : 8 * (q0 + m) + 7 < (body ++ tail).length) :
    ((body ++ tail)[8 * (q0 + m) + 7]).2 = byteAt2 (19 - q0) pl m := by
  have hfl := frame_length pl
  rw [eq_byte H (q0 + m) (by omega) (by omega) hlt, frame_getD]
  unfold byteAt2
  by_cases hpre : m < 19 - q0
  · rw [if_pos hpre, if_pos (by omega)]
  · rw [if_neg hpre, if_neg (by omega)]
    congr 1
    omega

/-- `d` counts the ticks after the sync tick `8 q0 + 7`; the framer has been fed
    `0xAB × (19 - q0) ++ payload` -/
theorem phase_synced2 (H : BurstTracked pl body tail acq rel) (hok : PayloadOk pl)
    (hdash : ∀ h : 4 < pl.length, pl[4] = 45)
    (c : LCfg) (hE : c.maxErrors ≤ 6) (hF : PrefixFacts c.fc pl) (s1 : LState) (hw : 32 ≤ s1.nsym)
    (q0 : Nat) (h1 : 1 ≤ q0) (h15 : q0 ≤ 15)
    (Nl : ∀ t, body.length ≤ t → NoHitAt c s1 (body ++ tail) t)
    (Ne : ∀ t, 8 * q0 + 8 ≤ t → t < acq + 31 → t % 8 ≠ 7 → NoHitAt c s1 (body ++ tail) t)
    (Hh : ∀ t, 8 * q0 + 8 ≤ t → t < acq + 31 → HeadAt c s1 (body ++ tail) t)
    (hbase : JustSynced c s1 (body ++ tail) (8 * q0 + 7 + 1)) :
    ∀ d, 8 * q0 + 8 + d ≤ body.length + 31 →
      (lrunState c s1 ((body ++ tail).take (8 * q0 + 8 + d))).clock = some ((d % 8 + 1) % 8)
      ∧ (lrunState c s1 ((body ++ tail).take (8 * q0 + 8 + d))).train = 4 - (d / 8 + 1)
      ∧ (lrunState c s1 ((body ++ tail).take (8 * q0 + 8 + d))).fr = Fst (19 - q0) pl (d / 8 + 1)
      ∧ (lrunState c s1 ((body ++ tail).take (8 * q0 + 8 + d))).lock = decide (19 - q0 + 4 ≤ d / 8 + 1)
      ∧ lrunBursts c s1 ((body ++ tail).take (8 * q0 + 8 + d)) = [] := by
  have hbl := body_length H
  have hpl := payload_len_ge hok
  have htl := H.tail_len
  have hacq := H.acq_le
  intro d
  induction d with
  | zero =>
    intro _
    obtain ⟨b1, b2, b3, b4, b5⟩ := hbase
    refine ⟨b1, b4, ?_, ?_, b5⟩
    · rw [b3]; unfold Fst abw; rw [if_pos (by omega)]; simp
    · rw [b2]; simp
  | succ d ih =>
    intro hd
    obtain ⟨i1, i2, i3, i4, i5⟩ := ih (by omega)
    have htx : 8 * q0 + 8 + d < (body ++ tail).length := by rw [List.length_append]; omega
    have hns := warm_run c s1 ((body ++ tail).take (8 * q0 + 8 + d)) hw
    have hhead : headOf (lrunState c s1 ((body ++ tail).take (8 * q0 + 8 + d)))
        ((body ++ tail)[8 * q0 + 8 + d]).1 = true := by
      by_cases hlate : acq + 31 ≤ 8 * q0 + 8 + d
      · exact head_true H c s1 (8 * q0 + 8 + d) hlate (by omega) htx
      · exact (Hh _ (by omega) (by omega)).getElem htx
    rw [show 8 * q0 + 8 + (d + 1) = 8 * q0 + 8 + d + 1 by omega,
      lrunState_take_succ c s1 _ _ htx, lrunBursts_take_succ c s1 _ _ htx]
    by_cases hbt : d % 8 = 7
    · -- byte tick
      have hc0 : (lrunState c s1 ((body ++ tail).take (8 * q0 + 8 + d))).clock = some 0 := by
        rw [i1, hbt]
      have hstep := lstep_byte c _ _ ((body ++ tail)[8 * q0 + 8 + d]).2 hns hc0 (Or.inr hhead)
      simp only at hstep
      have hbyte : (if (lrunState c s1 ((body ++ tail).take (8 * q0 + 8 + d))).train > 0 then PREAMBLE_BYTE
          else ((body ++ tail)[8 * q0 + 8 + d]).2) = byteAt2 (19 - q0) pl (d / 8 + 1) := by
        rw [i2]
        by_cases htr : 4 - (d / 8 + 1) > 0
        · rw [if_pos htr]
          unfold byteAt2
          rw [if_pos (by omega)]
          decide
        · rw [if_neg htr]
          have e : 8 * q0 + 8 + d = 8 * (q0 + (d / 8 + 1)) + 7 := by omega
          simp only [e]
          exact eq_byte_synced H q0 (d / 8 + 1) h15 (by omega) (by omega) (by rw [← e]; exact htx)
      rw [hbyte, i3, Fst_step2 c.fc (19 - q0) (by omega) (by omega) pl hok.allowed hok.fits hpl hF
        (d / 8 + 1) (by omega) (by omega)] at hstep
      obtain ⟨o1, o2, o3, o4, o5⟩ := hstep
      obtain ⟨em, ec⟩ := clock_byte d hbt
      rw [o1, o2, o3, o4, o5, i4, i5, em, ec]
      -- the framer's answer is `searching` up to the fourth prefix byte, `reading` from then on
      by_cases hs : d / 8 + 1 + 1 < 19 - q0 + 4
      · rw [if_pos hs]
        exact ⟨rfl, by omega, rfl,
          (decide_eq_false (by omega)).trans (decide_eq_false (by omega)).symm, rfl⟩
      · rw [if_neg hs]
        exact ⟨rfl, by omega, rfl, (decide_eq_true (by omega)).symm, rfl⟩
    · -- ordinary tick
      obtain ⟨em, hk, ek⟩ := clock_tick d hbt
      have hno : NoHit c (lrunState c s1 ((body ++ tail).take (8 * q0 + 8 + d)))
          ((body ++ tail)[8 * q0 + 8 + d]).1 := by
        by_cases hl : 19 - q0 + 4 ≤ d / 8 + 1
        · left; rw [i4]; simpa using hl
        · by_cases hb : 8 * q0 + 8 + d < body.length
          · by_cases hearly : 8 * q0 + 8 + d < acq + 31
            · exact (Ne _ (by omega) hearly (by omega)).getElem htx
            · exact noHit_misaligned H hok hdash c hE s1 _ (by omega) hb (by omega) (by omega)
          · exact noHit_tail Nl _ (by omega) htx
      obtain ⟨o1, o2, o3, o4, o5⟩ := lstep_tick c _ _ ((body ++ tail)[8 * q0 + 8 + d]).2 (d % 8 + 1) hns
        (by rw [i1, hk]) (by omega) hno hhead
      rw [o1, o2, o3, o4, o5, i2, i3, i4, i5, em]
      refine ⟨congrArg some ek, rfl, rfl, rfl, ?_⟩
      cases (Fst (19 - q0) pl (d / 8 + 1)) <;> rfl


/-- state before the byte tick that follows the last payload byte (tail index 31), from the
    canonical state right after a sync hit at body tick `8 q0 + 7` -/
theorem synced_end2 (H : BurstTracked pl body tail acq rel) (hok : PayloadOk pl)
    (hdash : ∀ h : 4 < pl.length, pl[4] = 45)
    (c : LCfg) (hE : c.maxErrors ≤ 6) (hF : PrefixFacts c.fc pl) (s1 : LState) (hw : 32 ≤ s1.nsym)
    (q0 : Nat) (h1 : 1 ≤ q0) (h15 : q0 ≤ 15)
    (Nl : ∀ t, body.length ≤ t → NoHitAt c s1 (body ++ tail) t)
    (Ne : ∀ t, 8 * q0 + 8 ≤ t → t < acq + 31 → t % 8 ≠ 7 → NoHitAt c s1 (body ++ tail) t)
    (Hh : ∀ t, 8 * q0 + 8 ≤ t → t < acq + 31 → HeadAt c s1 (body ++ tail) t)
    (hbase : JustSynced c s1 (body ++ tail) (8 * q0 + 7 + 1)) :
    PayloadRead c s1 (body ++ tail) pl (body.length + 31) := by
  have hlen := H.body_len
  have hfl := frame_length pl
  have hpl := payload_len_ge hok
  have htl := H.tail_len
  have hd : 8 * q0 + 8 + (body.length + 31 - (8 * q0 + 8)) = body.length + 31 := by omega
  have hsy := phase_synced2 H hok hdash c hE hF s1 hw q0 h1 h15 Nl Ne Hh hbase
    (body.length + 31 - (8 * q0 + 8)) (by omega)
  rw [hd] at hsy
  obtain ⟨y1, y2, y3, y4, y5⟩ := hsy
  have e1 : (body.length + 31 - (8 * q0 + 8)) % 8 = 7 := by omega
  have e2 : (body.length + 31 - (8 * q0 + 8)) / 8 + 1 = 19 - q0 + pl.length := by omega
  rw [e1] at y1
  rw [e2] at y2 y3 y4
  have hfr : Fst (19 - q0) pl (19 - q0 + pl.length) = .read pl 0 := by
    unfold Fst
    rw [if_neg (by omega), if_neg (by omega), if_neg (by omega), if_neg (by omega),
      show 19 - q0 + pl.length - (19 - q0) = pl.length by omega, List.take_length]
  refine ⟨y1, ?_, ?_, ?_, y5⟩
  · rw [y4]; simp; omega
  · rw [y2]; omega
  · rw [y3, hfr]

theorem burst_of_payloadRead (H : BurstTracked pl body tail acq rel) (c : LCfg) (s1 : LState)
    (hw : 32 ≤ s1.nsym) (Nl : ∀ t, body.length ≤ t → NoHitAt c s1 (body ++ tail) t)
    (hb : PayloadRead c s1 (body ++ tail) pl (body.length + 31)) :
    ∃ g, lrunBursts c s1 (body ++ tail) = [pl ++ g] ∧ g.length ≤ (rel + 7) / 8
      ∧ Quiescent (lrunState c s1 (body ++ tail)) := by
  have htl := H.tail_len
  have hg := phase_garbage H c s1 hw Nl hb (tail.length - 31) (by omega)
  unfold GarbageInv at hg
  have hall : body.length + (31 + (tail.length - 31)) = (body ++ tail).length := by
    rw [List.length_append]; omega
  rw [hall, List.take_length] at hg
  rcases hg with ⟨hk, _⟩ | ⟨g1, g2, g3, g, g4, g5⟩
  · omega
  · exact ⟨g, g4, g5, ⟨by rw [nsym_run]; omega, g1, g2, g3⟩⟩

theorem burst_body_tail2 (H : BurstTracked pl body tail acq rel) (hok : PayloadOk pl)
    (hdash : ∀ h : 4 < pl.length, pl[4] = 45)
    (c : LCfg) (hE : c.maxErrors ≤ 6) (hF : PrefixFacts c.fc pl) (s1 : LState) (hw : 32 ≤ s1.nsym)
    (q0 : Nat) (h1 : 1 ≤ q0) (h15 : q0 ≤ 15)
    (Nl : ∀ t, body.length ≤ t → NoHitAt c s1 (body ++ tail) t)
    (Ne : ∀ t, 8 * q0 + 8 ≤ t → t < acq + 31 → t % 8 ≠ 7 → NoHitAt c s1 (body ++ tail) t)
    (Hh : ∀ t, 8 * q0 + 8 ≤ t → t < acq + 31 → HeadAt c s1 (body ++ tail) t)
    (hbase : JustSynced c s1 (body ++ tail) (8 * q0 + 7 + 1)) :
    ∃ g, lrunBursts c s1 (body ++ tail) = [pl ++ g] ∧ g.length ≤ (rel + 7) / 8
      ∧ Quiescent (lrunState c s1 (body ++ tail)) :=
  burst_of_payloadRead H c s1 hw Nl (synced_end2 H hok hdash c hE hF s1 hw q0 h1 h15 Nl Ne Hh hbase)

end
end SameVerif
