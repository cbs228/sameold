import SameVerif.Lemmas.LinkFramer2
import SameVerif.Spec.FrontEnd2
import SameVerif.Spec.PreSync
/-
  The link model follows the abstract squelch `preStep` of `Spec/PreSync.lean` (automaton and its
  reading there) as long as that does not fail: `SimPre` is the link state an abstract state
  stands for, `preStep_sim` one tick, `preRun_sim` the run.
-/
namespace SameVerif
open SameVerif.Spec

/-- the link state that an abstract state stands for -/
def SimPre : Option Nat → LState → Prop
  | none, st => st.clock = none ∧ st.lock = false ∧ st.fr = .idle
  | some k, st => 1 ≤ k ∧ k ≤ 32 ∧ st.clock = some (k % 8) ∧ st.lock = false
      ∧ st.train = 4 - ((k - 1) / 8 + 1) ∧ st.fr = .search (abw ((k - 1) / 8 + 1)) ((k - 1) / 8 + 1)

theorem finputNR_training (fc : FCfg) (hp : fc.maxPrefixErr < 15) (m : Nat) (h1 : 1 ≤ m) (h3 : m ≤ 3) :
    finputNR fc (.search (abw m) m) PREAMBLE_BYTE = (.search (abw (m + 1)) (m + 1), .searching) := by
  have hb : PREAMBLE_BYTE = 0xAB := by decide
  have := abw_errors (m + 1) (by omega)
  have hps : Gen.PREFIX_SEARCH_LEN = 21 := rfl
  simp only [finputNR]
  rw [hb, abw_step m h1, if_neg (by omega), if_neg (by omega)]

theorem simPre_adjust (c : LCfg) (hP : c.fc.maxPrefixErr < 15) (st : LState) (o : Obs) (b : Byte)
    (h31 : 31 ≤ st.nsym) (hc : st.clock ≠ some 0) (hf : ∀ msg inv, st.fr ≠ .read msg inv)
    (hh : hitOf c st o = true) :
    SimPre (some 1) (lstep c st o b).1 ∧ burstOf (lstep c st o b).2.1 = [] := by
  obtain ⟨o1, o2, o3, o4, o5⟩ := lstep_adjust c st o b h31 hc hf hh hP
  exact ⟨⟨by omega, by omega, o2, o3, o5, o4⟩, by rw [o1]; rfl⟩

/-- a byte tick within the first 32 ticks after an adjusting hit consumes a training byte, be it
    reached by the byte clock or re-affirmed by a hit -/
theorem simPre_training (c : LCfg) (hP : c.fc.maxPrefixErr < 15) (st : LState) (o : Obs) (b : Byte)
    (h31 : 31 ≤ st.nsym) (k : Nat) (hsim : SimPre (some k) st) (hb : k % 8 = 0) (hk : k < 32)
    (hh : hitOf c st o = true ∨ headOf st o = true) :
    SimPre (some (k + 1)) (lstep c st o b).1 ∧ burstOf (lstep c st o b).2.1 = [] := by
  obtain ⟨k1, k32, s1, s2, s3, s4⟩ := hsim
  have hm1 : 1 ≤ (k - 1) / 8 + 1 := by omega
  have hm3 : (k - 1) / 8 + 1 ≤ 3 := by omega
  have hstepb := lstep_byte c st o b h31 (by rw [s1, hb]) hh
  simp only at hstepb
  rw [s3, if_pos (by omega), s4, finputNR_training c.fc hP _ hm1 hm3] at hstepb
  obtain ⟨o1, o2, o3, o4, o5⟩ := hstepb
  refine ⟨⟨by omega, by omega, ?_, ?_, ?_, ?_⟩, by rw [o1]; rfl⟩
  · rw [o4]; exact congrArg some (by omega)
  · rw [o5]; exact s2
  · rw [o3]; omega
  · rw [o2, show (k + 1 - 1) / 8 + 1 = (k - 1) / 8 + 1 + 1 by omega]

theorem preStep_sim (c : LCfg) (hP : c.fc.maxPrefixErr < 15) (st : LState) (o : Obs) (b : Byte)
    (h31 : 31 ≤ st.nsym) (ast ast' : Option Nat) (hsim : SimPre ast st)
    (hstep : preStep (hitOf c st o) (headOf st o) ast = some ast') :
    SimPre ast' (lstep c st o b).1 ∧ burstOf (lstep c st o b).2.1 = [] := by
  cases ast with
  | none =>
    obtain ⟨s1, s2, s3⟩ := hsim
    cases hph : hitOf c st o
    · rw [hph] at hstep
      cases hstep
      obtain ⟨o1, o2, o3, o4, _⟩ := lstep_quiet c st o b h31 s1 s3 ((hitOf_false_iff c st o).1 hph)
      exact ⟨⟨o2, by rw [o3, s2], o4⟩, by rw [o1]; rfl⟩
    · rw [hph] at hstep
      cases hstep
      exact simPre_adjust c hP st o b h31 (by rw [s1]; nofun) (by rw [s3]; nofun) hph
  | some k =>
    have hsim' := hsim
    obtain ⟨k1, k32, s1, s2, s3, s4⟩ := hsim'
    simp only [preStep] at hstep
    cases hph : hitOf c st o
    · have hno := (hitOf_false_iff c st o).1 hph
      rw [hph] at hstep
      simp only [Bool.false_eq_true, if_false] at hstep
      cases hhd : headOf st o
      · -- carrier dropped
        rw [hhd] at hstep
        cases hstep
        obtain ⟨o1, o2, o3, o4⟩ := lstep_drop c st o b _ h31 s1 hno hhd
        rw [s4] at o1 o4
        exact ⟨⟨o2, o3, o4⟩, by rw [o1]; rfl⟩
      · rw [hhd] at hstep
        simp only [Bool.not_true, Bool.false_eq_true, if_false] at hstep
        by_cases hk : k < 32
        · rw [if_pos hk] at hstep
          cases hstep
          by_cases hb : k % 8 = 0
          · exact simPre_training c hP st o b h31 k hsim hb hk (Or.inr hhd)
          · -- ordinary tick
            obtain ⟨o1, o2, o3, o4, o5⟩ := lstep_tick c st o b (k % 8) h31 s1 (by omega) hno hhd
            refine ⟨⟨by omega, by omega, ?_, by rw [o3]; exact s2, ?_, ?_⟩, ?_⟩
            · rw [o2]; exact congrArg some (by omega)
            · rw [o5, s3, show (k + 1 - 1) / 8 = (k - 1) / 8 by omega]
            · rw [o4, s4, show (k + 1 - 1) / 8 = (k - 1) / 8 by omega]
            · rw [o1, s4]; rfl
        · rw [if_neg hk] at hstep
          cases hstep
    · rw [hph] at hstep
      simp only [if_true] at hstep
      by_cases hb : k % 8 ≠ 0
      · rw [if_pos hb] at hstep
        cases hstep
        exact simPre_adjust c hP st o b h31 (by rw [s1]; exact fun h => hb (Option.some.inj h))
          (by rw [s4]; nofun) hph
      · rw [if_neg hb] at hstep
        by_cases hk : k < 32
        · rw [if_pos hk] at hstep
          cases hstep
          exact simPre_training c hP st o b h31 k hsim (by omega) hk (Or.inl hph)
        · rw [if_neg hk] at hstep
          cases hstep

theorem preRun_sim (c : LCfg) (hP : c.fc.maxPrefixErr < 15) (xs : List Tick) (s : LState)
    (ph hd : Nat → Bool) (a : Nat) (hready : Ready (lrunState c s (xs.take a)))
    (hwarm : 31 ≤ s.nsym + a)
    (hph : ∀ t (ht : t < xs.length), a ≤ t → (lrunState c s (xs.take t)).lock = false →
      hitOf c (lrunState c s (xs.take t)) xs[t].1 = ph t)
    (hhd : ∀ t (ht : t < xs.length), a ≤ t → headOf (lrunState c s (xs.take t)) xs[t].1 = hd t) :
    ∀ m ast, a + m ≤ xs.length → preRun ph hd a m = some ast →
      SimPre ast (lrunState c s (xs.take (a + m)))
        ∧ lrunBursts c s (xs.take (a + m)) = lrunBursts c s (xs.take a) := by
  intro m
  induction m with
  | zero =>
    intro ast _ h
    simp only [preRun, Option.some.injEq] at h
    subst h
    exact ⟨⟨hready.clock, hready.lock, hready.fr⟩, rfl⟩
  | succ m ih =>
    intro ast' hlen h
    simp only [preRun] at h
    cases hpr : preRun ph hd a m with
    | none => rw [hpr] at h; cases h
    | some ast =>
      rw [hpr] at h
      simp only [Option.bind_some] at h
      obtain ⟨i1, i2⟩ := ih ast (by omega) hpr
      have htx : a + m < xs.length := by omega
      have hlock : (lrunState c s (xs.take (a + m))).lock = false := by
        cases ast with
        | none => exact i1.2.1
        | some k => exact i1.2.2.2.1
      rw [← hph (a + m) htx (by omega) hlock, ← hhd (a + m) htx (by omega)] at h
      obtain ⟨j1, j2⟩ := preStep_sim c hP _ _ (xs[a + m]).2 (by rw [nsym_run, List.length_take]; omega)
        ast ast' i1 h
      rw [show a + (m + 1) = a + m + 1 by omega, lrunState_take_succ c s xs _ htx,
        lrunBursts_take_succ c s xs _ htx, j2, List.append_nil]
      exact ⟨j1, i2⟩

end SameVerif
