import SameVerif.Model.LinkRun
/-
  Running the link model.  `lrun`, `lrunState`, `lrunBursts` over `++` and `take`; `lstep` cut into
  named pieces (`hitOf`, `droppedOf`, `baseOf`, `endTick`, `byteTick`, joined by `lstep_eq`) with what
  a byte tick does field by field; and the three fields that evolve independently of the rest:
  correlator, power history, symbol count.  Every proof about the link layer starts from here.
-/
namespace SameVerif

/-- the burst carried by a link state, as a list of at most one element -/
def burstOf : LinkSt → List (List Byte)
  | .burst b => [b]
  | _ => []

def corrPush (w : UInt32) (b : Bool) : UInt32 := (w >>> 1) ||| ((if b then (1 : UInt32) else 0) <<< 31)

theorem lrunState_append (c : LCfg) (s : LState) (xs ys : List Tick) :
    lrunState c s (xs ++ ys) = lrunState c (lrunState c s xs) ys := by
  induction xs generalizing s with
  | nil => rfl
  | cons x xs ih => simp only [List.cons_append, lrunState, ih]

theorem lrun_append (c : LCfg) (xs ys : List Tick) : ∀ s,
    lrun c s (xs ++ ys) = lrun c s xs ++ lrun c (lrunState c s xs) ys := by
  induction xs with
  | nil => intro s; rfl
  | cons x xs ih => intro s; simp only [List.cons_append, lrun, lrunState, ih]

theorem lrunBursts_eq (c : LCfg) (s : LState) (xs : List Tick) :
    lrunBursts c s xs = (lrun c s xs).flatMap burstOf := by
  unfold lrunBursts
  induction lrun c s xs with
  | nil => rfl
  | cons a l ih =>
    cases a <;> simp [burstOf, ih]

theorem lrunBursts_append (c : LCfg) (s : LState) (xs ys : List Tick) :
    lrunBursts c s (xs ++ ys) = lrunBursts c s xs ++ lrunBursts c (lrunState c s xs) ys := by
  simp only [lrunBursts, lrun_append, List.filterMap_append]

theorem lrunBursts_single (c : LCfg) (s : LState) (x : Tick) :
    lrunBursts c s [x] = burstOf (lstep c s x.1 x.2).2.1 := by
  rw [lrunBursts_eq]; simp [lrun]

theorem lrunState_take_succ (c : LCfg) (s : LState) (xs : List Tick) (t : Nat) (ht : t < xs.length) :
    lrunState c s (xs.take (t + 1))
      = (lstep c (lrunState c s (xs.take t)) xs[t].1 xs[t].2).1 := by
  rw [← List.take_append_getElem ht, lrunState_append]; rfl

theorem lrunBursts_take_succ (c : LCfg) (s : LState) (xs : List Tick) (t : Nat) (ht : t < xs.length) :
    lrunBursts c s (xs.take (t + 1))
      = lrunBursts c s (xs.take t) ++ burstOf (lstep c (lrunState c s (xs.take t)) xs[t].1 xs[t].2).2.1 := by
  rw [← List.take_append_getElem ht, lrunBursts_append, lrunBursts_single]

theorem lrun_length (c : LCfg) (xs : List Tick) : ∀ s, (lrun c s xs).length = xs.length := by
  induction xs with
  | nil => intro s; rfl
  | cons x xs ih => intro s; simp [lrun, ih]

theorem lrun_take (c : LCfg) (s : LState) (xs : List Tick) (k : Nat) :
    lrun c s (xs.take k) = (lrun c s xs).take k := by
  induction xs generalizing s k with
  | nil => simp [lrun]
  | cons x xs ih =>
    cases k with
    | zero => simp [lrun]
    | succ k => simp [lrun, ih]

theorem lrun_getElem? (c : LCfg) : ∀ (xs : List Tick) (s : LState) (t : Nat) (ht : t < xs.length),
    (lrun c s xs)[t]? = some (lstep c (lrunState c s (xs.take t)) xs[t].1 xs[t].2).2.1 := by
  intro xs
  induction xs with
  | nil => intro s t ht; simp at ht
  | cons x xs ih =>
    intro s t ht
    cases t with
    | zero => simp [lrun, lrunState]
    | succ t =>
      simp only [lrun, List.getElem?_cons_succ, List.take_succ_cons, lrunState, List.getElem_cons_succ]
      exact ih _ t (by simpa using ht)

/-! ### `lstep` in small pieces -/

/-- the hit expression of `lstep`, named -/
def hitOf (c : LCfg) (s : LState) (o : Obs) : Bool :=
  !s.lock && decide (popcount32 (SYNC_WORD ^^^ ((s.corr >>> 1) ||| ((if o.bit then (1 : UInt32) else 0) <<< 31))) ≤ c.maxErrors) && o.openOk

/-- the squelch drops the carrier at this tick -/
def droppedOf (c : LCfg) (s : LState) (o : Obs) : Bool :=
  !hitOf c s o && s.clock.isSome && !((push32 s.pwr o.closeOk).headD true)

/-- the unconditional part of a tick: correlator, power history, symbol count -/
def baseOf (s : LState) (o : Obs) : LState :=
  { s with corr := corrPush s.corr o.bit, pwr := push32 s.pwr o.closeOk, nsym := s.nsym + 1 }

/-- a tick at which the squelch reports no byte and "no carrier": the framer is ended -/
def endTick (s1 : LState) : LState × LinkSt × Option Bool :=
  ({ s1 with fr := (fend s1.fr).1 }, (fend s1.fr).2, none)

/-- a byte tick: the framer gets a byte (the forced preamble byte while training) -/
def byteTick (c : LCfg) (s1 : LState) (adjusted : Bool) (eqByte : Byte) :
    LState × LinkSt × Option Bool :=
  let train := if adjusted then 4 else s1.train
  let byte := if train > 0 then PREAMBLE_BYTE else eqByte
  let r := finput c.fc s1.fr byte adjusted
  let s2 : LState := { s1 with clock := some 1, train := train - 1, fr := r.1 }
  match r.2 with
  | .reading => ({ s2 with lock := true }, r.2, some adjusted)
  | .noCarrier => (s2.endRx, r.2, some adjusted)
  | .burst _ => (s2.endRx, r.2, some adjusted)
  | .searching => (s2, r.2, some adjusted)

/-- `is_resync` of a byte tick caused by a sync-word hit: the byte clock was moved -/
def adjOf : Option Nat → Bool
  | some 0 => false
  | _ => true

theorem lstep_eq (c : LCfg) (s : LState) (o : Obs) (b : Byte) :
    lstep c s o b =
      if s.nsym + 1 < 32 then endTick (baseOf s o)
      else if hitOf c s o then byteTick c (baseOf s o) (adjOf s.clock) b
      else if droppedOf c s o then endTick (baseOf s o).endRx
      else match s.clock with
        | none => endTick (baseOf s o)
        | some 0 => byteTick c (baseOf s o) false b
        | some (k + 1) => ({ baseOf s o with clock := some ((k + 2) % 8) }, fstate s.fr, none) := by
  unfold lstep droppedOf hitOf baseOf corrPush
  dsimp only
  generalize ((if o.bit = true then (1 : UInt32) else 0) <<< 31) = bitv
  generalize (!s.lock && decide (popcount32 (SYNC_WORD ^^^ (s.corr >>> 1 ||| bitv)) ≤ c.maxErrors) && o.openOk) = hit
  by_cases hw : s.nsym + 1 < 32
  · simp [hw, endTick]
  · simp only [hw, ↓reduceIte]
    cases hit with
    | true =>
      simp only [Bool.not_true, Bool.false_and, Bool.false_eq_true, ↓reduceIte]
      rcases hc : s.clock with _ | k
      · simp [byteTick, LState.endRx, adjOf]
        split <;> simp_all
      · cases k with
        | zero => simp [byteTick, LState.endRx, adjOf]; split <;> simp_all
        | succ k => simp [byteTick, LState.endRx, adjOf]; split <;> simp_all
    | false =>
      simp only [Bool.not_false, Bool.true_and, Bool.false_eq_true, ↓reduceIte]
      by_cases hd : (s.clock.isSome && !(push32 s.pwr o.closeOk).headD true) = true
      · simp only [hd, ↓reduceIte, endTick, LState.endRx]
      · simp only [hd]
        rcases hc : s.clock with _ | k
        · simp [endTick]
        · cases k with
          | zero => simp [byteTick, LState.endRx]; split <;> simp_all
          | succ k => simp

theorem byteTick_base (c : LCfg) (s1 : LState) (adj : Bool) (b : Byte) :
    (byteTick c s1 adj b).1.corr = s1.corr ∧ (byteTick c s1 adj b).1.pwr = s1.pwr
      ∧ (byteTick c s1 adj b).1.nsym = s1.nsym := by
  unfold byteTick
  dsimp only
  split <;> exact ⟨rfl, rfl, rfl⟩

theorem byteTick_flag (c : LCfg) (s1 : LState) (adj : Bool) (b : Byte) :
    (byteTick c s1 adj b).2.2 = some adj := by
  unfold byteTick
  dsimp only
  split <;> rfl

theorem fend_fst (f : FState) : (fend f).1 = .idle := by cases f <;> rfl

theorem byteTick_spec (c : LCfg) (s1 : LState) (adj : Bool) (b : Byte) :
    let r := finput c.fc s1.fr (if (if adj then 4 else s1.train) > 0 then PREAMBLE_BYTE else b) adj
    (byteTick c s1 adj b).2 = (r.2, some adj) ∧ (byteTick c s1 adj b).1.fr = r.1
      ∧ (byteTick c s1 adj b).1.train = (if adj then 4 else s1.train) - 1
      ∧ (byteTick c s1 adj b).1.clock
          = (match r.2 with | .reading => some 1 | .searching => some 1 | _ => none)
      ∧ (byteTick c s1 adj b).1.lock
          = (match r.2 with | .reading => true | .searching => s1.lock | _ => false) := by
  intro r
  unfold byteTick
  dsimp only
  cases r.2 <;> exact ⟨rfl, rfl, rfl, rfl, rfl⟩

theorem byteTick_noadj (c : LCfg) (s1 : LState) (b : Byte) :
    let r := finputNR c.fc s1.fr (if s1.train > 0 then PREAMBLE_BYTE else b)
    (byteTick c s1 false b).2 = (r.2, some false) ∧ (byteTick c s1 false b).1.fr = r.1
      ∧ (byteTick c s1 false b).1.train = s1.train - 1
      ∧ (byteTick c s1 false b).1.clock
          = (match r.2 with | .reading => some 1 | .searching => some 1 | _ => none)
      ∧ (byteTick c s1 false b).1.lock
          = (match r.2 with | .reading => true | .searching => s1.lock | _ => false) :=
  byteTick_spec c s1 false b

theorem preamble_prefixErrors :
    prefixErrors (((0 : UInt32) <<< 8) ||| PREAMBLE_BYTE.toUInt32) = 15 := by decide +kernel

/-- a restart with the forced preamble byte: the framer searches again, holding that byte alone
    (a prefix budget of 15 or more would accept `0xAB` itself as a prefix) -/
theorem finput_restart (fc : FCfg) (f : FState) (hp : fc.maxPrefixErr < 15)
    (hf : ∀ msg inv, f ≠ .read msg inv) :
    finput fc f PREAMBLE_BYTE true = (.search 0xAB 1, .searching) := by
  have hnr : finputNR fc (.search 0 0) PREAMBLE_BYTE = (.search 0xAB 1, .searching) := by
    simp only [finputNR]
    rw [preamble_prefixErrors, if_neg (by omega), if_neg (by decide)]
    rfl
  cases f with
  | idle => simp only [finput, fend, hnr, if_true]
  | search w n => simp only [finput, fend, hnr, if_true]
  | read msg inv => exact absurd rfl (hf msg inv)

theorem byteTick_restart (c : LCfg) (s1 : LState) (b : Byte) (hp : c.fc.maxPrefixErr < 15)
    (hf : ∀ msg inv, s1.fr ≠ .read msg inv) :
    byteTick c s1 true b
      = ({ s1 with clock := some 1, train := 3, fr := .search 0xAB 1 }, .searching, some true) := by
  unfold byteTick
  dsimp only
  rw [if_pos rfl, if_pos (by decide), finput_restart c.fc s1.fr hp hf]

/-! ### correlator, power history and symbol count do not depend on the rest of the state -/

theorem lstep_base (c : LCfg) (s : LState) (o : Obs) (b : Byte) :
    (lstep c s o b).1.corr = corrPush s.corr o.bit ∧ (lstep c s o b).1.pwr = push32 s.pwr o.closeOk
      ∧ (lstep c s o b).1.nsym = s.nsym + 1 := by
  rw [lstep_eq]
  split
  · exact ⟨rfl, rfl, rfl⟩
  · split
    · exact byteTick_base c (baseOf s o) _ b
    · split
      · exact ⟨rfl, rfl, rfl⟩
      · split
        · exact ⟨rfl, rfl, rfl⟩
        · exact byteTick_base c (baseOf s o) false b
        · exact ⟨rfl, rfl, rfl⟩

theorem lstep_corr (c : LCfg) (s : LState) (o : Obs) (b : Byte) :
    (lstep c s o b).1.corr = corrPush s.corr o.bit := (lstep_base c s o b).1

theorem lstep_pwr (c : LCfg) (s : LState) (o : Obs) (b : Byte) :
    (lstep c s o b).1.pwr = push32 s.pwr o.closeOk := (lstep_base c s o b).2.1

theorem lstep_nsym (c : LCfg) (s : LState) (o : Obs) (b : Byte) :
    (lstep c s o b).1.nsym = s.nsym + 1 := (lstep_base c s o b).2.2

theorem nsym_run (c : LCfg) (s : LState) (xs : List Tick) :
    (lrunState c s xs).nsym = s.nsym + xs.length := by
  induction xs generalizing s with
  | nil => rfl
  | cons x xs ih => simp only [lrunState, ih, lstep_nsym, List.length_cons]; omega

end SameVerif
