import SameVerif.Lemmas.LinkSync
import SameVerif.Spec.FrontEnd2
/-
  What the front-end assumptions of one burst say about each tick of `body ++ tail`: sync hits,
  power history, equalizer bytes.
-/
namespace SameVerif
open SameVerif.Spec

section
variable {pl : List Byte} {lead body tail : List Tick} {acq rel : Nat}

theorem xs_body (body tail : List Tick) (t : Nat) (h : t < body.length) :
    (body ++ tail)[t]'(by rw [List.length_append]; omega) = body[t] :=
  List.getElem_append_left h

theorem xs_tail (body tail : List Tick) (t : Nat) (h1 : body.length ≤ t) (h2 : t < (body ++ tail).length) :
    (body ++ tail)[t] = tail[t - body.length]'(by rw [List.length_append] at h2; omega) :=
  List.getElem_append_right h1

theorem Spec.NoHitAt.getElem {c : LCfg} {s : LState} {xs : List Tick} {t : Nat}
    (h : NoHitAt c s xs t) (ht : t < xs.length) : NoHit c (lrunState c s (xs.take t)) xs[t].1 :=
  h _ (List.getElem?_eq_getElem ht)

theorem noHit_tail {c : LCfg} {s1 : LState} (N : ∀ t, body.length ≤ t → NoHitAt c s1 (body ++ tail) t) (t : Nat)
    (h1 : body.length ≤ t) (h2 : t < (body ++ tail).length) :
    NoHit c (lrunState c s1 ((body ++ tail).take t)) ((body ++ tail)[t]).1 :=
  (N t h1).getElem h2

theorem open_body (H : BurstObserved' pl body tail acq rel) (t : Nat)
    (h1 : acq + 31 ≤ t) (h2 : t < body.length) :
    ((body ++ tail)[t]'(by rw [List.length_append]; omega)).1.openOk = true := by
  rw [xs_body body tail t h2]
  exact H.open_ok t h2 h1

theorem err_body (H : BurstTracked pl body tail acq rel) (c : LCfg) (s : LState) (t : Nat)
    (h1 : acq + 31 ≤ t) (h2 : t < body.length) :
    errOf (lrunState c s ((body ++ tail).take t)) ((body ++ tail)[t]'(by rw [List.length_append]; omega)).1
      = werr (frameOf pl) t := by
  rw [errOf_run c s (body ++ tail) t (by omega) (by rw [List.length_append]; omega)]
  unfold werr
  apply List.countP_congr
  intro i hi
  have hi : i < 32 := List.mem_range.mp hi
  have hm : t - 31 + i < body.length := by omega
  have hb : bitAt (body ++ tail) (t - 31 + i) = frameBit (frameOf pl) (t - 31 + i) := by
    unfold bitAt
    rw [List.getElem?_append_left hm, List.getElem?_eq_getElem hm]
    simp only [Option.map_some, Option.getD_some]
    rw [H.bits_ok _ hm (by omega), bitsOf_getD]
  rw [hb]

theorem head_true (H : BurstTracked pl body tail acq rel) (c : LCfg) (s : LState) (t : Nat)
    (h1 : acq + 31 ≤ t) (h2 : t < body.length + 31 + rel) (h3 : t < (body ++ tail).length) :
    headOf (lrunState c s ((body ++ tail).take t)) ((body ++ tail)[t]).1 = true := by
  rw [headOf_run c s (body ++ tail) t (by omega) h3]
  by_cases hb : t - 31 < body.length
  · rw [xs_body body tail _ hb]
    exact H.close_ok _ hb (by omega)
  · rw [xs_tail body tail _ (by omega) (by omega)]
    exact H.rel_hold _ _ (by omega)

theorem head_false (H : BurstTracked pl body tail acq rel) (c : LCfg) (s : LState) (t : Nat)
    (h2 : body.length + 31 + rel = t) (h3 : t < (body ++ tail).length) :
    headOf (lrunState c s ((body ++ tail).take t)) ((body ++ tail)[t]).1 = false := by
  rw [headOf_run c s (body ++ tail) t (by omega) h3]
  rw [xs_tail body tail _ (by omega) (by omega)]
  have e : t - 31 - body.length = rel := by omega
  simp only [e]
  exact H.rel_drop _

/-- the equalizer's decision at the byte tick that ends correlator byte `q` is transmitted byte `q - 3` -/
theorem eq_byte (H : BurstTracked pl body tail acq rel) (q : Nat) (h3 : 3 ≤ q)
    (hq : q - 3 < (frameOf pl).length) (hlt : 8 * q + 7 < (body ++ tail).length) :
    ((body ++ tail)[8 * q + 7]).2 = (frameOf pl).getD (q - 3) 0 := by
  have hlen := H.body_len
  by_cases hb : 8 * q + 7 < body.length
  · rw [xs_body body tail _ hb]
    have := H.eq_ok (q - 3) (by omega) (by rw [show q - 3 + 3 = q by omega]; exact hb)
    simp only [show q - 3 + 3 = q by omega] at this
    exact this
  · rw [xs_tail body tail _ (by omega) hlt]
    have hm : q - (frameOf pl).length < 3 := by omega
    have e : 8 * q + 7 - body.length = 8 * (q - (frameOf pl).length) + 7 := by omega
    have hk : 8 * (q - (frameOf pl).length) + 7 < tail.length := by
      rw [List.length_append] at hlt; omega
    have := H.eq_tail (q - (frameOf pl).length) hm hk
    have hq2 : (frameOf pl).length ≤ q := by omega
    have hfl := frame_length pl
    have e2 : (frameOf pl).length - 3 + (q - (frameOf pl).length) = q - 3 := by omega
    simp only [e]
    rw [this, e2]

end
end SameVerif
