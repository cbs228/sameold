import SameVerif.Lemmas.LinkRun
/- One tick of the link model, case by case: which state and report `lstep` gives when a sync hit
   is or is not possible, at byte ticks and between them, and when the carrier is dropped. -/
namespace SameVerif

/-- the correlator error the tick computes -/
def errOf (s : LState) (o : Obs) : Nat := popcount32 (SYNC_WORD ^^^ corrPush s.corr o.bit)
/-- the oldest power-history entry the tick looks at -/
def headOf (s : LState) (o : Obs) : Bool := (push32 s.pwr o.closeOk).headD true
/-- a sync hit is impossible at this tick -/
def NoHit (c : LCfg) (s : LState) (o : Obs) : Prop :=
  s.lock = true ∨ o.openOk = false ∨ c.maxErrors < errOf s o

theorem hitOf_eq (c : LCfg) (s : LState) (o : Obs) :
    hitOf c s o = (!s.lock && decide (errOf s o ≤ c.maxErrors) && o.openOk) := rfl

theorem hitOf_true_iff (c : LCfg) (s : LState) (o : Obs) :
    hitOf c s o = true ↔ s.lock = false ∧ errOf s o ≤ c.maxErrors ∧ o.openOk = true := by
  rw [hitOf_eq]
  simp only [Bool.and_eq_true, Bool.not_eq_true', decide_eq_true_eq, and_assoc]

theorem hitOf_false_iff (c : LCfg) (s : LState) (o : Obs) : hitOf c s o = false ↔ NoHit c s o := by
  rw [hitOf_eq]
  unfold NoHit
  cases s.lock <;> cases o.openOk <;> simp

/-! ### `lstep` by cases: four equations that between them cover every tick -/

section
variable (c : LCfg) (s : LState) (o : Obs) (b : Byte)

theorem lstep_warm (h : s.nsym + 1 < 32) : lstep c s o b = endTick (baseOf s o) := by
  rw [lstep_eq, if_pos h]

theorem lstep_hit (h1 : 31 ≤ s.nsym) (hh : hitOf c s o = true) :
    lstep c s o b = byteTick c (baseOf s o) (adjOf s.clock) b := by
  rw [lstep_eq, if_neg (by omega), if_pos hh]

theorem lstep_dropped (h1 : 31 ≤ s.nsym) (hno : NoHit c s o) (hc : s.clock.isSome = true)
    (hd : headOf s o = false) : lstep c s o b = endTick (baseOf s o).endRx := by
  have hdr : droppedOf c s o = true := by
    unfold droppedOf
    rw [(hitOf_false_iff c s o).2 hno, hc, ← headOf, hd]
    rfl
  rw [lstep_eq, if_neg (by omega), (hitOf_false_iff c s o).2 hno, if_neg Bool.false_ne_true,
    if_pos hdr]

theorem lstep_held (h1 : 31 ≤ s.nsym) (hno : NoHit c s o)
    (hd : s.clock = none ∨ headOf s o = true) :
    lstep c s o b = match s.clock with
      | none => endTick (baseOf s o)
      | some 0 => byteTick c (baseOf s o) false b
      | some (k + 1) => ({ baseOf s o with clock := some ((k + 2) % 8) }, fstate s.fr, none) := by
  have hdr : droppedOf c s o = false := by
    unfold droppedOf
    rw [← headOf]
    rcases hd with hd | hd
    · rw [hd]; simp
    · rw [hd]; simp
  rw [lstep_eq, if_neg (by omega), (hitOf_false_iff c s o).2 hno, if_neg Bool.false_ne_true, hdr,
    if_neg Bool.false_ne_true]
  rfl

/-! ### the same, field by field -/

theorem lstep_quiet (h1 : 31 ≤ s.nsym) (hc : s.clock = none) (hf : s.fr = .idle)
    (hno : NoHit c s o) :
    (lstep c s o b).2.1 = .noCarrier ∧ (lstep c s o b).1.clock = none
      ∧ (lstep c s o b).1.lock = s.lock ∧ (lstep c s o b).1.fr = .idle
      ∧ (lstep c s o b).1.train = s.train := by
  rw [lstep_held c s o b h1 hno (Or.inl hc), hc]
  exact ⟨congrArg (fun f => (fend f).2) hf, hc, rfl, fend_fst _, rfl⟩

theorem lstep_adjust (h1 : 31 ≤ s.nsym) (hc : s.clock ≠ some 0)
    (hf : ∀ msg inv, s.fr ≠ .read msg inv) (hh : hitOf c s o = true)
    (hp : c.fc.maxPrefixErr < 15) :
    (lstep c s o b).2.1 = .searching ∧ (lstep c s o b).1.clock = some 1
      ∧ (lstep c s o b).1.lock = false ∧ (lstep c s o b).1.fr = .search 0xAB 1
      ∧ (lstep c s o b).1.train = 3 := by
  have ha : adjOf s.clock = true := by
    unfold adjOf
    split
    · next h => exact absurd h hc
    · rfl
  rw [lstep_hit c s o b h1 hh, ha, byteTick_restart c (baseOf s o) b hp hf]
  exact ⟨rfl, rfl, ((hitOf_true_iff c s o).1 hh).1, rfl, rfl⟩

theorem lstep_tick (k : Nat) (h1 : 31 ≤ s.nsym) (hc : s.clock = some k) (hk : 1 ≤ k)
    (hno : NoHit c s o) (hh : headOf s o = true) :
    (lstep c s o b).2.1 = fstate s.fr ∧ (lstep c s o b).1.clock = some ((k + 1) % 8)
      ∧ (lstep c s o b).1.lock = s.lock ∧ (lstep c s o b).1.fr = s.fr
      ∧ (lstep c s o b).1.train = s.train := by
  obtain ⟨k', rfl⟩ : ∃ k', k = k' + 1 := ⟨k - 1, by omega⟩
  rw [lstep_held c s o b h1 hno (Or.inr hh), hc]
  exact ⟨rfl, rfl, rfl, rfl, rfl⟩

theorem lstep_drop (k : Nat) (h1 : 31 ≤ s.nsym) (hc : s.clock = some k) (hno : NoHit c s o)
    (hh : headOf s o = false) :
    (lstep c s o b).2.1 = (fend s.fr).2 ∧ (lstep c s o b).1.clock = none
      ∧ (lstep c s o b).1.lock = false ∧ (lstep c s o b).1.fr = (fend s.fr).1 := by
  rw [lstep_dropped c s o b h1 hno (by rw [hc]; rfl) hh]
  exact ⟨rfl, rfl, rfl, rfl⟩

/-- a byte tick that is not a resynchronisation; with a hit the power history is not looked at -/
theorem lstep_byte (h1 : 31 ≤ s.nsym) (hc : s.clock = some 0)
    (hh : hitOf c s o = true ∨ headOf s o = true) :
    let byte := if s.train > 0 then PREAMBLE_BYTE else b
    let r := finputNR c.fc s.fr byte
    (lstep c s o b).2.1 = r.2 ∧ (lstep c s o b).1.fr = r.1
      ∧ (lstep c s o b).1.train = s.train - 1
      ∧ (lstep c s o b).1.clock = (match r.2 with | .reading => some 1 | .searching => some 1 | _ => none)
      ∧ (lstep c s o b).1.lock = (match r.2 with | .reading => true | .searching => s.lock | _ => false) := by
  intro byte r
  have e : lstep c s o b = byteTick c (baseOf s o) false b := by
    cases hhit : hitOf c s o with
    | true => rw [lstep_hit c s o b h1 hhit, hc]; rfl
    | false =>
      have hhd : headOf s o = true := by
        rcases hh with h | h
        · rw [hhit] at h; cases h
        · exact h
      rw [lstep_held c s o b h1 ((hitOf_false_iff c s o).1 hhit) (Or.inr hhd), hc]
  rw [e]
  obtain ⟨p1, p2⟩ := byteTick_noadj c (baseOf s o) b
  exact ⟨congrArg Prod.fst p1, p2⟩

end

theorem finputNR_noCarrier_idle (c : FCfg) (f : FState) (data : Byte)
    (h : (finputNR c f data).2 = .noCarrier) : (finputNR c f data).1 = .idle := by
  cases f with
  | idle => rfl
  | search w n =>
    simp only [finputNR] at h ⊢
    split at h
    · cases h
    · split at h
      · rename_i h1 h2; rw [if_neg h1, if_pos h2]
      · cases h
  | read msg inv =>
    exfalso
    simp only [finputNR] at h
    repeat' split at h
    all_goals simp at h

theorem finput_noCarrier_idle (c : FCfg) (f : FState) (data : Byte) (adj : Bool)
    (h : (finput c f data adj).2 = .noCarrier) : (finput c f data adj).1 = .idle := by
  cases adj with
  | true =>
    exfalso
    cases f <;> simp [finput, fend] at h
  | false =>
    exact finputNR_noCarrier_idle c f data h

theorem lstep_noCarrier_idle (c : LCfg) (s : LState) (o : Obs) (b : Byte) :
    (lstep c s o b).2.1 = .noCarrier → (lstep c s o b).1.fr = .idle := by
  unfold lstep
  dsimp only
  generalize ((if o.bit = true then (1 : UInt32) else 0) <<< 31) = bitv
  generalize (!s.lock && decide (popcount32 (SYNC_WORD ^^^ (s.corr >>> 1 ||| bitv)) ≤ c.maxErrors) && o.openOk) = hit
  by_cases hw : s.nsym + 1 < 32
  · simp only [hw, ↓reduceIte]
    intro _
    exact fend_fst _
  · simp only [hw, ↓reduceIte]
    generalize (!hit && s.clock.isSome && !(push32 s.pwr o.closeOk).headD true) = dr
    cases dr with
    | true =>
      simp only [↓reduceIte]
      intro _
      exact fend_fst _
    | false =>
      simp only [Bool.false_eq_true, ↓reduceIte]
      generalize (if hit = true then
          match s.clock with
          | none => (some 0, true)
          | some 0 => (some 0, false)
          | some _ => (some 0, true)
        else (s.clock, false)) = ca
      obtain ⟨clk, adj⟩ := ca
      dsimp only
      rcases clk with _ | k
      · dsimp only
        intro _
        exact fend_fst _
      · cases k with
        | zero =>
          generalize (if (if adj = true then 4 else s.train) > 0 then PREAMBLE_BYTE else b) = byte
          have key := finput_noCarrier_idle c.fc s.fr byte adj
          generalize finput c.fc s.fr byte adj = r at key ⊢
          obtain ⟨fr, ls⟩ := r
          cases ls with
          | noCarrier => intro _; exact key rfl
          | searching => intro h; cases h
          | reading => intro h; cases h
          | burst m => intro h; cases h
        | succ k =>
          intro h
          cases hf : s.fr <;> rw [hf] at h <;> first | rfl | cases h

end SameVerif
