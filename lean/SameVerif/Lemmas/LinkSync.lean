import SameVerif.Lemmas.LinkBits
import SameVerif.Lemmas.Bits
/-
  Sync-word errors of the 32-bit windows over the transmitted frame `AB×16 ++ payload`:
  aligned preamble windows match, misaligned preamble windows are 8 or 24 away,
  and no misaligned window that ends before the squelch locks is within 6 errors.
-/
namespace SameVerif
open SameVerif.Spec

def sel5 (a b c d e : Byte) : Nat → Byte
  | 0 => a | 1 => b | 2 => c | 3 => d | _ => e

/-- error of the window that starts `ρ` bits into byte `a` of five consecutive bytes -/
def W5 (a b c d e : Byte) (ρ : Nat) : Nat :=
  (List.range 32).countP (fun i =>
    SYNC_WORD.toBitVec.getLsbD i != bitOf (sel5 a b c d e ((ρ + i) / 8)) ((ρ + i) % 8))

/-- the share of byte `x`, sitting at position `k` of the five, in that error -/
def part (x : Byte) (ρ k : Nat) : Nat :=
  (List.range 32).countP (fun i =>
    (ρ + i) / 8 == k && (SYNC_WORD.toBitVec.getLsbD i != bitOf x ((ρ + i) % 8)))

theorem countP_split5 (cls : Nat → Nat) (f : Nat → Nat → Bool) (l : List Nat)
    (h : ∀ i ∈ l, cls i < 5) :
    l.countP (fun i => f (cls i) i)
      = l.countP (fun i => cls i == 0 && f 0 i) + l.countP (fun i => cls i == 1 && f 1 i)
        + l.countP (fun i => cls i == 2 && f 2 i) + l.countP (fun i => cls i == 3 && f 3 i)
        + l.countP (fun i => cls i == 4 && f 4 i) := by
  induction l with
  | nil => simp
  | cons x l ih =>
    have hx := h x List.mem_cons_self
    have ih' := ih (fun i hi => h i (List.mem_cons_of_mem _ hi))
    simp only [List.countP_cons]
    rw [ih']
    have : cls x = 0 ∨ cls x = 1 ∨ cls x = 2 ∨ cls x = 3 ∨ cls x = 4 := by omega
    rcases this with e | e | e | e | e <;> simp [e] <;> omega

theorem W5_eq_parts (a b c d e : Byte) (ρ : Nat) (hρ : ρ ≤ 7) :
    W5 a b c d e ρ = part a ρ 0 + part b ρ 1 + part c ρ 2 + part d ρ 3 + part e ρ 4 := by
  unfold W5
  rw [countP_split5 (fun i => (ρ + i) / 8)
    (fun k i => SYNC_WORD.toBitVec.getLsbD i != bitOf (sel5 a b c d e k) ((ρ + i) % 8))]
  · rfl
  · intro i hi
    have : i < 32 := List.mem_range.mp hi
    show (ρ + i) / 8 < 5
    omega

theorem sel5_getD (T : List Byte) (p k : Nat) (hk : k ≤ 4) :
    sel5 (T.getD p 0) (T.getD (p + 1) 0) (T.getD (p + 2) 0) (T.getD (p + 3) 0) (T.getD (p + 4) 0) k
      = T.getD (p + k) 0 := by
  have : k = 0 ∨ k = 1 ∨ k = 2 ∨ k = 3 ∨ k = 4 := by omega
  rcases this with rfl | rfl | rfl | rfl | rfl <;> rfl

theorem werr_eq_W5 (T : List Byte) (j : Nat) (hj : 31 ≤ j) :
    werr T j = W5 (T.getD ((j - 31) / 8) 0) (T.getD ((j - 31) / 8 + 1) 0) (T.getD ((j - 31) / 8 + 2) 0)
      (T.getD ((j - 31) / 8 + 3) 0) (T.getD ((j - 31) / 8 + 4) 0) ((j - 31) % 8) := by
  unfold werr W5
  apply List.countP_congr
  intro i hi
  have hi : i < 32 := List.mem_range.mp hi
  have hk : ((j - 31) % 8 + i) / 8 ≤ 4 := by omega
  rw [sel5_getD T _ _ hk]
  have e1 : (j - 31 + i) / 8 = (j - 31) / 8 + ((j - 31) % 8 + i) / 8 := by omega
  have e2 : (j - 31 + i) % 8 = ((j - 31) % 8 + i) % 8 := by omega
  unfold frameBit
  rw [e1, e2]

theorem frame_getD_lt (pl : List Byte) (q : Nat) (hq : q < 16) : (frameOf pl).getD q 0 = 0xAB := by
  unfold frameOf
  rw [List.getD_eq_getElem?_getD, List.getElem?_append_left (by simpa using hq), List.getElem?_replicate]
  simp [hq]

theorem frame_getD_ge (pl : List Byte) (q : Nat) (hq : 16 ≤ q) :
    (frameOf pl).getD q 0 = pl.getD (q - 16) 0 := by
  unfold frameOf
  rw [List.getD_eq_getElem?_getD, List.getElem?_append_right (by simpa using hq), List.getD_eq_getElem?_getD]
  simp

theorem frame_getD (pl : List Byte) (q : Nat) :
    (frameOf pl).getD q 0 = if q < 16 then 0xAB else pl.getD (q - 16) 0 := by
  split
  · next h => exact frame_getD_lt pl q h
  · next h => exact frame_getD_ge pl q (by omega)

theorem frame_length (pl : List Byte) : (frameOf pl).length = 16 + pl.length := by
  unfold frameOf
  rw [List.length_append, List.length_replicate]

/-! ### evaluated facts -/

theorem all7 {P : Nat → Bool} (h : (List.range 7).all (fun r => P (r + 1)) = true) :
    ∀ ρ, 1 ≤ ρ → ρ ≤ 7 → P ρ = true := by
  intro ρ h1 h7
  have := List.all_eq_true.mp h (ρ - 1) (List.mem_range.mpr (by omega))
  rwa [show ρ - 1 + 1 = ρ by omega] at this

/-- minimum share of an allowed byte at position 3, by bit offset -/
def tbl3 : Nat → Nat
  | 2 => 1 | 4 => 2 | 6 => 1 | 7 => 1 | _ => 0

def fixedOK (a b c d e : Byte) : Bool := (List.range 7).all (fun r => decide (6 < W5 a b c d e (r + 1)))
def fixed4OK (a b c d : Byte) : Bool :=
  (List.range 7).all (fun r => decide (6 < part a (r + 1) 0 + part b (r + 1) 1 + part c (r + 1) 2 + part d (r + 1) 3))
def fixed3OK (a b c : Byte) : Bool :=
  (List.range 7).all (fun r => decide (6 < part a (r + 1) 0 + part b (r + 1) 1 + part c (r + 1) 2 + tbl3 (r + 1)))

theorem tbl3_le : ∀ x : Byte, isAllowed x = true → ∀ ρ, 1 ≤ ρ → ρ ≤ 7 → tbl3 ρ ≤ part x ρ 3 := by
  have := forall_byte
    (fun x => !isAllowed x || (List.range 7).all (fun r => decide (tbl3 (r + 1) ≤ part x (r + 1) 3)))
    (by decide +kernel)
  intro x hx ρ h1 h7
  have h := this x
  simp only [hx, Bool.not_true, Bool.false_or] at h
  have := all7 (P := fun ρ => decide (tbl3 ρ ≤ part x ρ 3)) h ρ h1 h7
  simpa using this

theorem preamble_windows :
    (List.range 8).map (fun ρ => W5 0xAB 0xAB 0xAB 0xAB 0xAB ρ) = [0, 24, 8, 24, 8, 24, 8, 24] := by
  decide +kernel

theorem fixedZ : fixedOK 0xAB 0xAB 0xAB 0xAB 90 = true ∧ fixedOK 0xAB 0xAB 0xAB 90 67 = true
    ∧ fixedOK 0xAB 0xAB 90 67 90 = true ∧ fixedOK 0xAB 90 67 90 67 = true
    ∧ fixedOK 90 67 90 67 45 = true ∧ fixed4OK 67 90 67 45 = true ∧ fixed3OK 90 67 45 = true := by
  decide +kernel

theorem fixedN : fixedOK 0xAB 0xAB 0xAB 0xAB 78 = true ∧ fixedOK 0xAB 0xAB 0xAB 78 78 = true
    ∧ fixedOK 0xAB 0xAB 78 78 78 = true ∧ fixedOK 0xAB 78 78 78 78 = true
    ∧ fixedOK 78 78 78 78 45 = true ∧ fixed4OK 78 78 78 45 = true ∧ fixed3OK 78 78 45 = true := by
  decide +kernel

theorem fixedOK_elim {a b c d e : Byte} (h : fixedOK a b c d e = true) (ρ : Nat) (h1 : 1 ≤ ρ) (h7 : ρ ≤ 7) :
    6 < W5 a b c d e ρ := by
  have := all7 (P := fun ρ => decide (6 < W5 a b c d e ρ)) h ρ h1 h7
  simpa using this

theorem fixed4OK_elim {a b c d : Byte} (h : fixed4OK a b c d = true) (e : Byte) (ρ : Nat) (h1 : 1 ≤ ρ) (h7 : ρ ≤ 7) :
    6 < W5 a b c d e ρ := by
  have := all7 (P := fun ρ => decide (6 < part a ρ 0 + part b ρ 1 + part c ρ 2 + part d ρ 3)) h ρ h1 h7
  have h' : 6 < part a ρ 0 + part b ρ 1 + part c ρ 2 + part d ρ 3 := by simpa using this
  rw [W5_eq_parts _ _ _ _ _ _ h7]
  omega

theorem fixed3OK_elim {a b c : Byte} (h : fixed3OK a b c = true) (d e : Byte) (hd : isAllowed d = true)
    (ρ : Nat) (h1 : 1 ≤ ρ) (h7 : ρ ≤ 7) : 6 < W5 a b c d e ρ := by
  have := all7 (P := fun ρ => decide (6 < part a ρ 0 + part b ρ 1 + part c ρ 2 + tbl3 ρ)) h ρ h1 h7
  have h' : 6 < part a ρ 0 + part b ρ 1 + part c ρ 2 + tbl3 ρ := by simpa using this
  have := tbl3_le d hd ρ h1 h7
  rw [W5_eq_parts _ _ _ _ _ _ h7]
  omega

theorem W5_preamble (ρ : Nat) (h : ρ < 8) :
    W5 0xAB 0xAB 0xAB 0xAB 0xAB ρ = if ρ = 0 then 0 else if ρ % 2 = 1 then 24 else 8 := by
  have hρ : ρ = 0 ∨ ρ = 1 ∨ ρ = 2 ∨ ρ = 3 ∨ ρ = 4 ∨ ρ = 5 ∨ ρ = 6 ∨ ρ = 7 := by omega
  -- entry `ρ` of the table `preamble_windows`
  have ht := congrArg (fun l => l[ρ]?) preamble_windows
  simp only [List.getElem?_map, List.getElem?_range h, Option.map_some] at ht
  rcases hρ with rfl | rfl | rfl | rfl | rfl | rfl | rfl | rfl <;> exact Option.some.inj ht

theorem W5_aligned (a b c d e e' : Byte) : W5 a b c d e 0 = W5 a b c d e' 0 := by
  unfold W5
  apply List.countP_congr
  intro i hi
  have hi : i < 32 := List.mem_range.mp hi
  have h : (0 + i) / 8 = 0 ∨ (0 + i) / 8 = 1 ∨ (0 + i) / 8 = 2 ∨ (0 + i) / 8 = 3 := by omega
  rcases h with h | h | h | h <;> rw [h] <;> rfl

theorem preamble_aligned_any (x : Byte) : W5 0xAB 0xAB 0xAB 0xAB x 0 = 0 := by
  rw [W5_aligned _ _ _ _ x 0xAB, W5_preamble 0 (by omega)]
  rfl

theorem werr_preamble_aligned (pl : List Byte) (j : Nat) (h31 : 31 ≤ j) (h : j ≤ 127) (ha : j % 8 = 7) :
    werr (frameOf pl) j = 0 := by
  rw [werr_eq_W5 _ _ h31]
  have hρ : (j - 31) % 8 = 0 := by omega
  have hp : (j - 31) / 8 ≤ 12 := by omega
  rw [hρ, frame_getD_lt pl _ (by omega), frame_getD_lt pl _ (by omega), frame_getD_lt pl _ (by omega),
    frame_getD_lt pl _ (by omega)]
  exact preamble_aligned_any _

theorem werr_preamble_misaligned (pl : List Byte) (j : Nat) (h31 : 31 ≤ j) (h : j ≤ 126) (ha : j % 8 ≠ 7) :
    8 ≤ werr (frameOf pl) j := by
  rw [werr_eq_W5 _ _ h31]
  have hρ : (j - 31) % 8 ≠ 0 := by omega
  have hp : (j - 31) / 8 ≤ 11 := by omega
  rw [frame_getD_lt pl _ (by omega), frame_getD_lt pl _ (by omega), frame_getD_lt pl _ (by omega),
    frame_getD_lt pl _ (by omega), frame_getD_lt pl _ (by omega), W5_preamble _ (by omega), if_neg hρ]
  split <;> omega

theorem getD_of_take4 {pl : List Byte} {a b c d : Byte} (h : pl.take 4 = [a, b, c, d]) :
    pl.getD 0 0 = a ∧ pl.getD 1 0 = b ∧ pl.getD 2 0 = c ∧ pl.getD 3 0 = d := by
  have h0 := congrArg (fun l => l[0]?) h
  have h1 := congrArg (fun l => l[1]?) h
  have h2 := congrArg (fun l => l[2]?) h
  have h3 := congrArg (fun l => l[3]?) h
  simp at h0 h1 h2 h3
  simp [List.getD_eq_getElem?_getD, h0, h1, h2, h3]

theorem getD_mem_allowed {pl : List Byte} (hall : ∀ b ∈ pl, isAllowed b = true) (k : Nat) (hk : k < pl.length) :
    isAllowed (pl.getD k 0) = true := by
  rw [List.getD_eq_getElem?_getD, List.getElem?_eq_getElem hk]
  exact hall _ (List.getElem_mem hk)

theorem werr_payload_misaligned_of (pl : List Byte) (a b c d : Byte) (hs : pl.take 4 = [a, b, c, d])
    (hfix : fixedOK 0xAB 0xAB 0xAB 0xAB a = true ∧ fixedOK 0xAB 0xAB 0xAB a b = true
      ∧ fixedOK 0xAB 0xAB a b c = true ∧ fixedOK 0xAB a b c d = true
      ∧ fixedOK a b c d 45 = true ∧ fixed4OK b c d 45 = true ∧ fixed3OK c d 45 = true)
    (hall : ∀ b ∈ pl, isAllowed b = true)
    (hdash : ∀ h : 4 < pl.length, pl[4] = 45) (j : Nat) (h128 : 128 ≤ j) (h182 : j ≤ 182)
    (hn : j < 8 * (frameOf pl).length) (ha : j % 8 ≠ 7) : 6 < werr (frameOf pl) j := by
  rw [werr_eq_W5 _ _ (by omega)]
  rw [frame_length] at hn
  have hρ1 : 1 ≤ (j - 31) % 8 := by omega
  have hρ7 : (j - 31) % 8 ≤ 7 := by omega
  generalize hρ : (j - 31) % 8 = ρ at hρ1 hρ7
  have hp : (j - 31) / 8 = 12 ∨ (j - 31) / 8 = 13 ∨ (j - 31) / 8 = 14 ∨ (j - 31) / 8 = 15
      ∨ (j - 31) / 8 = 16 ∨ (j - 31) / 8 = 17 ∨ (j - 31) / 8 = 18 := by omega
  have hlen : (j - 31) / 8 - 12 < pl.length := by omega
  have g4 : 4 < pl.length → pl.getD 4 0 = 45 := by
    intro h
    rw [List.getD_eq_getElem?_getD, List.getElem?_eq_getElem h]
    simp [hdash h]
  obtain ⟨g0, g1, g2, g3⟩ := getD_of_take4 hs
  obtain ⟨f12, f13, f14, f15, f16, f17, f18⟩ := hfix
  -- the five bytes under the window, by the byte it starts in
  rcases hp with e | e | e | e | e | e | e <;> rw [e] at hlen ⊢ <;>
    simp only [frame_getD, Nat.reduceAdd, Nat.reduceLT, Nat.reduceSub, ↓reduceIte, g0, g1, g2, g3]
  · exact fixedOK_elim f12 ρ hρ1 hρ7
  · exact fixedOK_elim f13 ρ hρ1 hρ7
  · exact fixedOK_elim f14 ρ hρ1 hρ7
  · exact fixedOK_elim f15 ρ hρ1 hρ7
  · rw [g4 (by omega)]
    exact fixedOK_elim f16 ρ hρ1 hρ7
  · rw [g4 (by omega)]
    exact fixed4OK_elim f17 _ ρ hρ1 hρ7
  · rw [g4 (by omega)]
    exact fixed3OK_elim f18 _ _ (getD_mem_allowed hall 5 (by omega)) ρ hρ1 hρ7

/-- **no false resynchronisation**: every misaligned window that ends after the preamble and before the
    squelch can be locked (bit 183) is more than 6 errors away from the sync word -/
theorem werr_payload_misaligned (pl : List Byte) (hok : PayloadOk pl)
    (hdash : ∀ h : 4 < pl.length, pl[4] = 45) (j : Nat) (h128 : 128 ≤ j) (h182 : j ≤ 182)
    (hn : j < 8 * (frameOf pl).length) (ha : j % 8 ≠ 7) : 6 < werr (frameOf pl) j := by
  rcases hok.starts with hs | hs
  · exact werr_payload_misaligned_of pl _ _ _ _ hs fixedZ hok.allowed hdash j h128 h182 hn ha
  · exact werr_payload_misaligned_of pl _ _ _ _ hs fixedN hok.allowed hdash j h128 h182 hn ha

end SameVerif
