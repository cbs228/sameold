import SameVerif.Model.ReceiverRun
import SameVerif.Thm.C08
/-
  The receiver tick in closed form (`transportLayer` = `tlCore` + `forceAfter`, `rTick` = `rNext` +
  `linkEv` ++ `trEv`), the `PartialEq` model is equality, what the assembler can answer, the
  receiver invariant `RInv` and its preservation along runs, one NoCarrier tick while a result is
  pending.  Everything stated about `rTick` / `rRun` (C04rx, C08rx, C09, C14, the whole-receiver
  transfer) starts here.
-/
namespace SameVerif
open SameVerif.C08

theorem DecodeErr.beq'_iff (a b : DecodeErr) : a.beq' b = true ↔ a = b := by
  cases a <;> cases b <;> simp [DecodeErr.beq']

theorem MsgResult.beq'_iff (a b : MsgResult) : MsgResult.beq' a b = true ↔ a = b := by
  cases a <;> cases b <;> simp [MsgResult.beq', DecodeErr.beq'_iff]

theorem Transport.beq'_iff (a b : Transport) : a.beq' b = true ↔ a = b := by
  cases a <;> cases b <;> simp [Transport.beq', MsgResult.beq'_iff]

theorem Transport.beq'_false_iff (a b : Transport) : a.beq' b = false ↔ a ≠ b := by
  rw [← Bool.not_eq_true, Transport.beq'_iff]

/-- the assembler part of `process_transportlayer` (does not depend on `rate`) -/
def tlCore (s : RState) (sample sym : Nat) (ls : LinkSt) : AState × Option Transport :=
  match ls with
  | .burst b => let (a, t) := aAssemble s.asm b sym; (a, some t)
  | .noCarrier =>
    match s.forceEomAt with
    | some timeout =>
      if sample > timeout then (s.asm, some (.message (.ok .eom)))
      else let (a, t) := aIdle s.asm sym; (a, some t)
    | none => let (a, t) := aIdle s.asm sym; (a, some t)
  | _ => (s.asm, none)

/-- the timer update of `process_transportlayer` -/
def forceAfter (rate sample : Nat) (old : Option Nat) (out : Option Transport) : Option Nat :=
  match out with
  | some (.message (.ok (.som _))) => some (sample + Gen.MAX_MESSAGE_DURATION_SECS * rate)
  | some (.message (.ok .eom)) => none
  | _ => old

theorem transportLayer_eq (rate : Nat) (s : RState) (sample sym : Nat) (ls : LinkSt) :
    transportLayer rate s sample sym ls
      = ({ s with asm := (tlCore s sample sym ls).1,
                  forceEomAt := forceAfter rate sample s.forceEomAt (tlCore s sample sym ls).2 },
         (tlCore s sample sym ls).2) := by
  cases ls <;> rfl

/-- is this tick a forced end-of-message? -/
def Forced (s : RState) (sample : Nat) (ls : LinkSt) : Prop :=
  ls = .noCarrier ∧ ∃ T, s.forceEomAt = some T ∧ sample > T

theorem tlCore_carrier (s : RState) (sample sym : Nat) (ls : LinkSt)
    (hls : ls = .searching ∨ ls = .reading) : tlCore s sample sym ls = (s.asm, none) := by
  rcases hls with rfl | rfl <;> rfl

theorem tlCore_forced (s : RState) (sample sym T : Nat) (hT : s.forceEomAt = some T) (hlate : sample > T) :
    tlCore s sample sym .noCarrier = (s.asm, some (.message (.ok .eom))) := by
  simp [tlCore, hT, hlate]

theorem tlCore_poll (s : RState) (sample sym : Nat) (hnf : ¬ Forced s sample .noCarrier) :
    tlCore s sample sym .noCarrier = ((aIdle s.asm sym).1, some (aIdle s.asm sym).2) := by
  cases hf : s.forceEomAt with
  | none => simp [tlCore, hf]
  | some T =>
    have hT : ¬ sample > T := fun h => hnf ⟨rfl, T, hf, h⟩
    simp [tlCore, hf, hT]

theorem tlCore_cases (s : RState) (sample sym : Nat) (ls : LinkSt) :
    (tlCore s sample sym ls = (s.asm, none) ∧ ls ≠ .noCarrier)
    ∨ (Forced s sample ls ∧ tlCore s sample sym ls = (s.asm, some (.message (.ok .eom))))
    ∨ (¬ Forced s sample ls ∧
        ((ls = .noCarrier ∧ tlCore s sample sym ls = ((aIdle s.asm sym).1, some (aIdle s.asm sym).2))
         ∨ ∃ b, ls = .burst b ∧ tlCore s sample sym ls = ((aAssemble s.asm b sym).1, some (aAssemble s.asm b sym).2))) := by
  cases ls with
  | searching => exact Or.inl ⟨rfl, by simp⟩
  | reading => exact Or.inl ⟨rfl, by simp⟩
  | burst b => exact Or.inr (Or.inr ⟨by simp [Forced], Or.inr ⟨b, rfl, rfl⟩⟩)
  | noCarrier =>
    by_cases hf : Forced s sample .noCarrier
    · have ⟨_, T, hT, hlate⟩ := hf
      exact Or.inr (Or.inl ⟨hf, tlCore_forced s sample sym T hT hlate⟩)
    · exact Or.inr (Or.inr ⟨hf, Or.inl ⟨rfl, tlCore_poll s sample sym hf⟩⟩)

/-- an output that leaves the end-of-message timer alone: neither StartOfMessage nor EndOfMessage
    (in `RxProv` with its users; defined here because `forceAfter_cases` speaks of it) -/
def RxProv.TimerQuiet (o : Option Transport) : Prop :=
  o ≠ some (.message (.ok .eom)) ∧ ∀ h, o ≠ some (.message (.ok (.som h)))

theorem forceAfter_cases (rate sample : Nat) (old : Option Nat) (out : Option Transport) :
    (∃ h, out = some (.message (.ok (.som h)))
        ∧ forceAfter rate sample old out = some (sample + Gen.MAX_MESSAGE_DURATION_SECS * rate))
    ∨ (out = some (.message (.ok .eom)) ∧ forceAfter rate sample old out = none)
    ∨ (RxProv.TimerQuiet out ∧ forceAfter rate sample old out = old) := by
  unfold forceAfter
  split
  · left; exact ⟨_, rfl, rfl⟩
  · right; left; exact ⟨rfl, rfl⟩
  · right; right
    rename_i h1 h2
    exact ⟨⟨fun h => h2 h, fun h hh => h1 h hh⟩, rfl⟩

def linkEv (s : RState) (sample : Nat) (ls : LinkSt) : List Event :=
  if ls != s.linkState then [Event.link sample ls] else []

def trEv (s : RState) (sample : Nat) (out : Option Transport) : List Event :=
  match out with
  | some t => if t.beq' s.transportState then [] else [Event.transport sample t]
  | none => []

def rNext (rate : Nat) (s : RState) (sample sym : Nat) (ls : LinkSt) : RState :=
  { asm := (tlCore s sample sym ls).1
    linkState := ls
    transportState := match (tlCore s sample sym ls).2 with
      | some t => t
      | none => s.transportState
    forceEomAt := forceAfter rate sample s.forceEomAt (tlCore s sample sym ls).2 }

theorem rTick_eq (rate : Nat) (s : RState) (sample sym : Nat) (ls : LinkSt) :
    rTick rate s sample sym ls
      = (rNext rate s sample sym ls, linkEv s sample ls ++ trEv s sample (tlCore s sample sym ls).2) := by
  have hcore : ∀ l, tlCore { s with linkState := l } sample sym ls = tlCore s sample sym ls := by
    intro l; cases ls <;> rfl
  have hfirst : (if (ls != s.linkState) = true then (({ s with linkState := ls } : RState), [Event.link sample ls])
        else (s, []))
      = (({ s with linkState := ls } : RState), linkEv s sample ls) := by
    cases s with
    | mk a l t f =>
      by_cases hl : ls = l
      · subst hl; simp [linkEv]
      · simp [linkEv, hl]
  unfold rTick
  rw [hfirst]
  simp only [transportLayer_eq, hcore]
  unfold rNext
  generalize tlCore s sample sym ls = c
  obtain ⟨a, out⟩ := c
  cases out with
  | none => simp [trEv]
  | some t =>
    simp only [trEv]
    by_cases hb : t.beq' s.transportState = true
    · have := (Transport.beq'_iff _ _).1 hb
      subst this
      simp [hb]
    · simp [hb]

theorem rTick_asm (rate : Nat) (s : RState) (sample sym : Nat) (ls : LinkSt) :
    (rTick rate s sample sym ls).1.asm = (tlCore s sample sym ls).1 := by
  rw [rTick_eq]; rfl

theorem rTick_force (rate : Nat) (s : RState) (sample sym : Nat) (ls : LinkSt) :
    (rTick rate s sample sym ls).1.forceEomAt = forceAfter rate sample s.forceEomAt (tlCore s sample sym ls).2 := by
  rw [rTick_eq]; rfl

theorem rTick_transportState (rate : Nat) (s : RState) (sample sym : Nat) (ls : LinkSt) :
    (rTick rate s sample sym ls).1.transportState
      = match (tlCore s sample sym ls).2 with
        | some t => t
        | none => s.transportState := by
  rw [rTick_eq]; rfl

theorem rTick_out (rate : Nat) (s : RState) (sample sym : Nat) (ls : LinkSt) :
    (rTick rate s sample sym ls).2 = linkEv s sample ls ++ trEv s sample (tlCore s sample sym ls).2 := by
  rw [rTick_eq]

/-! ### what the assembler can answer -/

theorem aIdle_cases (a : AState) (now : Nat) :
    (∃ t, a.pending = some t ∧ t.deadline ≤ now ∧ (aIdle a now).2 = .message t.data
        ∧ (aIdle a now).1.pending = none)
    ∨ ((aIdle a now).1.pending = a.pending ∧ ((aIdle a now).2 = .idle ∨ (aIdle a now).2 = .assembling)
        ∧ ∀ t, a.pending = some t → now < t.deadline) := by
  cases hp : a.pending with
  | none =>
    right
    refine ⟨?_, ?_, by simp⟩
    · rw [idle_pending, hp]; rfl
    · unfold aIdle poll
      simp only [hp]
      split <;> simp
  | some t =>
    by_cases hd : t.deadline ≤ now
    · left
      exact ⟨t, rfl, hd, due_is_released a t now hp hd⟩
    · right
      have hk := not_due_is_kept a t now hp (by omega)
      refine ⟨hk.1, ?_, ?_⟩
      · cases h : (aIdle a now).2 with
        | idle => simp
        | assembling => simp
        | message r => exact absurd h (hk.2 r)
      · intro t' ht'
        cases ht'
        omega

theorem aAssemble_as_idle (s : AState) (b : List Byte) (now : Nat) :
    ∃ a', aAssemble s b now = aIdle a' now
      ∧ (a'.pending = s.pending ∨ ∃ r, a'.pending = some (acceptNew r now)) := by
  unfold aAssemble
  split
  · exact ⟨s, rfl, Or.inl rfl⟩
  · refine ⟨_, rfl, ?_⟩
    simp only [pendingAfter]
    cases estimateOf s b now with
    | none => left; rfl
    | some r =>
      rcases accept_cases s.pending r now with h | h
      · left; exact h
      · right; exact ⟨r, h⟩

theorem acceptNew_due (r : MsgResult) (now : Nat) (h : (acceptNew r now).deadline ≤ now) : r = .ok .eom := by
  unfold acceptNew at h
  split at h
  · rfl
  · simp [HOLD, Gen.MAX_INTERBURST_SYMBOLS] at h
    omega

theorem aAssemble_message (s : AState) (b : List Byte) (now : Nat) (r : MsgResult)
    (h : (aAssemble s b now).2 = .message r) :
    (aAssemble s b now).1.pending = none
      ∧ (r = .ok .eom ∨ ∃ t, s.pending = some t ∧ t.deadline ≤ now ∧ t.data = r) := by
  obtain ⟨a', ha, hp⟩ := aAssemble_as_idle s b now
  rw [ha] at h ⊢
  rcases aIdle_cases a' now with ⟨t, h1, h2, h3, h4⟩ | ⟨_, h2, _⟩
  · refine ⟨h4, ?_⟩
    rw [h3] at h
    cases h
    rcases hp with hp | ⟨r', hp⟩
    · right; exact ⟨t, by rw [← hp, h1], h2, rfl⟩
    · left
      rw [h1] at hp
      cases hp
      rw [acceptNew_data]
      exact acceptNew_due r' now h2
  · rcases h2 with h2 | h2 <;> rw [h2] at h <;> cases h

theorem aAssemble_kept (s : AState) (b : List Byte) (now : Nat)
    (h : (aAssemble s b now).1.pending.isSome) :
    (aAssemble s b now).2 = .idle ∨ (aAssemble s b now).2 = .assembling := by
  obtain ⟨a', ha, _⟩ := aAssemble_as_idle s b now
  rw [ha] at h ⊢
  rcases aIdle_cases a' now with ⟨t, _, _, _, h4⟩ | ⟨_, h2, _⟩
  · rw [h4] at h; cases h
  · exact h2

theorem aIdle_kept (a : AState) (now : Nat) (h : (aIdle a now).1.pending.isSome) :
    (aIdle a now).2 = .idle ∨ (aIdle a now).2 = .assembling := by
  rcases aIdle_cases a now with ⟨t, _, _, _, h4⟩ | ⟨_, h2, _⟩
  · rw [h4] at h; cases h
  · exact h2

/-! ### receiver invariants -/

/-- while the timer is armed, the reported transport state is not EndOfMessage -/
def ForceInv (s : RState) : Prop := s.forceEomAt.isSome → s.transportState ≠ .message (.ok .eom)

/-- while a result is pending, the reported transport state is `idle`, `assembling` or
    EndOfMessage (in particular: never a StartOfMessage) -/
def PendInv (s : RState) : Prop :=
  s.asm.pending.isSome →
    s.transportState = .idle ∨ s.transportState = .assembling ∨ s.transportState = .message (.ok .eom)

/-- the receiver invariant: holds at `{}` and after every tick (`rInv_init`, `rInv_run`) -/
def RInv (s : RState) : Prop := ForceInv s ∧ PendInv s ∧ NoEomPending s.asm

theorem rInv_init : RInv {} := by
  refine ⟨?_, ?_, noEomPending_init⟩
  · intro h; cases h
  · intro h; cases h

theorem forceInv_next (rate : Nat) (s : RState) (sample sym : Nat) (ls : LinkSt) (h : ForceInv s) :
    ForceInv (rNext rate s sample sym ls) := by
  unfold ForceInv rNext
  simp only
  cases hout : (tlCore s sample sym ls).2 with
  | none => exact h
  | some t =>
    simp only
    intro hf heq
    subst heq
    simp [forceAfter] at hf

theorem tlCore_noEom (s : RState) (sample sym : Nat) (ls : LinkSt) (h : NoEomPending s.asm) :
    NoEomPending (tlCore s sample sym ls).1 := by
  rcases tlCore_cases s sample sym ls with ⟨h1, _⟩ | ⟨_, h1⟩ | ⟨_, ⟨_, h1⟩ | ⟨b, _, h1⟩⟩ <;> rw [h1]
  · exact h
  · exact h
  · exact noEomPending_idle s.asm sym h
  · exact noEomPending_assemble s.asm b sym h

theorem pendInv_next (rate : Nat) (s : RState) (sample sym : Nat) (ls : LinkSt) (h : PendInv s) :
    PendInv (rNext rate s sample sym ls) := by
  unfold PendInv rNext
  simp only
  rcases tlCore_cases s sample sym ls with ⟨h1, _⟩ | ⟨_, h1⟩ | ⟨_, ⟨_, h1⟩ | ⟨b, _, h1⟩⟩ <;> rw [h1] <;> simp only
  · exact h
  · intro _; right; right; trivial
  · intro hp
    rcases aIdle_kept s.asm sym hp with h2 | h2 <;> simp [h2]
  · intro hp
    rcases aAssemble_kept s.asm b sym hp with h2 | h2 <;> simp [h2]

theorem rInv_next (rate : Nat) (s : RState) (sample sym : Nat) (ls : LinkSt) (h : RInv s) :
    RInv (rNext rate s sample sym ls) :=
  ⟨forceInv_next rate s sample sym ls h.1, pendInv_next rate s sample sym ls h.2.1,
   tlCore_noEom s sample sym ls h.2.2⟩

theorem rInv_tick (rate : Nat) (s : RState) (sample sym : Nat) (ls : LinkSt) (h : RInv s) :
    RInv (rTick rate s sample sym ls).1 := by
  rw [rTick_eq]; exact rInv_next rate s sample sym ls h

theorem pending_ne_state (s : RState) (t : Timed MsgResult) (hp : s.asm.pending = some t)
    (h1 : PendInv s) (h2 : NoEomPending s.asm) : Transport.message t.data ≠ s.transportState := by
  intro heq
  rcases h1 (by simp [hp]) with h | h | h <;> rw [h] at heq
  · cases heq
  · cases heq
  · injection heq with heq
    exact h2 t hp heq

theorem som_out_needs_pending (s : RState) (sample sym : Nat) (ls : LinkSt) (h : Header)
    (hout : (tlCore s sample sym ls).2 = some (.message (.ok (.som h)))) :
    ∃ t, s.asm.pending = some t ∧ t.data = .ok (.som h) := by
  rcases tlCore_cases s sample sym ls with ⟨h1, _⟩ | ⟨_, h1⟩ | ⟨_, ⟨_, h1⟩ | ⟨b, _, h1⟩⟩ <;> rw [h1] at hout
  · cases hout
  · cases hout
  · simp only [Option.some.injEq] at hout
    rcases aIdle_cases s.asm sym with ⟨t, h2, _, h3, _⟩ | ⟨_, h3, _⟩
    · rw [h3] at hout
      injection hout with hout
      exact ⟨t, h2, hout⟩
    · rcases h3 with h3 | h3 <;> rw [h3] at hout <;> cases hout
  · simp only [Option.some.injEq] at hout
    rcases (aAssemble_message s.asm b sym _ hout).2 with h2 | ⟨t, h2, _, h3⟩
    · cases h2
    · exact ⟨t, h2, h3⟩

/-- under `PendInv` a StartOfMessage answer differs from the reported state: the change filter
    cannot swallow it -/
theorem som_out_ne_state (s : RState) (sample sym : Nat) (ls : LinkSt) (h : Header) (hP : PendInv s)
    (hout : (tlCore s sample sym ls).2 = some (.message (.ok (.som h)))) :
    Transport.message (.ok (.som h)) ≠ s.transportState := by
  intro heq
  obtain ⟨t, hp, _⟩ := som_out_needs_pending s sample sym ls h hout
  rcases hP (by simp [hp]) with h' | h' | h' <;> rw [h'] at heq <;> cases heq

theorem rRun_nil (rate : Nat) (s : RState) : rRun rate s [] = (s, []) := rfl

theorem rRun_cons (rate : Nat) (s : RState) (sample sym : Nat) (ls : LinkSt) (ts : List RTick) :
    rRun rate s ((sample, sym, ls) :: ts)
      = ((rRun rate (rTick rate s sample sym ls).1 ts).1,
         (rTick rate s sample sym ls).2 ++ (rRun rate (rTick rate s sample sym ls).1 ts).2) := rfl

theorem rRun_append (rate : Nat) (s : RState) (xs ys : List RTick) :
    rRun rate s (xs ++ ys)
      = ((rRun rate (rRun rate s xs).1 ys).1, (rRun rate s xs).2 ++ (rRun rate (rRun rate s xs).1 ys).2) := by
  induction xs generalizing s with
  | nil => simp [rRun_nil]
  | cons x xs ih =>
    obtain ⟨sample, sym, ls⟩ := x
    simp [rRun_cons, ih]

theorem rInv_run (rate : Nat) (s : RState) (ts : List RTick) (h : RInv s) : RInv (rRun rate s ts).1 := by
  induction ts generalizing s with
  | nil => exact h
  | cons x xs ih =>
    obtain ⟨sample, sym, ls⟩ := x
    rw [rRun_cons]
    exact ih _ (rInv_tick rate s sample sym ls h)

/-! ### one `NoCarrier` tick while a result is pending -/

theorem message_out_empties (s : RState) (sample sym : Nat) (ls : LinkSt) (r : MsgResult)
    (hnf : ¬ Forced s sample ls) (hout : (tlCore s sample sym ls).2 = some (.message r)) :
    (tlCore s sample sym ls).1.pending = none := by
  rcases tlCore_cases s sample sym ls with ⟨h1, _⟩ | ⟨hf, _⟩ | ⟨_, ⟨_, h1⟩ | ⟨b, _, h1⟩⟩
  · rw [h1] at hout; cases hout
  · exact absurd hf hnf
  · rw [h1] at hout ⊢
    simp only [Option.some.injEq] at hout
    rcases aIdle_cases s.asm sym with ⟨t, _, _, _, h4⟩ | ⟨_, h3, _⟩
    · exact h4
    · rcases h3 with h3 | h3 <;> rw [h3] at hout <;> cases hout
  · rw [h1] at hout ⊢
    simp only [Option.some.injEq] at hout
    exact (aAssemble_message s.asm b sym r hout).1

theorem nc_tick_early (s : RState) (sample sym : Nat) (t : Timed MsgResult)
    (hp : s.asm.pending = some t) (hearly : sym < t.deadline) :
    (tlCore s sample sym .noCarrier).1.pending = some t
      ∧ (Forced s sample .noCarrier ∨
          (tlCore s sample sym .noCarrier).2 = some .idle ∨ (tlCore s sample sym .noCarrier).2 = some .assembling) := by
  by_cases hf : Forced s sample .noCarrier
  · have ⟨_, T, hT, hlate⟩ := hf
    rw [tlCore_forced s sample sym T hT hlate]
    exact ⟨hp, Or.inl hf⟩
  · rw [tlCore_poll s sample sym hf]
    rcases aIdle_cases s.asm sym with ⟨t', h1, h2, _⟩ | ⟨h1, h2, _⟩
    · rw [hp] at h1; cases h1; omega
    · refine ⟨by rw [h1, hp], Or.inr ?_⟩
      rcases h2 with h2 | h2 <;> simp [h2]

theorem nc_tick_due (s : RState) (sample sym : Nat) (t : Timed MsgResult)
    (hp : s.asm.pending = some t) (hdue : t.deadline ≤ sym) (hnf : ¬ Forced s sample .noCarrier) :
    tlCore s sample sym .noCarrier = ((aIdle s.asm sym).1, some (.message t.data))
      ∧ (aIdle s.asm sym).1.pending = none := by
  have hr := due_is_released s.asm t sym hp hdue
  rw [tlCore_poll s sample sym hnf, hr.1]
  exact ⟨rfl, hr.2⟩

end SameVerif
