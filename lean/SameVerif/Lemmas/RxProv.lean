import SameVerif.Thm.C14
/-
  Runs of the receiver seen from outside: the per-tick outputs of `transportLayer` along a run
  (`outs`), how they move the end-of-message timer, and locating an event of a run in the tick
  that produced it.  For Thm/C04rx, Thm/C08rx and the whole-receiver transfer.
-/
namespace SameVerif.RxProv
open SameVerif SameVerif.C08 SameVerif.C09 SameVerif.C14

/-! ### the outputs of `transportLayer` along a run -/

def outs (rate : Nat) : RState → List RTick → List (Nat × Option Transport)
  | _, [] => []
  | s, (sample, sym, ls) :: ts =>
    (sample, (transportLayer rate s sample sym ls).2) :: outs rate (rTick rate s sample sym ls).1 ts

theorem outs_nil (rate : Nat) (s : RState) : outs rate s [] = [] := rfl

theorem outs_cons (rate : Nat) (s : RState) (sample sym : Nat) (ls : LinkSt) (ts : List RTick) :
    outs rate s ((sample, sym, ls) :: ts)
      = (sample, (transportLayer rate s sample sym ls).2) :: outs rate (rTick rate s sample sym ls).1 ts := rfl

theorem outs_append (rate : Nat) (s : RState) (xs ys : List RTick) :
    outs rate s (xs ++ ys) = outs rate s xs ++ outs rate (rRun rate s xs).1 ys := by
  induction xs generalizing s with
  | nil => rfl
  | cons x xs ih =>
    obtain ⟨sample, sym, ls⟩ := x
    simp [outs_cons, rRun_cons, ih]

theorem outs_length (rate : Nat) (s : RState) (ts : List RTick) : (outs rate s ts).length = ts.length := by
  induction ts generalizing s with
  | nil => rfl
  | cons x xs ih =>
    obtain ⟨sample, sym, ls⟩ := x
    simp [outs_cons, ih]

/-- `outs` really is what `rTick` sees: `rTick` calls `transportLayer` after updating the link
    state, which `transportLayer` never reads -/
theorem transportLayer_linkState (rate : Nat) (s : RState) (l : LinkSt) (sample sym : Nat) (ls : LinkSt) :
    (transportLayer rate { s with linkState := l } sample sym ls).2
      = (transportLayer rate s sample sym ls).2 := by
  cases ls <;> rfl

theorem tl_out_eq (rate : Nat) (s : RState) (sample sym : Nat) (ls : LinkSt) :
    (transportLayer rate s sample sym ls).2 = (tlCore s sample sym ls).2 := by
  rw [transportLayer_eq]

theorem rTick_events (rate : Nat) (s : RState) (sample sym : Nat) (ls : LinkSt) :
    (rTick rate s sample sym ls).2
      = linkEv s sample ls ++ trEv s sample (transportLayer rate s sample sym ls).2 := by
  rw [rTick_out, tl_out_eq]

theorem tick_force (rate : Nat) (s : RState) (sample sym : Nat) (ls : LinkSt) :
    (rTick rate s sample sym ls).1.forceEomAt
      = forceAfter rate sample s.forceEomAt (transportLayer rate s sample sym ls).2 := by
  rw [rTick_force, tl_out_eq]

theorem quiet_run_timer (rate : Nat) (ticks : List RTick) : ∀ s : RState,
    (∀ o ∈ outs rate s ticks, TimerQuiet o.2) → (rRun rate s ticks).1.forceEomAt = s.forceEomAt := by
  induction ticks with
  | nil => intro s _; rfl
  | cons x xs ih =>
    obtain ⟨smp, sy, ls⟩ := x
    intro s hq
    rw [rRun_cons, ih _ (fun o ho => hq o (by rw [outs_cons]; exact List.mem_cons_of_mem _ ho)), tick_force]
    have h0 := hq (smp, (transportLayer rate s smp sy ls).2) (by rw [outs_cons]; exact List.mem_cons_self)
    rcases forceAfter_cases rate smp s.forceEomAt (transportLayer rate s smp sy ls).2
      with ⟨h, ho, _⟩ | ⟨ho, _⟩ | ⟨_, hf⟩
    · exact absurd ho (h0.2 h)
    · exact absurd ho h0.1
    · exact hf

theorem event_mem_outs (rate : Nat) (ticks : List RTick) : ∀ (s : RState) (smp : Nat) (t : Transport),
    Event.transport smp t ∈ (rRun rate s ticks).2 → (smp, some t) ∈ outs rate s ticks := by
  induction ticks with
  | nil => intro s smp t h; cases h
  | cons x xs ih =>
    obtain ⟨sample, sy, ls⟩ := x
    intro s smp t h
    rw [rRun_cons] at h
    rw [outs_cons]
    rcases List.mem_append.1 h with h | h
    · rw [mem_tick_transport] at h
      obtain ⟨rfl, ho, _⟩ := h
      rw [ho]; exact List.mem_cons_self
    · exact List.mem_cons_of_mem _ (ih _ smp t h)

theorem som_out_event (rate : Nat) (s : RState) (sample sym : Nat) (ls : LinkSt) (h : Header)
    (hP : PendInv s)
    (hout : (transportLayer rate s sample sym ls).2 = some (.message (.ok (.som h)))) :
    (rTick rate s sample sym ls).2
      = linkEv s sample ls ++ [Event.transport sample (.message (.ok (.som h)))] := by
  rw [rTick_events, hout]
  rw [tl_out_eq] at hout
  have hb : Transport.beq' (.message (.ok (.som h))) s.transportState = false :=
    (Transport.beq'_false_iff _ _).2 (som_out_ne_state s sample sym ls h hP hout)
  simp [trEv, hb]

theorem linkEv_cases (s : RState) (sample : Nat) (ls : LinkSt) :
    linkEv s sample ls = [] ∨ linkEv s sample ls = [Event.link sample ls] := by
  unfold linkEv; split <;> simp

theorem trEv_cases (s : RState) (sample : Nat) (out : Option Transport) :
    trEv s sample out = [] ∨ ∃ t, trEv s sample out = [Event.transport sample t] := by
  unfold trEv
  split
  · split <;> simp
  · simp

theorem not_closes_linkEv (s : RState) (sample : Nat) (ls : LinkSt) : ∀ e ∈ linkEv s sample ls, ¬ Closes e := by
  intro e he
  rcases linkEv_cases s sample ls with h | h <;> rw [h] at he
  · cases he
  · simp only [List.mem_singleton] at he
    subst he
    rintro ⟨smp, h | ⟨_, h⟩⟩ <;> cases h

theorem tick_transport_split (s : RState) (sample : Nat) (ls : LinkSt) (out : Option Transport)
    (epre epost : List Event) (smp : Nat) (t : Transport)
    (h : linkEv s sample ls ++ trEv s sample out = epre ++ Event.transport smp t :: epost) :
    epre = linkEv s sample ls ∧ epost = [] := by
  rcases linkEv_cases s sample ls with hl | hl <;> rcases trEv_cases s sample out with ht | ⟨t', ht⟩ <;>
    rw [hl, ht] at h <;> rw [hl]
  · cases epre <;> simp at h
  · cases epre with
    | nil => simp at h; exact ⟨rfl, h.2⟩
    | cons a as => cases as <;> simp at h
  · cases epre with
    | nil => simp at h
    | cons a as => cases as <;> simp at h
  · cases epre with
    | nil => simp at h
    | cons a as =>
      cases as with
      | nil => simp at h; exact ⟨by rw [h.1], h.2.2⟩
      | cons b bs => cases bs <;> simp at h

theorem run_event_split (rate : Nat) (ticks : List RTick) :
    ∀ (s : RState) (pre : List Event) (e : Event) (post : List Event),
      (rRun rate s ticks).2 = pre ++ e :: post →
      ∃ tpre sample sym ls tpost epre epost,
        ticks = tpre ++ (sample, sym, ls) :: tpost
        ∧ (rTick rate (rRun rate s tpre).1 sample sym ls).2 = epre ++ e :: epost
        ∧ pre = (rRun rate s tpre).2 ++ epre
        ∧ post = epost ++ (rRun rate (rTick rate (rRun rate s tpre).1 sample sym ls).1 tpost).2 := by
  induction ticks with
  | nil => intro s pre e post h; simp [rRun_nil] at h
  | cons x xs ih =>
    obtain ⟨sample, sy, ls⟩ := x
    intro s pre e post h
    rw [rRun_cons] at h
    simp only at h
    rcases List.append_eq_append_iff.1 h with ⟨a', h1, h2⟩ | ⟨c', h1, h2⟩
    · obtain ⟨tpre, sample', sym', ls', tpost, epre, epost, rfl, i2, i3, i4⟩ := ih _ a' e post h2
      refine ⟨(sample, sy, ls) :: tpre, sample', sym', ls', tpost, epre, epost, rfl, i2, ?_, i4⟩
      rw [h1, i3, rRun_cons]
      simp only [List.append_assoc]
    · cases c' with
      | nil =>
        simp only [List.nil_append, List.append_nil] at h1 h2
        obtain ⟨tpre, sample', sym', ls', tpost, epre, epost, rfl, i2, i3, i4⟩ := ih _ [] e post h2.symm
        refine ⟨(sample, sy, ls) :: tpre, sample', sym', ls', tpost, epre, epost, rfl, i2, ?_, i4⟩
        rw [rRun_cons, ← h1]
        simp only [List.append_assoc]
        rw [← i3, List.append_nil]
      | cons c cs =>
        simp only [List.cons_append, List.cons.injEq] at h2
        obtain ⟨rfl, rfl⟩ := h2
        exact ⟨[], sample, sy, ls, xs, pre, cs, rfl, h1, by simp [rRun_nil], rfl⟩

end SameVerif.RxProv
