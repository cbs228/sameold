/-
  For Thm/SilenceCloses.lean: from any state satisfying `SilInv`, enough zeros contain a `NoCarrier`
  tick stamped beyond any given deadline.
-/
import SameVerif.Thm.Silence
import SameVerif.Lemmas.FullRxTransferFacts

namespace SameVerif.Dsp
open Arith SameVerif

section Whole
variable [Hypot Rat]

theorem noCarrier_tick_after_aux {c : RxCfg Rat} {spt pmin pmax A : Rat} {r : FullRx Rat}
    (hc : SilCfg c spt pmin pmax A) (h : SilInv c spt pmin pmax A r) (hco : c.powerClose ≤ c.powerOpen)
    {G K : Nat} (hG : 2 * pmax + 2 * A + 5 / 2 ≤ (G : Rat)) (hK : (1 - r.pt.bandwidth) ^ K < c.powerClose)
    (T : Nat) {n : Nat} (hn1 : 2 * c.dcLen + max 1 c.mark.length + (K + 32) * G + G ≤ n)
    (hn2 : T + G ≤ r.inputCounter + n) :
    ∃ r' tr, FullRx.trace r (zeros n) = some (r', tr) ∧ SilInv c spt pmin pmax A r' ∧ Idle c r' ∧
      ∃ tk ∈ stampedTicks c.lcfg r.link tr, tk.2.2 = .noCarrier ∧ T < tk.1 := by
  generalize hN : 2 * c.dcLen + max 1 c.mark.length + (K + 32) * G = N1 at hn1
  obtain ⟨ra, ta, ea, ha, ia, _⟩ := SilenceThm.zeros_link_idle hc h hco hG hK (n := n - G) (by omega)
  obtain ⟨eva, era, _, _, _, hla⟩ := FullRx.trace_run ea
  have hcnt := (FullRx.run_timestamps _ r ra eva era).1
  simp only [zeros, List.length_replicate] at hcnt
  obtain ⟨rb, tb, eb, hb, ib, hnc⟩ := idle_run hc ha ia hco G
  have hlen := ticks_ge hc hG 1 (zeros G) ra ha (by simp [zeros]) rb tb eb
  have hst := (FullRx.trace_stamps _ ra rb tb eb).1
  have e : FullRx.trace r (zeros (n - G + G)) = some (rb, ta ++ tb) := by
    rw [zeros_add]; exact FullRx.trace_append ea eb
  rw [show n - G + G = n by omega] at e
  refine ⟨rb, ta ++ tb, e, hb, ib, ?_⟩
  cases tb with
  | nil => simp at hlen
  | cons p tb' =>
    have hm : rtickOf c.lcfg ra.link p ∈ stampedTicks c.lcfg ra.link (p :: tb') := by
      rw [stampedTicks_cons]; exact List.mem_cons_self
    refine ⟨rtickOf c.lcfg ra.link p, ?_, hnc _ hm, ?_⟩
    · rw [h.cfg] at hla
      rw [stampedTicks_append, ← hla]
      exact List.mem_append_right _ hm
    · have := (hst p List.mem_cons_self).1
      show T < p.1
      omega

end Whole
end SameVerif.Dsp
