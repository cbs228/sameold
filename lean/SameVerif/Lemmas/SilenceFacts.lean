/-
  Helper lemmas for Thm/Silence.lean: what the whole-receiver model (`Model/FullRx.lean`) does on
  zero input, over the rationals.

  Part 1 (namespace `SameVerif.SilenceAux`) holds the link-level notions the statements of
  Thm/Silence.lean are written in (`LinkInv` is field for field `SameVerif.LinkInv`: `linkInv_iff`).
  Part 2: the float components on zero input: the DC blocker reaches and keeps its all-zero state,
  the AGC, the demodulator and the TED on zeros, the squelch power tracker.
  Part 3: the whole receiver: the hypotheses `SilCfg`, the invariant `SilInv` with the tick potential
  `tickPot`, one sample, runs, the phases of a run of zeros, and `flush()`.
-/
import SameVerif.Lemmas.FullRxFacts
import SameVerif.Lemmas.LinkInv
import SameVerif.Thm.Dsp
import SameVerif.Thm.FullRx
import SameVerif.Thm.C14
import SameVerif.Thm.C08rx

/-! ## Part 1: link-level notions -/

namespace SameVerif.SilenceAux
open SameVerif

theorem fend_idle : fend .idle = (.idle, .noCarrier) := rfl

theorem hitOf_unlocked (c : LCfg) (s : LState) (o : Obs) (h : FullRxAux.hitOf c s o = true) :
    s.lock = false :=
  SameVerif.hitOf_unlocked c s o h

@[simp] theorem endTick_snd (s1 : LState) : (FullRxAux.endTick s1).2 = ((fend s1.fr).2, none) := rfl

/-- what every reachable link state satisfies, for every configuration -/
structure LinkInv (s : LState) : Prop where
  /-- the power history holds one entry per symbol seen, at most 32 -/
  pwr_len : s.pwr.length = min s.nsym 32
  /-- no synchronisation before the sample history is full -/
  warm : s.nsym < 32 → s.clock = none
  /-- a sync lock is only held while the byte clock runs -/
  lock_sync : s.lock = true → s.clock.isSome = true
  /-- the byte clock counts symbols modulo 8 -/
  clock_lt : ∀ k, s.clock = some k → k < 8

theorem linkInv_iff {s : LState} : LinkInv s ↔ SameVerif.LinkInv s :=
  ⟨fun h => ⟨h.1, h.2, h.3, h.4⟩, fun h => ⟨h.1, h.2, h.3, h.4⟩⟩

/-- the squelch is not synchronised, holds no lock, and the framer is idle — the state of a
    new receiver as far as everything except the two shift registers is concerned -/
def QuietState (s : LState) : Prop := s.clock = none ∧ s.lock = false ∧ s.fr = .idle

theorem quietState_init : QuietState {} := ⟨rfl, rfl, rfl⟩

/-- streams whose every tick is below the opening threshold -/
def AllClosed (xs : List Tick) : Prop := ∀ x ∈ xs, x.1.openOk = false

/-- streams whose every tick is below both thresholds -/
def AllSilent (xs : List Tick) : Prop := ∀ x ∈ xs, x.1.openOk = false ∧ x.1.closeOk = false

theorem AllSilent.closed {xs : List Tick} (h : AllSilent xs) : AllClosed xs :=
  fun x hx => (h x hx).1

/-- `C10.no_wedge` -/
theorem no_wedge (c : LCfg) (s : LState) (xs : List Tick) (hinv : LinkInv s)
    (hlen : 32 ≤ xs.length) (hq : ∀ x ∈ xs, x.1.openOk = false ∧ x.1.closeOk = false) :
    QuietState (lrunState c s xs) ∧ LinkInv (lrunState c s xs) := by
  have hd := draining_run c xs 0 s (linkInv_iff.1 hinv) (draining_zero s) hq
  exact ⟨draining_done _ _ (by omega) hd, linkInv_iff.2 (linkInv_run c xs s (linkInv_iff.1 hinv))⟩

end SameVerif.SilenceAux

/-! ## Part 2: the float front end on zero input, over the rationals -/

namespace SameVerif.Dsp
open Arith

/-! ### the DC blocker forgets -/

section DcZero

/-- a moving average in its all-zero state (what `new` builds and `reset` restores) -/
structure MovZero (len : Nat) (m : MovAvg Rat) : Prop where
  window : m.window = List.replicate len 0
  sum : m.sum = 0
  inv : m.invLen = 1 / (len : Rat)

theorem movZero_of_tail {len : Nat} {m : MovAvg Rat} (hg : MovGood len m) (ht : MovTail len 0 len m) :
    MovZero len m := by
  obtain ⟨pre, hw, hlen⟩ := ht
  have hp : pre = [] := List.eq_nil_of_length_eq_zero (by omega)
  subst hp
  simp only [List.nil_append] at hw
  exact ⟨hw, by rw [hg.sum, hw, sum_replicate_rat]; grind, hg.inv⟩

theorem MovZero.good {len : Nat} {m : MovAvg Rat} (h : MovZero len m) : MovGood len m :=
  ⟨by simp [h.window], by rw [h.sum, h.window, sum_replicate_rat]; grind, h.inv⟩

theorem MovZero.tail {len : Nat} {m : MovAvg Rat} (h : MovZero len m) (i : Nat) (hi : i ≤ len) :
    MovTail len 0 i m :=
  ⟨List.replicate (len - i) 0, by rw [h.window, List.replicate_append_replicate]; congr 1; omega,
    by simp; omega⟩

structure DcZero (len : Nat) (d : DcBlock Rat) : Prop where
  ff : MovZero len d.ff
  fb : MovZero len d.fb

theorem dcZero_of_dcConst {len j : Nat} {d : DcBlock Rat} (h : DcConst len 0 j d) (hl : 0 < len)
    (hj : 2 * len - 1 ≤ j) : DcZero len d := by
  refine ⟨movZero_of_tail h.ffGood ?_, movZero_of_tail h.fbGood ?_⟩
  · have := h.ffTail; rwa [show min j len = len by omega] at this
  · have := h.fbTail; rwa [show min (j - (len - 1)) len = len by omega] at this

theorem dcConst_of_dcZero {len : Nat} {d : DcBlock Rat} (h : DcZero len d) (j : Nat) : DcConst len 0 j d :=
  ⟨h.ff.good, h.fb.good, h.ff.tail _ (Nat.min_le_right _ _), h.fb.tail _ (Nat.min_le_right _ _)⟩

theorem dcZero_filter {len : Nat} {d : DcBlock Rat} (h : DcZero len d) (hl : 0 < len) :
    ∃ d', d.filter 0 = some (d', 0) ∧ DcZero len d' := by
  obtain ⟨d', y, e, h', hy⟩ := dcConst_filter (dcConst_of_dcZero h (2 * len)) hl (Or.inr rfl)
  rw [hy (by omega)] at e
  exact ⟨d', e, dcZero_of_dcConst h' hl (by omega)⟩

end DcZero

/-! ### AGC, demodulator, timing error detector on zeros -/

section FrontZero
variable [Hypot Rat]

omit [Hypot Rat] in
theorem agc_input_rat {a : Agc Rat} (h : a.minGain ≤ a.maxGain) (x : Rat) :
    ∃ a', a.input x = some (a', x * a.gain) ∧ a'.minGain = a.minGain ∧ a'.maxGain = a.maxGain := by
  cases e : a.input x with
  | none => rw [agc_input_none_iff'] at e; simp at e; grind
  | some p =>
    obtain ⟨a', y⟩ := p
    obtain ⟨h1, h2, h3, _⟩ := agc_output_eq e
    exact ⟨a', by rw [h1]; rfl, h2, h3⟩

/-- the demodulator window after `j` zero samples were pushed into a window of at most `B` entries:
    all but the oldest `B - j` entries are zero -/
def WinZ (B j : Nat) (w : List Rat) : Prop :=
  ∃ pre i, w = pre ++ List.replicate i 0 ∧ pre.length ≤ B - j

omit [Hypot Rat] in
theorem winZ_start {B : Nat} {w : List Rat} (h : w.length ≤ B) : WinZ B 0 w :=
  ⟨w, 0, by simp, by simpa using h⟩

omit [Hypot Rat] in
theorem winZ_push {B j : Nat} {d : Demod Rat} (h : WinZ B j d.window) : WinZ B (j + 1) (d.push 0).window := by
  obtain ⟨pre, i, hw, hl⟩ := h
  cases pre with
  | nil =>
    refine ⟨[], (i - 1) + 1, ?_, by simp⟩
    simp only [Demod.push, hw, List.nil_append, List.drop_replicate, List.replicate_succ']
  | cons a pre' =>
    refine ⟨pre', i + 1, ?_, by simp at hl; omega⟩
    simp [Demod.push, hw, List.replicate_succ']

omit [Hypot Rat] in
theorem winZ_all_zero {B j : Nat} {w : List Rat} (h : WinZ B j w) (hj : B ≤ j) : ∀ x ∈ w, x = 0 := by
  obtain ⟨pre, i, hw, hl⟩ := h
  have hp : pre = [] := List.eq_nil_of_length_eq_zero (by omega)
  subst hp
  intro x hx
  rw [hw] at hx
  simp only [List.nil_append, List.mem_replicate] at hx
  exact hx.2

omit [Hypot Rat] in
theorem push_length_le {B : Nat} (d : Demod Rat) (x : Rat) (hB : 1 ≤ B) (h : d.window.length ≤ B) :
    (d.push x).window.length ≤ B := by
  simp only [Demod.push, List.length_append, List.length_drop, List.length_singleton]; omega

omit [Hypot Rat] in
theorem push_all_zero (d : Demod Rat) (h : ∀ x ∈ d.window, x = 0) : ∀ x ∈ (d.push 0).window, x = 0 := by
  intro x hx
  simp only [Demod.push, List.mem_append, List.mem_singleton] at hx
  rcases hx with hx | hx
  · exact h x (List.mem_of_mem_drop hx)
  · exact hx

omit [Hypot Rat] in
theorem macCplx_zero (w : List Rat) (coeff : List (Rat × Rat)) (h : ∀ x ∈ w, x = 0) :
    macCplx w coeff = (0, 0) := by
  unfold macCplx
  suffices hs : ∀ (w : List Rat) (coeff : List (Rat × Rat)) (acc : Rat × Rat), (∀ x ∈ w, x = 0) →
      (w.zip coeff).foldl (fun acc p => (add acc.1 (mul p.1 p.2.1), add acc.2 (mul p.1 p.2.2))) acc = acc from
    hs w coeff _ h
  intro w
  induction w with
  | nil => intro coeff acc _; rfl
  | cons a w ih =>
    intro coeff acc hz
    cases coeff with
    | nil => rfl
    | cons c coeff =>
      have ha : a = 0 := hz a (by simp)
      subst ha
      simp only [List.zip_cons_cons, List.foldl_cons, rat_add, rat_mul, Rat.zero_mul, Rat.add_zero]
      exact ih coeff acc (fun x hx => hz x (by simp [hx]))

theorem demod_bounds (d : Demod Rat) : ∃ y, d.demod = some y ∧ -1 ≤ y ∧ y ≤ 1 := by
  obtain ⟨y, e, h1, h2, _⟩ := clamp_rat
    (x := sub (Hypot.hypot (macCplx d.window d.mark).1 (macCplx d.window d.mark).2)
      (Hypot.hypot (macCplx d.window d.space).1 (macCplx d.window d.space).2)) (lo := -1) (hi := 1)
    (by decide +kernel)
  exact ⟨y, e, h1, h2⟩

/-- on an all-zero window the two matched-filter outputs are both `hypot 0 0`: the difference is `0`
    (for ANY `hypot`) -/
theorem demod_zero (d : Demod Rat) (h : ∀ x ∈ d.window, x = 0) : d.demod = some 0 := by
  unfold Demod.demod
  simp only [macCplx_zero _ _ h, rat_sub, Rat.sub_self]
  exact clamp_of_mem (by decide +kernel) (by decide +kernel) (by decide +kernel)

omit [Hypot Rat] in
theorem ted_input_h2 (t : Ted Rat) (x : Rat) : (t.input x).1.h2 = x := by
  unfold Ted.input; simp only []; split <;> rfl

omit [Hypot Rat] in
theorem ted_input_zero {t : Ted Rat} (h : t.h2 = 0) : ∀ s, (t.input 0).2 = some s → s = ⟨0, 0, 0⟩ := by
  intro s hs
  unfold Ted.input at hs
  simp only [] at hs
  split at hs
  · simp only [Option.some.injEq] at hs
    rw [← hs, h]
    simp [zeroCrossingMetric, Rat.zero_mul]
  · cases hs

omit [Hypot Rat] in
theorem ted_input_sym (t : Ted Rat) (x : Rat) : ∀ s, (t.input x).2 = some s → s.sym = x := by
  intro s hs
  unfold Ted.input at hs
  simp only [] at hs
  split at hs
  · simp only [Option.some.injEq] at hs; rw [← hs]
  · cases hs

end FrontZero

/-! ### the squelch power tracker -/

section Power

/-- the tracker's invariant: bandwidth and power both in `[0, 1]` -/
structure PtInv (p : PowerTracker Rat) : Prop where
  bw0 : 0 ≤ p.bandwidth
  bw1 : p.bandwidth ≤ 1
  pw0 : 0 ≤ p.power
  pw1 : p.power ≤ 1

theorem pt_new_inv {bw : Rat} {p : PowerTracker Rat} (h : PowerTracker.new bw = some p) : PtInv p ∧ p.power = 0 := by
  obtain ⟨b, e, h1, h2, _⟩ := clamp_rat (x := bw) (lo := 0) (hi := 1) (by decide +kernel)
  simp only [PowerTracker.new, rat_zero, rat_one, e, Option.map_some, Option.some.injEq] at h
  subst h
  exact ⟨⟨h1, h2, by simp, by show (0 : Rat) ≤ 1; decide +kernel⟩, rfl⟩

/-- `power_le_one`: a soft symbol in `[-1, 1]` keeps the power in `[0, 1]` -/
theorem pt_track_inv {p : PowerTracker Rat} (h : PtInv p) {s : Rat} (h1 : -1 ≤ s) (h2 : s ≤ 1) :
    PtInv (p.track s) ∧ (p.track s).bandwidth = p.bandwidth := by
  obtain ⟨b0, b1, p0, p1⟩ := h
  have a := Rat.mul_nonneg (a := 1 - s) (b := 1 + s) (by grind) (by grind)
  have c := Rat.mul_nonneg (a := 1 - p.power) (b := 1 - p.bandwidth) (by grind) (by grind)
  have d := Rat.mul_nonneg (a := 1 - s * s) (b := p.bandwidth) (by grind) (by grind)
  refine ⟨⟨b0, b1, ?_, ?_⟩, rfl⟩ <;>
    simp only [PowerTracker.track, fmax, rat_lt, rat_add, rat_mul, rat_sub, rat_zero] <;> split <;>
    simp only [decide_eq_true_eq] at * <;> grind

/-- `power_decays`: a zero symbol multiplies the power by `1 - bandwidth` -/
theorem pt_track_zero {p : PowerTracker Rat} (h : PtInv p) :
    (p.track 0).power = p.power * (1 - p.bandwidth) := by
  obtain ⟨b0, b1, p0, p1⟩ := h
  have c := Rat.mul_nonneg (a := p.power) (b := 1 - p.bandwidth) p0 (by grind)
  simp only [PowerTracker.track, fmax, rat_lt, rat_add, rat_mul, rat_sub, rat_zero]
  split <;> simp only [decide_eq_true_eq] at * <;> grind

theorem pt_track_zero_le {p : PowerTracker Rat} (h : PtInv p) : (p.track 0).power ≤ p.power := by
  obtain ⟨b0, b1, p0, p1⟩ := h
  have c := Rat.mul_nonneg (a := p.power) (b := p.bandwidth) p0 b0
  rw [pt_track_zero ⟨b0, b1, p0, p1⟩]
  grind

/-- `k` zero symbols -/
def PowerTracker.trackZeros (p : PowerTracker Rat) : Nat → PowerTracker Rat
  | 0 => p
  | k + 1 => PowerTracker.trackZeros (p.track 0) k

theorem pt_trackZeros {p : PowerTracker Rat} (h : PtInv p) (k : Nat) :
    PtInv (p.trackZeros k) ∧ (p.trackZeros k).bandwidth = p.bandwidth ∧
      (p.trackZeros k).power = p.power * (1 - p.bandwidth) ^ k := by
  induction k generalizing p with
  | zero => exact ⟨h, rfl, by simp [PowerTracker.trackZeros, Rat.pow_zero, Rat.mul_one]⟩
  | succ k ih =>
    obtain ⟨i1, i2⟩ := pt_track_inv h (s := 0) (by decide +kernel) (by decide +kernel)
    obtain ⟨j1, j2, j3⟩ := ih i1
    refine ⟨j1, j2.trans i2, ?_⟩
    simp only [PowerTracker.trackZeros]
    rw [j3, i2, pt_track_zero h, Rat.pow_succ]
    grind

theorem decay_le {p q : Rat} (p1 : p ≤ 1) (q0 : 0 ≤ q) (k : Nat) : p * q ^ k ≤ q ^ k := by
  have := Rat.mul_le_mul_of_nonneg_right p1 (Rat.pow_nonneg (n := k) q0)
  grind

theorem pow_le_pow_rat {q : Rat} (q0 : 0 ≤ q) (q1 : q ≤ 1) {K m : Nat} (h : K ≤ m) : q ^ m ≤ q ^ K := by
  induction m with
  | zero => have : K = 0 := by omega
            subst this; exact Rat.le_refl
  | succ m ih =>
    by_cases hk : K = m + 1
    · subst hk; exact Rat.le_refl
    · have i := ih (by omega)
      have p := Rat.pow_nonneg (n := m) q0
      have := Rat.mul_le_mul_of_nonneg_left q1 p
      rw [Rat.pow_succ]
      grind

theorem pt_trackZeros_le {p : PowerTracker Rat} (h : PtInv p) (k : Nat) :
    (p.trackZeros k).power ≤ p.power := by
  induction k generalizing p with
  | zero => exact Rat.le_refl
  | succ k ih =>
    exact Rat.le_trans (ih (pt_track_inv h (s := 0) (by decide +kernel) (by decide +kernel)).1)
      (pt_track_zero_le h)

theorem pt_trackZeros_decay {p : PowerTracker Rat} (h : PtInv p) {K k : Nat} (hk : K ≤ k) :
    (p.trackZeros k).power ≤ (1 - p.bandwidth) ^ K := by
  have q0 : 0 ≤ 1 - p.bandwidth := by have := h.bw1; grind
  have q1 : 1 - p.bandwidth ≤ 1 := by have := h.bw0; grind
  rw [(pt_trackZeros h k).2.2]
  exact Rat.le_trans (decay_le h.pw1 q0 k) (pow_le_pow_rat q0 q1 hk)

end Power

end SameVerif.Dsp

/-! ## Part 3: the whole receiver over the rationals: invariant, one sample -/

namespace SameVerif.Dsp
open Arith

section SymbolFields
variable {F : Type} [Arith F]

theorem FullRx.symbol_pt (r : FullRx F) (s : SymEst F) : (r.symbol s).1.pt = r.pt.track s.sym := by
  obtain ⟨_, _, _, _, _, _, _, _, _, _, _, a⟩ := FullRx.post_spec (r.pre s)
  obtain ⟨_, _, _, _, _, _, _, _, _, _, _, b⟩ := FullRx.pre_spec r s
  rw [FullRx.symbol_eq, a, b]

theorem FullRx.symbol_front_fields (r : FullRx F) (s : SymEst F) :
    (r.symbol s).1.cfg = r.cfg ∧ (r.symbol s).1.dc = r.dc ∧ (r.symbol s).1.demod = r.demod ∧
    (r.symbol s).1.tedClock = r.tedClock ∧ (r.symbol s).1.untilNext = r.untilNext ∧
    (r.symbol s).1.agc.minGain = r.agc.minGain ∧ (r.symbol s).1.agc.maxGain = r.agc.maxGain ∧
    ((r.symbol s).1.tl = r.tl ∨ (r.symbol s).1.tl = r.tl.setGains r.cfg.alphaL r.cfg.betaL ∨
      (r.symbol s).1.tl = (r.tl.setGains r.cfg.alphaU r.cfg.betaU).reset ∨
      (r.symbol s).1.tl = ((r.tl.setGains r.cfg.alphaL r.cfg.betaL).setGains r.cfg.alphaU r.cfg.betaU).reset) := by
  obtain ⟨_, _, _, a4, _, a6, a7, a8, a9, a10, a11, _⟩ := FullRx.post_spec (r.pre s)
  obtain ⟨_, b2, _, _, _, b6, b7, b8, b9, b10, b11, _⟩ := FullRx.pre_spec r s
  rw [FullRx.symbol_eq]
  refine ⟨a4.trans b2, a6.trans b6, a7.trans b7, a8.trans b8, a9.trans b9, ?_, ?_, ?_⟩
  · rcases a10 with e | e <;> rcases b10 with e' | e' <;> rw [e, e'] <;> rfl
  · rcases a10 with e | e <;> rcases b10 with e' | e' <;> rw [e, e'] <;> rfl
  · rw [b2] at a11
    rcases a11 with e | e <;> rcases b11 with e' | e' <;> rw [e, e'] <;> simp
end SymbolFields

section Whole
variable [Hypot Rat]

/-- the hypotheses on the configuration: the DC blocker can be built, the timing loop's limits are
    ordered and non-negative (what `0 ≤ sps` gives: `DspThm.tl_new_bounds`), and `A` bounds the
    proportional gain of both loop bandwidths -/
structure SilCfg (c : RxCfg Rat) (spt pmin pmax A : Rat) : Prop where
  dcLen : 0 < c.dcLen
  pmin0 : 0 ≤ pmin
  min_spt : pmin ≤ spt
  spt_max : spt ≤ pmax
  alphaU : c.alphaU.abs ≤ A
  alphaL : c.alphaL.abs ≤ A

omit [Hypot Rat] in
theorem SilCfg.A0 {c : RxCfg Rat} {spt pmin pmax A : Rat} (h : SilCfg c spt pmin pmax A) : 0 ≤ A :=
  Rat.le_trans Rat.abs_nonneg h.alphaU

omit [Hypot Rat] in
theorem SilCfg.pmax0 {c : RxCfg Rat} {spt pmin pmax A : Rat} (h : SilCfg c spt pmin pmax A) : 0 ≤ pmax :=
  Rat.le_trans h.pmin0 (Rat.le_trans h.min_spt h.spt_max)

/-- an upper bound on the number of input samples until the next symbol tick: the samples until the
    sample clock fires next, plus — when the TED has just produced a symbol, so that the next
    low-rate sample produces none — one more low-rate period -/
def tickPot (pmax A : Rat) (r : FullRx Rat) : Rat :=
  max 1 (r.untilNext + 1 / 2 - (r.tedClock : Rat)) + (if r.tl.ted.counter = 1 then pmax + A + 3 / 2 else 0)

/-- the invariant of a running whole receiver over the rationals -/
structure SilInv (c : RxCfg Rat) (spt pmin pmax A : Rat) (r : FullRx Rat) : Prop where
  cfg : r.cfg = c
  ffGood : MovGood c.dcLen r.dc.ff
  fbGood : MovGood c.dcLen r.dc.fb
  agc : r.agc.minGain ≤ r.agc.maxGain
  tl : TlRInv spt pmin pmax A r.tl
  pot : tickPot pmax A r ≤ 2 * pmax + 2 * A + 5 / 2
  pt : PtInv r.pt
  link : SilenceAux.LinkInv r.link
  win : r.demod.window.length ≤ max 1 c.mark.length

/-- what the front end did at one sample, field by field (`y` is the DC blocker's output) -/
structure FrontOut (r : FullRx Rat) (x y : Rat) (q : FullRx Rat) (sym : Option (SymEst Rat)) : Prop where
  dcEq : r.dc.filter x = some (q.dc, y)
  agcEq : r.agc.input y = some (q.agc, y * r.agc.gain)
  demod : q.demod = r.demod.push (y * r.agc.gain)
  cfg : q.cfg = r.cfg
  pt : q.pt = r.pt
  link : q.link = r.link
  rx : q.rx = r.rx
  counter : q.inputCounter = r.inputCounter + 1
  clock : (clockFires r.untilNext (r.tedClock + 1) = false ∧ sym = none ∧ q.tl = r.tl ∧
            q.tedClock = r.tedClock + 1 ∧ q.untilNext = r.untilNext) ∨
          (clockFires r.untilNext (r.tedClock + 1) = true ∧ q.tedClock = 0 ∧
            ∃ saLow, q.demod.demod = some saLow ∧
              r.tl.input saLow (clockRemaining r.untilNext (r.tedClock + 1)) = some (q.tl, q.untilNext, sym))

theorem front_R {c : RxCfg Rat} {spt pmin pmax A : Rat} {r : FullRx Rat} (hc : SilCfg c spt pmin pmax A)
    (h : SilInv c spt pmin pmax A r) (x : Rat) :
    ∃ q sym y, r.front x = some (q, sym) ∧ FrontOut r x y q sym := by
  obtain ⟨dc, y, e1, _, _⟩ := dcGood_filter h.ffGood h.fbGood hc.dcLen x
  obtain ⟨agc, e2, _, _⟩ := agc_input_rat h.agc y
  cases hfire : clockFires r.untilNext (r.tedClock + 1) with
  | false =>
    exact ⟨_, none, y,
      FullRx.front_eq_some_iff.2 ⟨dc, y, agc, _, e1, e2, Or.inl ⟨hfire, rfl, rfl⟩⟩,
      ⟨e1, e2, rfl, rfl, rfl, rfl, rfl, rfl, Or.inl ⟨hfire, rfl, rfl, rfl, rfl⟩⟩⟩
  | true =>
    obtain ⟨saLow, e3, _, _⟩ := demod_bounds (r.demod.push (y * r.agc.gain))
    obtain ⟨tl, u, sym, e4, _⟩ := tlR_input h.tl hc.pmin0 (Rat.le_trans hc.min_spt hc.spt_max) saLow
      (clockRemaining r.untilNext (r.tedClock + 1))
    exact ⟨_, sym, y,
      FullRx.front_eq_some_iff.2 ⟨dc, y, agc, _, e1, e2, Or.inr ⟨hfire, saLow, tl, u, e3, e4, rfl⟩⟩,
      ⟨e1, e2, rfl, rfl, rfl, rfl, rfl, rfl, Or.inr ⟨hfire, rfl, saLow, e3, e4⟩⟩⟩

theorem front_inv_common {c : RxCfg Rat} {spt pmin pmax A : Rat} {r q : FullRx Rat} {x y : Rat}
    {sym : Option (SymEst Rat)} (hc : SilCfg c spt pmin pmax A) (h : SilInv c spt pmin pmax A r)
    (hf : FrontOut r x y q sym) :
    q.cfg = c ∧ MovGood c.dcLen q.dc.ff ∧ MovGood c.dcLen q.dc.fb ∧ q.agc.minGain ≤ q.agc.maxGain ∧
      q.demod.window.length ≤ max 1 c.mark.length ∧ PtInv q.pt ∧ SilenceAux.LinkInv q.link := by
  obtain ⟨dc, y', e1, g1, g2⟩ := dcGood_filter h.ffGood h.fbGood hc.dcLen x
  obtain ⟨agc, e2, m1, m2⟩ := agc_input_rat h.agc y
  cases e1.symm.trans hf.dcEq
  cases e2.symm.trans hf.agcEq
  refine ⟨hf.cfg.trans h.cfg, g1, g2, ?_, ?_, hf.pt ▸ h.pt, hf.link ▸ h.link⟩
  · rw [m1, m2]; exact h.agc
  · rw [hf.demod]; exact push_length_le _ _ (by omega) h.win

omit [Hypot Rat] in
/-- one more sample counted while the clock is at least a sample and a half away: the first summand of
    `tickPot` falls by one -/
theorem max_one_sub_succ {u k P : Rat} (h : 1 / 2 ≤ u - (k + 1)) :
    max 1 (u + 1 / 2 - (k + 1)) + P = max 1 (u + 1 / 2 - k) + P - 1 := by
  grind

omit [Hypot Rat] in
/-- the tick potential right after the sample clock fired, as arithmetic: `u` is the new `untilNext`,
    `k` the new TED counter; when no symbol was produced (`k ≠ 1`) only the first summand is left, and
    that is at least one less than any potential that included the second -/
theorem pot_after_fire {P A u : Rat} {k : Nat} (hP : 0 ≤ P) (hA : 0 ≤ A) (hu : u ≤ P + A + 1)
    (hs : k = 1 → u ≤ P + A + 1 / 2) :
    max 1 (u + 1 / 2 - 0) + (if k = 1 then P + A + 3 / 2 else 0) ≤ 2 * P + 2 * A + 5 / 2 ∧
      (k ≠ 1 → ∀ v, max 1 (u + 1 / 2 - 0) + (if k = 1 then P + A + 3 / 2 else 0) ≤
        max 1 v + (P + A + 3 / 2) - 1) := by
  split <;> grind

theorem front_tl {c : RxCfg Rat} {spt pmin pmax A : Rat} {r q : FullRx Rat} {x y : Rat}
    {sym : Option (SymEst Rat)} (hc : SilCfg c spt pmin pmax A) (h : SilInv c spt pmin pmax A r)
    (hf : FrontOut r x y q sym) :
    TlRInv spt pmin pmax A q.tl ∧ tickPot pmax A q ≤ 2 * pmax + 2 * A + 5 / 2 ∧
      (sym = none → tickPot pmax A q ≤ tickPot pmax A r - 1) ∧
      (∀ s, sym = some s → q.tl.ted.counter = 1 ∧ -1 ≤ s.sym ∧ s.sym ≤ 1) := by
  have hA := hc.A0
  have hP := hc.pmax0
  have hpot := h.pot
  rcases hf.clock with ⟨hfire, hs, htl, hck, hun⟩ | ⟨hfire, hck, saLow, hd, hin⟩
  · have hfire' := (clockFires_rat_false _ _).1 hfire
    rw [natCast_succ_rat] at hfire'
    have hq : tickPot pmax A q = tickPot pmax A r - 1 := by
      unfold tickPot
      rw [htl, hck, hun, natCast_succ_rat]
      exact max_one_sub_succ hfire'
    refine ⟨htl ▸ h.tl, by grind, fun _ => by grind, ?_⟩
    intro s hs'; rw [hs] at hs'; cases hs'
  · obtain ⟨l', u, sym', e, hinv, hiff, u1, u2, u3, hted, hsym⟩ := tlR_input h.tl hc.pmin0
      (Rat.le_trans hc.min_spt hc.spt_max) saLow (clockRemaining r.untilNext (r.tedClock + 1))
    cases e.symm.trans hin
    have hcnt : q.tl.ted.counter = (r.tl.ted.counter + 1) % 2 := by rw [hted, ted_input_counter]
    have hr := h.tl.counter
    have hzero : ((q.tedClock : Nat) : Rat) = 0 := by rw [hck]; rfl
    obtain ⟨p1, p2⟩ := pot_after_fire (k := q.tl.ted.counter) hP hA u2
      (fun hk => (u3 (hiff.2 (by omega))).2)
    refine ⟨hinv, ?_, ?_, ?_⟩
    · unfold tickPot
      rw [hzero]
      exact p1
    · intro hs
      have hz : r.tl.ted.counter = 1 := by
        have : ¬ r.tl.ted.counter = 0 := by
          intro hz; have := hiff.2 hz; rw [hs] at this; cases this
        omega
      unfold tickPot
      rw [hzero, if_pos hz]
      exact p2 (by omega) _
    · intro s hs
      have hz : r.tl.ted.counter = 0 := hiff.1 (by rw [hs]; rfl)
      refine ⟨by omega, ?_⟩
      obtain ⟨y', ey, b1, b2⟩ := demod_bounds q.demod
      rw [hd] at ey; cases ey
      rw [ted_input_sym r.tl.ted saLow s (hsym ▸ hs)]
      exact ⟨b1, b2⟩

omit [Hypot Rat] in
theorem symbol_inv_R {c : RxCfg Rat} {spt pmin pmax A : Rat} {q : FullRx Rat} {s : SymEst Rat}
    (hc : SilCfg c spt pmin pmax A) (hq : SilInv c spt pmin pmax A q) (h9 : q.tl.ted.counter = 1)
    (hs1 : -1 ≤ s.sym) (hs2 : s.sym ≤ 1) :
    SilInv c spt pmin pmax A (q.symbol s).1 := by
  obtain ⟨hcfg, h1, h2, h3, h7, h8, h5, h6, h4⟩ := hq
  obtain ⟨f1, f2, f3, f4, f5, f6, f7, f8⟩ := FullRx.symbol_front_fields q s
  obtain ⟨g1, _, _, _, _⟩ := FullRx.symbol_refines q s
  have hA := hc.A0
  have hP := hc.pmax0
  have haU : q.cfg.alphaU.abs ≤ A := hcfg ▸ hc.alphaU
  have haL : q.cfg.alphaL.abs ≤ A := hcfg ▸ hc.alphaL
  have htl : TlRInv spt pmin pmax A (q.symbol s).1.tl ∧
      ((q.symbol s).1.tl.ted.counter = 1 ∨ (q.symbol s).1.tl.ted.counter = 0) := by
    rcases f8 with e | e | e | e <;> rw [e]
    · exact ⟨h7, Or.inl h9⟩
    · exact ⟨tlR_setGains h7 _ _ haL, Or.inl h9⟩
    · exact ⟨tlR_reset (tlR_setGains h7 _ _ haU) hc.min_spt hc.spt_max, Or.inr rfl⟩
    · exact ⟨tlR_reset (tlR_setGains (tlR_setGains h7 _ _ haL) _ _ haU) hc.min_spt hc.spt_max, Or.inr rfl⟩
  refine ⟨f1.trans hcfg, f2 ▸ h1, f2 ▸ h2, by rw [f6, f7]; exact h3, htl.1, ?_, ?_, ?_, f3 ▸ h4⟩
  · unfold tickPot at h8 ⊢
    rw [f4, f5]
    rw [if_pos h9] at h8
    rcases htl.2 with e | e
    · rw [if_pos e]; exact h8
    · rw [if_neg (by omega)]; grind
  · rw [FullRx.symbol_pt]; exact (pt_track_inv h5 hs1 hs2).1
  · rw [g1]; exact SilenceAux.linkInv_iff.2 (linkInv_step _ _ _ _ (SilenceAux.linkInv_iff.1 h6))

theorem sample_R {c : RxCfg Rat} {spt pmin pmax A : Rat} {r : FullRx Rat} (hc : SilCfg c spt pmin pmax A)
    (h : SilInv c spt pmin pmax A r) (x : Rat) :
    ∃ q sym y, r.front x = some (q, sym) ∧ FrontOut r x y q sym ∧
      r.sample x = some (FullRx.finish (q, sym)) ∧ SilInv c spt pmin pmax A (FullRx.finish (q, sym)).1 ∧
      (sym = none → tickPot pmax A (FullRx.finish (q, sym)).1 ≤ tickPot pmax A r - 1) ∧
      (∀ s, sym = some s → -1 ≤ s.sym ∧ s.sym ≤ 1) := by
  obtain ⟨q, sym, y, e, hf⟩ := front_R hc h x
  obtain ⟨c1, c2, c3, c4, c5, c6, c7⟩ := front_inv_common hc h hf
  obtain ⟨t1, t2, t3, t4⟩ := front_tl hc h hf
  have hq : SilInv c spt pmin pmax A q := ⟨c1, c2, c3, c4, t1, t2, c6, c7, c5⟩
  refine ⟨q, sym, y, e, hf, by rw [FullRx.sample_eq, e]; rfl, ?_, ?_, fun s hs => (t4 s hs).2⟩
  · cases sym with
    | none => exact hq
    | some s =>
      obtain ⟨k1, k2, k3⟩ := t4 s rfl
      exact symbol_inv_R hc hq k1 k2 k3
  · intro hs; subst hs; exact t3 rfl

/-! ### runs -/

/-- the stamped tick the discrete part is fed at this sample, given what the front end returned -/
def ticksOf (q : FullRx Rat) : Option (SymEst Rat) → List (Nat × Tick)
  | some s => [(q.inputCounter, q.tickOf s)]
  | none => []

theorem trace_cons_R {c : RxCfg Rat} {spt pmin pmax A : Rat} {r r' : FullRx Rat} (hc : SilCfg c spt pmin pmax A)
    (h : SilInv c spt pmin pmax A r) {x : Rat} {xs : List Rat} {tr : List (Nat × Tick)}
    (ht : FullRx.trace r (x :: xs) = some (r', tr)) :
    ∃ q sym y tr', FrontOut r x y q sym ∧ SilInv c spt pmin pmax A (FullRx.finish (q, sym)).1 ∧
      (sym = none → tickPot pmax A (FullRx.finish (q, sym)).1 ≤ tickPot pmax A r - 1) ∧
      (∀ s, sym = some s → -1 ≤ s.sym ∧ s.sym ≤ 1) ∧
      FullRx.trace (FullRx.finish (q, sym)).1 xs = some (r', tr') ∧ tr = ticksOf q sym ++ tr' := by
  obtain ⟨q, sym, y, e, hf, es, hinv, hpot, hsym⟩ := sample_R hc h x
  obtain ⟨r1, ev, tr', hs, ht', rfl⟩ := FullRx.trace_cons_some.1 ht
  have hr : (FullRx.finish (q, sym)).1 = r1 := congrArg Prod.fst (Option.some.inj (es.symm.trans hs))
  subst hr
  refine ⟨q, sym, y, tr', hf, hinv, hpot, hsym, ht', ?_⟩
  unfold FullRx.tickAt
  rw [e]
  cases sym <;> rfl

theorem trace_total {c : RxCfg Rat} {spt pmin pmax A : Rat} (hc : SilCfg c spt pmin pmax A) (xs : List Rat) :
    ∀ r : FullRx Rat, SilInv c spt pmin pmax A r →
      ∃ r' tr, FullRx.trace r xs = some (r', tr) ∧ SilInv c spt pmin pmax A r' := by
  induction xs with
  | nil => intro r h; exact ⟨r, [], rfl, h⟩
  | cons x xs ih =>
    intro r h
    obtain ⟨q, sym, y, _, _, es, hinv, _⟩ := sample_R hc h x
    obtain ⟨r', tr, e, h'⟩ := ih _ hinv
    exact ⟨r', _, FullRx.trace_cons_some.2 ⟨_, _, tr, es, e, rfl⟩, h'⟩

omit [Hypot Rat] in
theorem tickPot_ge_one {c : RxCfg Rat} {spt pmin pmax A : Rat} (hc : SilCfg c spt pmin pmax A) (r : FullRx Rat) :
    1 ≤ tickPot pmax A r := by
  have hA := hc.A0
  have hP := hc.pmax0
  unfold tickPot
  split <;> grind

theorem tick_within {c : RxCfg Rat} {spt pmin pmax A : Rat} (hc : SilCfg c spt pmin pmax A) (xs : List Rat) :
    ∀ (r : FullRx Rat) (k : Nat), SilInv c spt pmin pmax A r → tickPot pmax A r ≤ (k : Rat) → k ≤ xs.length →
      ∀ r' tr, FullRx.trace r xs = some (r', tr) → 1 ≤ tr.length := by
  induction xs with
  | nil =>
    intro r k h hk hlen r' tr _
    have hk0 : k = 0 := by simpa using hlen
    subst hk0
    exact absurd (Rat.le_trans (tickPot_ge_one hc r) hk) (by decide +kernel)
  | cons x xs ih =>
    intro r k h hk hlen r' tr ht
    obtain ⟨q, sym, y, tr2, _, hinv, hpot, _, e, rfl⟩ := trace_cons_R hc h ht
    cases sym with
    | some s => simp [ticksOf]
    | none =>
      have hp := hpot rfl
      cases k with
      | zero => exact absurd (Rat.le_trans (tickPot_ge_one hc r) hk) (by decide +kernel)
      | succ m =>
        rw [natCast_succ_rat] at hk
        have := ih _ m hinv (by grind) (by simpa using hlen) r' tr2 e
        simpa [ticksOf] using this

theorem ticks_ge {c : RxCfg Rat} {spt pmin pmax A : Rat} (hc : SilCfg c spt pmin pmax A) {G : Nat}
    (hG : 2 * pmax + 2 * A + 5 / 2 ≤ (G : Rat)) (m : Nat) : ∀ (xs : List Rat) (r : FullRx Rat),
      SilInv c spt pmin pmax A r → m * G ≤ xs.length →
      ∀ r' tr, FullRx.trace r xs = some (r', tr) → m ≤ tr.length := by
  induction m with
  | zero => intro xs r _ _ r' tr _; omega
  | succ m ih =>
    intro xs r h hlen r' tr ht
    obtain ⟨r1, t1, e1, h1⟩ := trace_total hc (xs.take G) r h
    obtain ⟨r2, t2, e2, _⟩ := trace_total hc (xs.drop G) r1 h1
    have e := FullRx.trace_append e1 e2
    rw [List.take_append_drop, ht] at e
    cases e
    have hG' : G ≤ xs.length := by rw [Nat.succ_mul] at hlen; omega
    have a := tick_within hc (xs.take G) r G h (Rat.le_trans h.pot hG) (by simp; omega) r1 t1 e1
    have b := ih (xs.drop G) r1 h1 (by rw [List.length_drop, Nat.succ_mul] at *; omega) _ t2 e2
    rw [List.length_append]; omega

/-! ### zero input: the phases -/

omit [Hypot Rat] in
theorem finish_fields (q : FullRx Rat) (sym : Option (SymEst Rat)) :
    (FullRx.finish (q, sym)).1.dc = q.dc ∧ (FullRx.finish (q, sym)).1.demod = q.demod ∧
    (FullRx.finish (q, sym)).1.cfg = q.cfg ∧
    (FullRx.finish (q, sym)).1.pt = (match sym with | none => q.pt | some s => q.pt.track s.sym) ∧
    (q.tl.ted.h2 = 0 → (FullRx.finish (q, sym)).1.tl.ted.h2 = 0) := by
  cases sym with
  | none => exact ⟨rfl, rfl, rfl, rfl, fun h => h⟩
  | some s =>
    obtain ⟨f1, f2, f3, _, _, _, _, f8⟩ := FullRx.symbol_front_fields q s
    simp only [FullRx.finish]
    refine ⟨f2, f3, f1, FullRx.symbol_pt q s, fun h => ?_⟩
    rcases f8 with e | e | e | e <;> rw [e]
    · exact h
    · exact h
    · rfl
    · rfl

theorem front_ted {c : RxCfg Rat} {spt pmin pmax A : Rat} {r q : FullRx Rat} {x y : Rat}
    {sym : Option (SymEst Rat)} (hc : SilCfg c spt pmin pmax A) (h : SilInv c spt pmin pmax A r)
    (hf : FrontOut r x y q sym) :
    (sym = none ∧ q.tl = r.tl) ∨
      ∃ saLow, q.demod.demod = some saLow ∧ q.tl.ted = (r.tl.ted.input saLow).1 ∧
        sym = (r.tl.ted.input saLow).2 := by
  rcases hf.clock with ⟨_, hs, htl, _, _⟩ | ⟨_, _, saLow, hd, hin⟩
  · exact Or.inl ⟨hs, htl⟩
  · obtain ⟨l', u, sym', e, _, _, _, _, _, hted, hsym⟩ := tlR_input h.tl hc.pmin0
      (Rat.le_trans hc.min_spt hc.spt_max) saLow (clockRemaining r.untilNext (r.tedClock + 1))
    cases e.symm.trans hin
    exact Or.inr ⟨saLow, hd, hted, hsym⟩

/-- the state after `j` zero input samples: the DC blocker's zero tails, and the demodulator window's
    (which starts to fill with zeros once the DC blocker's output is zero, after `2 * dcLen` samples) -/
structure ZPh (c : RxCfg Rat) (j : Nat) (r : FullRx Rat) : Prop where
  dc : DcConst c.dcLen 0 j r.dc
  win : WinZ (max 1 c.mark.length) (j - 2 * c.dcLen) r.demod.window

omit [Hypot Rat] in
theorem zph_start {c : RxCfg Rat} {spt pmin pmax A : Rat} {r : FullRx Rat} (h : SilInv c spt pmin pmax A r) :
    ZPh c 0 r :=
  ⟨dcConst_start h.ffGood h.fbGood 0, by simpa using winZ_start h.win⟩

theorem zph_step {c : RxCfg Rat} {spt pmin pmax A : Rat} {r q : FullRx Rat} {y : Rat} {j : Nat}
    {sym : Option (SymEst Rat)} (hc : SilCfg c spt pmin pmax A) (h : SilInv c spt pmin pmax A r)
    (hz : ZPh c j r) (hf : FrontOut r 0 y q sym) : ZPh c (j + 1) (FullRx.finish (q, sym)).1 := by
  obtain ⟨f1, f2, _⟩ := finish_fields q sym
  obtain ⟨d', y', e, hd, hy⟩ := dcConst_filter hz.dc hc.dcLen (Or.inr rfl)
  cases e.symm.trans hf.dcEq
  refine ⟨f1 ▸ hd, ?_⟩
  rw [f2]
  by_cases hj : 2 * c.dcLen ≤ j
  · have hy0 := hy (by omega)
    rw [hf.demod, hy0, Rat.zero_mul, show j + 1 - 2 * c.dcLen = (j - 2 * c.dcLen) + 1 by omega]
    exact winZ_push hz.win
  · rw [show j + 1 - 2 * c.dcLen = 0 by omega]
    exact winZ_start (front_inv_common hc h hf).2.2.2.2.1

/-- the front end has forgotten everything: DC blocker in its all-zero state, demodulator window all zero -/
structure ZQuiet (c : RxCfg Rat) (r : FullRx Rat) : Prop where
  dc : DcZero c.dcLen r.dc
  win : ∀ x ∈ r.demod.window, x = 0

omit [Hypot Rat] in
theorem zquiet_of_zph {c : RxCfg Rat} {j : Nat} {r : FullRx Rat} (hz : ZPh c j r) (hl : 0 < c.dcLen)
    (hj : 2 * c.dcLen + max 1 c.mark.length ≤ j) : ZQuiet c r :=
  ⟨dcZero_of_dcConst hz.dc hl (by omega), winZ_all_zero hz.win (by omega)⟩

theorem zquiet_step {c : RxCfg Rat} {spt pmin pmax A : Rat} {r q : FullRx Rat} {y : Rat}
    {sym : Option (SymEst Rat)} (hc : SilCfg c spt pmin pmax A) (h : SilInv c spt pmin pmax A r)
    (hz : ZQuiet c r) (hf : FrontOut r 0 y q sym) :
    ZQuiet c (FullRx.finish (q, sym)).1 ∧ y = 0 ∧ (∀ s, sym = some s → s.sym = 0) ∧
      ((sym ≠ none ∨ r.tl.ted.h2 = 0) → (FullRx.finish (q, sym)).1.tl.ted.h2 = 0) ∧
      (r.tl.ted.h2 = 0 → ∀ s, sym = some s → s = ⟨0, 0, 0⟩) := by
  obtain ⟨f1, f2, _, _, f5⟩ := finish_fields q sym
  obtain ⟨d', e, hd⟩ := dcZero_filter hz.dc hc.dcLen
  cases e.symm.trans hf.dcEq
  have hdem : q.demod = r.demod.push 0 := by rw [hf.demod, Rat.zero_mul]
  have hwin : ∀ x ∈ q.demod.window, x = 0 := by rw [hdem]; exact push_all_zero _ hz.win
  refine ⟨⟨f1 ▸ hd, f2 ▸ hwin⟩, rfl, ?_⟩
  rcases front_ted hc h hf with ⟨hn, htl⟩ | ⟨saLow, e1, e2, e3⟩
  · subst hn
    refine ⟨fun s hs => (nomatch hs), fun hor => f5 ?_, fun _ s hs => (nomatch hs)⟩
    rcases hor with hne | h2
    · exact absurd rfl hne
    · rw [htl]; exact h2
  · rw [demod_zero _ hwin] at e1
    cases e1
    refine ⟨fun s hs => ted_input_sym _ _ s (e3 ▸ hs), fun _ => f5 ?_,
      fun h2 s hs => ted_input_zero h2 s (e3 ▸ hs)⟩
    rw [e2]; exact ted_input_h2 _ _

/-- the list of `n` zero samples: what `flush()` feeds -/
def zeros (n : Nat) : List Rat := List.replicate n 0

omit [Hypot Rat] in
theorem zeros_succ (n : Nat) : zeros (n + 1) = 0 :: zeros n := List.replicate_succ

omit [Hypot Rat] in
theorem zeros_add (m n : Nat) : zeros (m + n) = zeros m ++ zeros n := by
  simp [zeros, List.replicate_append_replicate]

theorem trace_zeros_add {r r1 r2 : FullRx Rat} {a b : Nat} {t1 t2 : List (Nat × Tick)}
    (e1 : FullRx.trace r (zeros a) = some (r1, t1)) (e2 : FullRx.trace r1 (zeros b) = some (r2, t2)) :
    FullRx.trace r (zeros (a + b)) = some (r2, t1 ++ t2) := by
  rw [zeros_add]; exact FullRx.trace_append e1 e2

theorem zph_run {c : RxCfg Rat} {spt pmin pmax A : Rat} (hc : SilCfg c spt pmin pmax A) (n : Nat) :
    ∀ (j : Nat) (r : FullRx Rat), SilInv c spt pmin pmax A r → ZPh c j r →
      ∀ r' tr, FullRx.trace r (zeros n) = some (r', tr) → ZPh c (j + n) r' := by
  induction n with
  | zero =>
    intro j r _ hz r' tr ht
    obtain ⟨rfl, _⟩ := FullRx.trace_nil_some.1 ht
    exact hz
  | succ n ih =>
    intro j r h hz r' tr ht
    rw [zeros_succ] at ht
    obtain ⟨q, sym, y, tr2, hf, hinv, _, _, e, _⟩ := trace_cons_R hc h ht
    have := ih (j + 1) _ hinv (zph_step hc h hz hf) r' tr2 e
    rwa [show j + 1 + n = j + (n + 1) by omega] at this

/-- the observation the squelch makes on a zero soft symbol -/
def zeroObs (c : RxCfg Rat) (p : PowerTracker Rat) : Obs :=
  ⟨true, ge (p.track 0).power c.powerOpen, ge (p.track 0).power c.powerClose⟩

theorem zquiet_run {c : RxCfg Rat} {spt pmin pmax A : Rat} (hc : SilCfg c spt pmin pmax A) (n : Nat) :
    ∀ (r : FullRx Rat), SilInv c spt pmin pmax A r → ZQuiet c r →
      ∀ r' tr, FullRx.trace r (zeros n) = some (r', tr) →
        ZQuiet c r' ∧ SilInv c spt pmin pmax A r' ∧ r'.pt = r.pt.trackZeros tr.length ∧
        (∀ t ∈ tr, t.2.1.bit = true) ∧
        (r.pt.power < c.powerClose → c.powerClose ≤ c.powerOpen → SilenceAux.AllSilent (tr.map (·.2))) := by
  induction n with
  | zero =>
    intro r h hz r' tr ht
    obtain ⟨rfl, rfl⟩ := FullRx.trace_nil_some.1 ht
    exact ⟨hz, h, rfl, by simp, fun _ _ _ hx => nomatch hx⟩
  | succ n ih =>
    intro r h hz r' tr ht
    rw [zeros_succ] at ht
    obtain ⟨q, sym, y, tr2, hf, hinv, _, _, e, rfl⟩ := trace_cons_R hc h ht
    obtain ⟨hq, _, hs0, _, _⟩ := zquiet_step hc h hz hf
    obtain ⟨i1, i2, i3, i4, i5⟩ := ih _ hinv hq r' tr2 e
    obtain ⟨_, _, _, fpt, _⟩ := finish_fields q sym
    cases sym with
    | none =>
      simp only [hf.pt] at fpt
      refine ⟨i1, i2, by simpa [ticksOf, fpt] using i3, by simpa [ticksOf] using i4, ?_⟩
      intro hp ho
      simpa [ticksOf] using i5 (by rw [fpt]; exact hp) ho
    | some s =>
      have hs : s.sym = 0 := hs0 s rfl
      simp only [hf.pt, hs] at fpt
      have hobs : q.obsOf s = zeroObs c r.pt := by
        unfold FullRx.obsOf zeroObs
        rw [hf.pt, hs, hf.cfg, h.cfg]
        simp [ge]
      refine ⟨i1, i2, ?_, ?_, ?_⟩
      · rw [i3, fpt]; simp [ticksOf, PowerTracker.trackZeros]
      · intro t ht
        simp only [ticksOf, List.cons_append, List.nil_append, List.mem_cons] at ht
        rcases ht with rfl | ht
        · simp [FullRx.tickOf, hobs, zeroObs]
        · exact i4 t ht
      · intro hp ho t ht
        have hlt : (r.pt.track 0).power < c.powerClose := Std.lt_of_le_of_lt (pt_track_zero_le h.pt) hp
        simp only [ticksOf, List.cons_append, List.nil_append, List.map_cons, List.mem_cons] at ht
        rcases ht with rfl | ht
        · simp only [FullRx.tickOf, hobs, zeroObs, ge, rat_le, decide_eq_false_iff_not]
          exact ⟨Rat.not_le.2 (Std.lt_of_lt_of_le hlt ho), Rat.not_le.2 hlt⟩
        · exact i5 (by rw [fpt]; exact hlt) ho t ht

/-! ### from the trace to the discrete chain -/

theorem trace_bw {c : RxCfg Rat} {spt pmin pmax A : Rat} (hc : SilCfg c spt pmin pmax A) (xs : List Rat) :
    ∀ (r : FullRx Rat), SilInv c spt pmin pmax A r → ∀ r' tr, FullRx.trace r xs = some (r', tr) →
      r'.pt.bandwidth = r.pt.bandwidth := by
  induction xs with
  | nil =>
    intro r _ r' tr ht
    rw [(FullRx.trace_nil_some.1 ht).1]
  | cons x xs ih =>
    intro r h r' tr ht
    obtain ⟨q, sym, y, tr2, hf, hinv, _, _, e, _⟩ := trace_cons_R hc h ht
    rw [ih _ hinv r' tr2 e, (finish_fields q sym).2.2.2.1]
    cases sym <;> simp [hf.pt, PowerTracker.track]

/-- the receiver has gone idle: the front end has forgotten everything, the tracked power is below the
    closing threshold, the link is unsynchronised, unlocked, with an idle framer -/
structure Idle (c : RxCfg Rat) (r : FullRx Rat) : Prop where
  quiet : ZQuiet c r
  power : r.pt.power < c.powerClose
  link : SilenceAux.QuietState r.link

/-- phase (a): `2 * dcLen + max 1 mark.length` zero samples empty the DC blocker and the demodulator -/
theorem zeros_to_quiet {c : RxCfg Rat} {spt pmin pmax A : Rat} {r : FullRx Rat} (hc : SilCfg c spt pmin pmax A)
    (h : SilInv c spt pmin pmax A r) {n : Nat} (hn : 2 * c.dcLen + max 1 c.mark.length ≤ n) :
    ∃ r' tr, FullRx.trace r (zeros n) = some (r', tr) ∧ SilInv c spt pmin pmax A r' ∧ ZQuiet c r' ∧
      r'.pt.bandwidth = r.pt.bandwidth := by
  obtain ⟨r', tr, e, h'⟩ := trace_total hc (zeros n) r h
  have := zph_run hc n 0 r h (zph_start h) r' tr e
  exact ⟨r', tr, e, h', zquiet_of_zph this hc.dcLen (by omega), trace_bw hc _ r h r' tr e⟩

/-- phase (b): `K` symbol ticks on zeros bring the power below the closing threshold when
    `(1 - bandwidth) ^ K` is below it; `K * G` samples contain that many -/
theorem zeros_to_lowpower {c : RxCfg Rat} {spt pmin pmax A : Rat} {r : FullRx Rat} (hc : SilCfg c spt pmin pmax A)
    (h : SilInv c spt pmin pmax A r) (hz : ZQuiet c r) {G K : Nat}
    (hG : 2 * pmax + 2 * A + 5 / 2 ≤ (G : Rat)) (hK : (1 - r.pt.bandwidth) ^ K < c.powerClose)
    {n : Nat} (hn : K * G ≤ n) :
    ∃ r' tr, FullRx.trace r (zeros n) = some (r', tr) ∧ SilInv c spt pmin pmax A r' ∧ ZQuiet c r' ∧
      r'.pt.power < c.powerClose := by
  obtain ⟨r', tr, e, h'⟩ := trace_total hc (zeros n) r h
  obtain ⟨z1, _, z3, _, _⟩ := zquiet_run hc n r h hz r' tr e
  have hlen := ticks_ge hc hG K (zeros n) r h (by simpa [zeros] using hn) r' tr e
  refine ⟨r', tr, e, h', z1, ?_⟩
  rw [z3]
  exact Std.lt_of_le_of_lt (pt_trackZeros_decay h.pt hlen) hK

/-- phase (c): 32 further ticks, all below both thresholds, un-wedge the link (`no_wedge`) -/
theorem zeros_to_idle {c : RxCfg Rat} {spt pmin pmax A : Rat} {r : FullRx Rat} (hc : SilCfg c spt pmin pmax A)
    (h : SilInv c spt pmin pmax A r) (hz : ZQuiet c r) (hp : r.pt.power < c.powerClose)
    (hco : c.powerClose ≤ c.powerOpen) {G : Nat} (hG : 2 * pmax + 2 * A + 5 / 2 ≤ (G : Rat))
    {n : Nat} (hn : 32 * G ≤ n) :
    ∃ r' tr, FullRx.trace r (zeros n) = some (r', tr) ∧ SilInv c spt pmin pmax A r' ∧ Idle c r' := by
  obtain ⟨r', tr, e, h'⟩ := trace_total hc (zeros n) r h
  obtain ⟨z1, _, z3, _, z5⟩ := zquiet_run hc n r h hz r' tr e
  have hlen := ticks_ge hc hG 32 (zeros n) r h (by simpa [zeros] using hn) r' tr e
  obtain ⟨_, _, _, _, _, hl⟩ := FullRx.trace_run e
  obtain ⟨w, _⟩ := SilenceAux.no_wedge r.cfg.lcfg r.link _ h.link (by simpa using hlen) (z5 hp hco)
  refine ⟨r', tr, e, h', ⟨z1, ?_, hl ▸ w⟩⟩
  rw [z3]
  exact Std.lt_of_le_of_lt (pt_trackZeros_le h.pt _) hp

/-- phase (d): idle stays idle on zeros, and every symbol tick reports `NoCarrier` -/
theorem idle_run {c : RxCfg Rat} {spt pmin pmax A : Rat} {r : FullRx Rat} (hc : SilCfg c spt pmin pmax A)
    (h : SilInv c spt pmin pmax A r) (hi : Idle c r) (hco : c.powerClose ≤ c.powerOpen) (n : Nat) :
    ∃ r' tr, FullRx.trace r (zeros n) = some (r', tr) ∧ SilInv c spt pmin pmax A r' ∧ Idle c r' ∧
      ∀ tk ∈ stampedTicks c.lcfg r.link tr, tk.2.2 = .noCarrier := by
  obtain ⟨r', tr, e, h'⟩ := trace_total hc (zeros n) r h
  obtain ⟨z1, _, z3, _, z5⟩ := zquiet_run hc n r h hi.quiet r' tr e
  obtain ⟨_, _, _, _, _, hl⟩ := FullRx.trace_run e
  obtain ⟨w1, w2⟩ := quietState_run c.lcfg _ r.link hi.link (z5 hi.power hco).closed
  refine ⟨r', tr, e, h', ⟨z1, ?_, ?_⟩, ?_⟩
  · rw [z3]; exact Std.lt_of_le_of_lt (pt_trackZeros_le h.pt _) hi.power
  · rw [hl, h.cfg]; exact w1
  · intro tk htk
    apply w2
    rw [← stampedTicks_links]
    exact List.mem_map.2 ⟨tk, htk, rfl⟩

/-! ### `flush()` -/

theorem ticks_before_timer {r r' : FullRx Rat} {xs : List Rat} {tr : List (Nat × Tick)}
    (e : FullRx.trace r xs = some (r', tr))
    (hforce : ∀ T, r.rx.forceEomAt = some T → r.inputCounter + xs.length ≤ T) :
    ∀ T, r.rx.forceEomAt = some T → ∀ tk ∈ stampedTicks r.cfg.lcfg r.link tr, tk.1 ≤ T := by
  intro T hT tk htk
  have := ((FullRx.trace_ticks_stamps e).2 tk htk).2
  have := hforce T hT
  omega

/-- **`flush()` from an idle receiver.**  The receiver is idle (front end empty, power below the
    closing threshold, link unsynchronised), result `t` is pending, and the forced end-of-message timer
    cannot fire within the `n` zero samples.  If `n` samples are enough for the symbol count to reach the
    deadline (`G` samples per tick suffice), the message is emitted. -/
theorem flush_from_idle {c : RxCfg Rat} {spt pmin pmax A : Rat} {r : FullRx Rat} (hc : SilCfg c spt pmin pmax A)
    (h : SilInv c spt pmin pmax A r) (hi : Idle c r) (hco : c.powerClose ≤ c.powerOpen)
    {G : Nat} (hG : 2 * pmax + 2 * A + 5 / 2 ≤ (G : Rat))
    (t : Timed MsgResult) (hh : C14.Holding r.rx t) (n : Nat)
    (hforce : ∀ T, r.rx.forceEomAt = some T → r.inputCounter + n ≤ T)
    (hn : max 1 (t.deadline - r.link.nsym) * G ≤ n) :
    ∃ r' evs smp, FullRx.run r (zeros n) = some (r', evs) ∧ SilInv c spt pmin pmax A r' ∧ Idle c r' ∧
      Event.transport smp (.message t.data) ∈ evs := by
  obtain ⟨r', tr, e, h', hi', hnc⟩ := idle_run hc h hi hco n
  obtain ⟨evs, er, _, ee, _, _⟩ := FullRx.trace_run e
  have hlen := ticks_ge hc hG (max 1 (t.deadline - r.link.nsym)) (zeros n) r h
    (by simpa [zeros] using hn) r' tr e
  obtain ⟨smp, hm⟩ := C14.flush_releases_consecutive r.cfg.rate r.rx t hh
    (stampedTicks r.cfg.lcfg r.link tr) r.link.nsym (h.cfg ▸ hnc)
    (stampedTicks_nsym r.cfg.lcfg tr r.link)
    (ticks_before_timer e (by simpa [zeros] using hforce))
    (by rw [stampedTicks_length]; omega) (by rw [stampedTicks_length]; omega)
  exact ⟨r', evs, smp, er, h', hi', ee ▸ hm⟩

/-- **`flush()` from any state, the result pending at the START.**  If the link reports no `Burst`
    while it drains (the first `n1` samples: no frame was in progress, and the silence is not taken for
    one), the pending result is emitted (`RxProv.hold_releases_run`): `Searching`/`Reading` ticks do not
    reach the assembler, and after the drain `NoCarrier` ticks with consecutive symbol counts keep coming. -/
theorem flush_no_burst {c : RxCfg Rat} {spt pmin pmax A : Rat} {r : FullRx Rat} (hc : SilCfg c spt pmin pmax A)
    (h : SilInv c spt pmin pmax A r) (hco : c.powerClose ≤ c.powerOpen)
    {G : Nat} (hG : 2 * pmax + 2 * A + 5 / 2 ≤ (G : Rat))
    {n1 : Nat} {rA : FullRx Rat} {trA : List (Nat × Tick)}
    (eA : FullRx.trace r (zeros n1) = some (rA, trA)) (hA : SilInv c spt pmin pmax A rA) (iA : Idle c rA)
    (hnb : ∀ tk ∈ stampedTicks c.lcfg r.link trA, ∀ b, tk.2.2 ≠ .burst b)
    (t : Timed MsgResult) (hh : C14.Holding r.rx t) (n2 : Nat)
    (hforce : ∀ T, r.rx.forceEomAt = some T → r.inputCounter + (n1 + n2) ≤ T)
    (hn2 : max 1 (t.deadline - r.link.nsym) * G ≤ n2) :
    ∃ r' evs smp, FullRx.run r (zeros (n1 + n2)) = some (r', evs) ∧ Idle c r' ∧
      Event.transport smp (.message t.data) ∈ evs := by
  obtain ⟨rB, trB, eB, _, iB, hnc⟩ := idle_run hc hA iA hco n2
  have hlenB := ticks_ge hc hG (max 1 (t.deadline - r.link.nsym)) (zeros n2) rA hA
    (by simpa [zeros] using hn2) rB trB eB
  have e := trace_zeros_add eA eB
  obtain ⟨evs, er, _, ee, _, _⟩ := FullRx.trace_run e
  obtain ⟨_, _, _, _, _, lA⟩ := FullRx.trace_run eA
  have hsplit : stampedTicks r.cfg.lcfg r.link (trA ++ trB)
      = stampedTicks r.cfg.lcfg r.link trA ++ stampedTicks r.cfg.lcfg rA.link trB := by
    rw [stampedTicks_append, lA]
  have k1 := stampedTicks_length r.cfg.lcfg trB rA.link
  have hnsym : r.link.nsym ≤ rA.link.nsym := by rw [lA, lrunState_nsym]; omega
  have hpos : 0 < (stampedTicks r.cfg.lcfg rA.link trB).length := by rw [k1]; omega
  rw [← h.cfg] at hnc hnb
  obtain ⟨_, smp, _, _, _, _, _, _, _, _, _, hm⟩ := RxProv.hold_releases_run r.cfg.rate r.rx t hh
    (stampedTicks r.cfg.lcfg r.link (trA ++ trB))
    (by
      intro tk htk b
      rw [hsplit] at htk
      rcases List.mem_append.1 htk with hA' | hB'
      · exact hnb tk hA' b
      · rw [hnc tk hB']; simp)
    (ticks_before_timer e (by simpa [zeros] using hforce))
    (by
      refine ⟨(stampedTicks r.cfg.lcfg rA.link trB)[(stampedTicks r.cfg.lcfg rA.link trB).length - 1]'(
        Nat.sub_lt hpos Nat.one_pos), ?_, ?_, ?_⟩
      · rw [hsplit]; exact List.mem_append_right _ (List.getElem_mem _)
      · exact hnc _ (List.getElem_mem _)
      · rw [stampedTicks_nsym _ _ _ _ (by omega), k1]; omega)
  exact ⟨rB, evs, smp, er, iB, ee ▸ hm⟩

end Whole
end SameVerif.Dsp
