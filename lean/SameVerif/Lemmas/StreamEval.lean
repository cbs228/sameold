import SameVerif.Lemmas.StreamLink2
import SameVerif.Lemmas.LinkEval
/-
  Checking the observational front-end assumptions on a concrete stream.

  `windowErrF tk t` reads 32 ticks, so deciding `potHit` at every tick generates every tick of
  the stream 32 times.  `potHitsE` finds the ticks with a potential hit in one pass, carrying the
  correlator word as `lrunE` does; `chainOk2_of_hits` and `streamObserved_of_hits` are the
  assumptions with the potential hits given as that list.
-/
namespace SameVerif.Spec
open SameVerif SameVerif.Chain

/-! ### the potential hits of a stream, in one pass -/

/-- the ticks `t ≥ 31` with `potHit`: `w` is the correlator word before the head of the list,
    `t` the index of the head -/
def potHitsE (m : Nat) : Nat → Nat → List Tick → List Nat
  | _, _, [] => []
  | w, t, x :: xs =>
    if x.1.openOk && decide (31 ≤ t)
        && decide (popW (SYNC_WORD.toNat ^^^ (w / 2 + (if x.1.bit then 2147483648 else 0))) ≤ m) then
      t :: potHitsE m (w / 2 + (if x.1.bit then 2147483648 else 0)) (t + 1) xs
    else potHitsE m (w / 2 + (if x.1.bit then 2147483648 else 0)) (t + 1) xs

/-- the correlator word after `t` ticks (it does not depend on the configuration) -/
def corrAt (xs : List Tick) (t : Nat) : Nat := (lrunState ⟨0, ⟨0, 0⟩⟩ {} (xs.take t)).corr.toNat

theorem corrAt_succ (xs : List Tick) (t : Nat) (ht : t < xs.length) :
    corrAt xs (t + 1) = corrAt xs t / 2 + (if xs[t].1.bit then 2147483648 else 0) := by
  unfold corrAt
  rw [lrunState_take_succ _ _ _ _ ht, lstep_corr, corrPush_toNat]

theorem potHit_eq (m : Nat) (xs : List Tick) (t : Nat) (h31 : 31 ≤ t) (ht : t < xs.length) :
    potHit m (fun i => xs.getD i dfltTick) t
      = (xs[t].1.openOk
          && decide (popW (SYNC_WORD.toNat ^^^ (corrAt xs t / 2 + (if xs[t].1.bit then 2147483648 else 0))) ≤ m)) := by
  have herr := errOf_run ⟨0, ⟨0, 0⟩⟩ {} xs t h31 ht
  simp only [bitAt_eq] at herr
  have hx := getD_eq_getElem xs t ht
  show ((xs.getD t dfltTick).1.openOk && decide (windowErrF (fun i => xs.getD i dfltTick) t ≤ m)) = _
  unfold windowErrF
  rw [← herr, errOf, popcount32_eq, UInt32.toNat_xor, corrPush_toNat, hx]
  rfl

theorem potHit_beyond (m : Nat) (xs : List Tick) (t : Nat) (ht : xs.length ≤ t) :
    potHit m (fun i => xs.getD i dfltTick) t = false := by
  show ((xs.getD t dfltTick).1.openOk && _) = false
  rw [List.getD_eq_getElem?_getD, List.getElem?_eq_none ht]
  rfl

theorem potHitsE_drop (m : Nat) (xs : List Tick) :
    ∀ (ys : List Tick) (t0 : Nat), ys = xs.drop t0 →
      potHitsE m (corrAt xs t0) t0 ys
        = (List.range' t0 ys.length).filter
            (fun t => decide (31 ≤ t) && potHit m (fun i => xs.getD i dfltTick) t) := by
  intro ys
  induction ys with
  | nil => intro _ _; rfl
  | cons x ys ih =>
    intro t0 h0
    have ht0 : t0 < xs.length := by
      have := congrArg List.length h0
      rw [List.length_drop, List.length_cons] at this
      omega
    rw [List.drop_eq_getElem_cons ht0] at h0
    obtain ⟨rfl, hys⟩ := List.cons.inj h0
    have hc : (xs[t0].1.openOk && decide (31 ≤ t0)
          && decide (popW (SYNC_WORD.toNat ^^^ (corrAt xs t0 / 2 + (if xs[t0].1.bit then 2147483648 else 0))) ≤ m))
        = (decide (31 ≤ t0) && potHit m (fun i => xs.getD i dfltTick) t0) := by
      by_cases h31 : 31 ≤ t0
      · rw [potHit_eq m xs t0 h31 ht0, decide_eq_true h31, Bool.and_true, Bool.true_and]
      · rw [decide_eq_false h31, Bool.and_false, Bool.false_and, Bool.false_and]
    rw [potHitsE, hc, ← corrAt_succ xs t0 ht0, ih (t0 + 1) hys, List.length_cons, List.range'_succ,
      List.filter_cons]

theorem potHitsE_eq (m : Nat) (xs : List Tick) :
    potHitsE m 0 0 xs
      = (List.range xs.length).filter
          (fun t => decide (31 ≤ t) && potHit m (fun i => xs.getD i dfltTick) t) := by
  rw [List.range_eq_range']
  exact potHitsE_drop m xs xs 0 rfl

theorem potHit_iff_mem (m : Nat) (xs : List Tick) (t : Nat) (h31 : 31 ≤ t) :
    potHit m (fun i => xs.getD i dfltTick) t = true ↔ t ∈ potHitsE m 0 0 xs := by
  rw [potHitsE_eq, List.mem_filter, List.mem_range, decide_eq_true h31, Bool.true_and]
  refine ⟨fun hp => ⟨?_, hp⟩, fun hp => hp.2⟩
  apply Nat.lt_of_not_le
  intro hle
  rw [potHit_beyond m xs t hle] at hp
  cases hp

theorem contains_potHitsE (m : Nat) (xs : List Tick) (t : Nat) (h31 : 31 ≤ t) :
    (potHitsE m 0 0 xs).contains t = potHit m (fun i => xs.getD i dfltTick) t := by
  rw [Bool.eq_iff_iff, List.contains_iff_mem, potHit_iff_mem m xs t h31]

theorem potHit_eq_false_of_all (m : Nat) (xs : List Tick) (a b : Nat)
    (h : ∀ t ∈ potHitsE m 0 0 xs, t < a ∨ b ≤ t) (t : Nat) (hat : a ≤ t) (htb : t < b) (h31 : 31 ≤ t) :
    potHit m (fun i => xs.getD i dfltTick) t = false := by
  rw [Bool.eq_false_iff]
  intro hp
  have := h t ((potHit_iff_mem m xs t h31).1 hp)
  omega

/-- a list of ticks as a bit mask: membership in one shift (`List.contains` compares with every
    element, which tells when the question is asked at every tick of a lead-in) -/
def maskOf : List Nat → Nat
  | [] => 0
  | h :: hs => 2 ^ h ||| maskOf hs

theorem testBit_maskOf (hs : List Nat) (t : Nat) : (maskOf hs).testBit t = hs.contains t := by
  induction hs with
  | nil => exact Nat.zero_testBit t
  | cons h hs ih =>
    rw [maskOf, Nat.testBit_or, Nat.testBit_two_pow, ih, List.contains_cons]
    congr 1
    exact decide_eq_decide.2 eq_comm

/-! ### the assumptions, with the potential hits as a list

  In `StreamObserved2F` the stream enters through `potHit` (at ticks `t ≥ 31` only), `headAt` and
  the tracking clauses.  With `hits = potHitsE m 0 0 xs` a clause "no potential hit in `[a, b)`"
  becomes a condition on the few elements of `hits`. -/

/-- `SyncAt2F` with `potHit` replaced by membership in `hits` -/
def SyncAtH (hits : List Nat) (hd : Nat → Bool) (a : Nat) (g : BurstSpec2) : Prop :=
  (g.sync % 8 = 7 ∧ 15 ≤ g.sync ∧ g.sync ≤ 127 ∧ a ≤ g.c)
  ∧ adjustable (preRun (maskOf hits).testBit hd a (g.c - a)) = true
  ∧ g.c ∈ hits
  ∧ (∀ j, j < g.acq + 31 → g.sync < j → hd (g.o + j) = true)
  ∧ (∀ t ∈ hits, g.c < t → t < g.o + (g.acq + 31) → (t - g.o) % 8 = 7)

/-- `chainOk2` without the tracking clauses -/
def chainOkH (hits : List Nat) (hd : Nat → Bool) : Nat → List BurstSpec2 → Prop
  | a, [] => ∀ t ∈ hits, t < a
  | a, g :: gs => (a ≤ g.o ∧ 32 ≤ g.o)
      ∧ SyncAtH hits hd (max a 31) g
      ∧ (∀ t ∈ hits, t < g.e ∨ g.stop ≤ t)
      ∧ chainOkH hits hd g.stop gs

instance (hits : List Nat) (hd : Nat → Bool) (a : Nat) (g : BurstSpec2) : Decidable (SyncAtH hits hd a g) := by
  unfold SyncAtH; infer_instance

instance decChainOkH (hits : List Nat) (hd : Nat → Bool) :
    ∀ (a : Nat) (gs : List BurstSpec2), Decidable (chainOkH hits hd a gs)
  | a, [] => by unfold chainOkH; infer_instance
  | a, g :: gs =>
    have := decChainOkH hits hd g.stop gs
    by unfold chainOkH; infer_instance

theorem preRun_congr (ph ph' hd : Nat → Bool) (a n : Nat) (h : ∀ t, a ≤ t → ph t = ph' t) :
    preRun ph hd a n = preRun ph' hd a n := by
  induction n with
  | zero => rfl
  | succ n ih => rw [preRun, preRun, ih, h _ (Nat.le_add_right a n)]

theorem syncAt2F_of_hits (m : Nat) (xs : List Tick) (a : Nat) (g : BurstSpec2) (ha : 31 ≤ a)
    (h : SyncAtH (potHitsE m 0 0 xs) (headAt (fun i => xs.getD i dfltTick)) a g) :
    SyncAt2F m (fun i => xs.getD i dfltTick) a g := by
  obtain ⟨h1, h2, h3, h4, h5⟩ := h
  have hc : 31 ≤ g.c := Nat.le_trans ha h1.2.2.2
  refine ⟨h1, ?_, (potHit_iff_mem m xs g.c hc).2 h3, h4, ?_⟩
  · rw [preRun_congr _ _ _ _ _ (fun t ht => (contains_potHitsE m xs t (Nat.le_trans ha ht)).symm.trans
      (testBit_maskOf _ t).symm)]
    exact h2
  · intro j hj hs h7
    have hgc := g.c_eq
    rw [Bool.eq_false_iff]
    intro hp
    have := h5 _ ((potHit_iff_mem m xs _ (by omega)).1 hp) (by omega) (by omega)
    omega

theorem chainOk2_of_hits (m : Nat) (xs : List Tick) (len : Nat) (a : Nat) (segs : List BurstSpec2)
    (htrack : ∀ g ∈ segs, TrackAt2F (fun i => xs.getD i dfltTick) len g)
    (h : chainOkH (potHitsE m 0 0 xs) (headAt (fun i => xs.getD i dfltTick)) a segs) :
    chainOk2 m (fun i => xs.getD i dfltTick) len a segs := by
  induction segs generalizing a with
  | nil =>
    intro t _ hat h31
    exact potHit_eq_false_of_all m xs a (t + 1) (fun t' ht' => .inl (h t' ht')) t hat (Nat.lt_succ_self t) h31
  | cons g gs ih =>
    obtain ⟨h1, h3, h4, h5⟩ := h
    refine ⟨h1, htrack g (List.mem_cons_self ..), syncAt2F_of_hits m xs _ g (Nat.le_max_right a 31) h3, ?_,
      ih _ (fun g' hg' => htrack g' (List.mem_cons_of_mem _ hg')) h5⟩
    intro t hts het
    have hge : g.o ≤ g.e := Nat.le_add_right _ _
    exact potHit_eq_false_of_all m xs g.e g.stop h4 t het hts (by omega)

theorem streamObserved2_of_hits (m : Nat) (xs : List Tick) (segs : List BurstSpec2)
    (htrack : ∀ g ∈ segs, TrackAt2F (fun i => xs.getD i dfltTick) xs.length g)
    (h : chainOkH (potHitsE m 0 0 xs) (headAt (fun i => xs.getD i dfltTick)) 0 segs) :
    StreamObserved2 m xs segs :=
  chainOk2_of_hits m xs xs.length 0 segs htrack h

theorem streamObserved_of_hits (m : Nat) (xs : List Tick) (segs : List BurstSpec)
    (h1 : ∀ g ∈ segs, BurstAtF (fun i => xs.getD i dfltTick) xs.length g) (h2 : orderedFrom 32 segs)
    (h3 : ∀ t ∈ potHitsE m 0 0 xs, InSynced segs t) : StreamObserved m xs segs := by
  refine ⟨h1, h2, ?_⟩
  intro t _ h31
  cases hp : potHit m (fun i => xs.getD i dfltTick) t
  · exact .inr (quietAt_of_potHit hp)
  · exact .inl (h3 t ((potHit_iff_mem m xs t h31).1 hp))

end SameVerif.Spec
