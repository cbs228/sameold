import SameVerif.Spec.StreamObserved
import SameVerif.Lemmas.ChainLinkG
/-
  From the observational assumptions on a whole stream (`Spec.StreamObserved`) to the state-based
  assumptions of every burst (`Spec.BurstObserved'`, `Spec.NoFalseHits`), the link model running
  from the initial state `{}` (support for `Thm/C01s.lean`, `Thm/ChainR.lean`).
-/
namespace SameVerif.Chain
open SameVerif SameVerif.Spec

/-- the ticks `xs[a, b)` -/
def slice (xs : List Tick) (a b : Nat) : List Tick := (xs.drop a).take (b - a)

theorem slice_length (xs : List Tick) (a b : Nat) (h : b ≤ xs.length) : (slice xs a b).length = b - a := by
  unfold slice; rw [List.length_take, List.length_drop]; omega

theorem slice_getElem? (xs : List Tick) (a b i : Nat) (hi : i < b - a) :
    (slice xs a b)[i]? = xs[a + i]? := by
  unfold slice; rw [List.getElem?_take_of_lt hi, List.getElem?_drop]

theorem getElem_slice (xs : List Tick) (a b i : Nat) (h : i < (slice xs a b).length) :
    (slice xs a b)[i] = xs.getD (a + i) dfltTick := by
  have hi : i < b - a := by
    unfold slice at h; rw [List.length_take] at h; omega
  have h1 := slice_getElem? xs a b i hi
  rw [List.getElem?_eq_getElem h] at h1
  rw [List.getD_eq_getElem?_getD, ← h1]; rfl

theorem slice_append (xs : List Tick) (a b c : Nat) (h1 : a ≤ b) (h2 : b ≤ c) :
    slice xs a b ++ slice xs b c = slice xs a c := by
  unfold slice
  rw [show c - a = (b - a) + (c - b) by omega, List.take_add, List.drop_drop,
    show a + (b - a) = b by omega]

theorem take_append_slice (xs : List Tick) (a b : Nat) (h : a ≤ b) :
    xs.take a ++ slice xs a b = xs.take b := by
  unfold slice
  rw [show b = a + (b - a) by omega, List.take_add, show a + (b - a) - a = b - a by omega]

attribute [irreducible] slice

/-! ### the observational no-hit condition is the model's -/

theorem bitAt_eq (xs : List Tick) (m : Nat) : bitAt xs m = (xs.getD m dfltTick).1.bit := by
  unfold bitAt; rw [List.getD_eq_getElem?_getD]; cases xs[m]? <;> rfl

/-- window far from the sync word or open threshold not met ⇒ the model cannot hit, whatever the
    state it started from (`errOf_run`: after 31 ticks the correlator is a function of the stream) -/
theorem noHitAt_of_quietAt (c : LCfg) (s : LState) (xs : List Tick) (t : Nat) (h31 : 31 ≤ t)
    (h : t < xs.length → QuietAtF c.maxErrors (fun i => xs.getD i dfltTick) t) : NoHitAt c s xs t := by
  intro x hx
  obtain ⟨ht, rfl⟩ := List.getElem?_eq_some_iff.1 hx
  rcases h ht with h | h
  · right; left
    simpa [List.getD_eq_getElem?_getD, List.getElem?_eq_getElem ht] using h
  · right; right
    rw [errOf_run c s xs t h31 ht]
    unfold windowErrF at h
    simp only [← bitAt_eq] at h
    exact h

theorem noHitAt_mid (c : LCfg) (s : LState) (pre xs post : List Tick) (a t : Nat) (hp : pre.length = a)
    (ht : t < xs.length) (h : NoHitAt c s (pre ++ (xs ++ post)) (a + t)) :
    NoHitAt c (lrunState c s pre) xs t := by
  subst hp
  rwa [noHitAt_append_right, noHitAt_append_left _ _ _ _ _ ht] at h

/-! ### the global condition, burst by burst -/

/-- the no-false-hit condition cut along the bursts: quiet from `a` to the first synchronised
    stretch, over each minimal tail, between bursts, and after the last one -/
def QuietOutside (maxErr : Nat) (tk : Nat → Tick) (len : Nat) : Nat → List BurstSpec → Prop
  | a, [] => ∀ t, a ≤ t → t < len → 31 ≤ t → QuietAtF maxErr tk t
  | a, g :: gs => (∀ t, a ≤ t → t < g.o + g.acq + 31 → 31 ≤ t → QuietAtF maxErr tk t)
      ∧ (∀ t, g.e ≤ t → t < g.stop → QuietAtF maxErr tk t)
      ∧ QuietOutside maxErr tk len g.stop gs

theorem _root_.SameVerif.Spec.BurstSpec.e_eq (g : BurstSpec) : g.e = g.o + g.n := rfl

theorem _root_.SameVerif.Spec.BurstSpec.stop_eq (g : BurstSpec) : g.stop = g.e + (g.rel + 40) := rfl

theorem _root_.SameVerif.Spec.BurstSpec.n_ge (g : BurstSpec) : 128 ≤ g.n := by
  unfold BurstSpec.n; rw [frame_length]; omega

theorem _root_.SameVerif.Spec.BurstSpec.e_le_stop (g : BurstSpec) : g.e ≤ g.stop := by
  unfold BurstSpec.e BurstSpec.stop; omega

theorem ordered_lb : ∀ (gs : List BurstSpec) (lo : Nat), orderedFrom lo gs → ∀ g ∈ gs, lo ≤ g.o := by
  intro gs
  induction gs with
  | nil => intro lo _ g hg; cases hg
  | cons g gs ih =>
    intro lo h g' hg'
    obtain ⟨h1, h2⟩ := h
    rcases List.mem_cons.1 hg' with rfl | hm
    · exact h1
    · have := ih _ h2 g' hm
      have := g.e_le_stop
      unfold BurstSpec.e at this
      omega

theorem ordered_mono : ∀ (gs : List BurstSpec) (lo lo' : Nat), lo' ≤ lo → orderedFrom lo gs → orderedFrom lo' gs := by
  intro gs lo lo' h ho
  cases gs with
  | nil => trivial
  | cons g gs => exact ⟨Nat.le_trans h ho.1, ho.2⟩

theorem quietOutside_of_global (maxErr : Nat) (tk : Nat → Tick) (len : Nat) (all : List BurstSpec)
    (hall : ∀ g ∈ all, BurstAtF tk len g)
    (hglob : ∀ t, t < len → 31 ≤ t → InSynced all t ∨ QuietAtF maxErr tk t) :
    ∀ (segs pre : List BurstSpec) (a : Nat), all = pre ++ segs → (∀ g ∈ pre, g.e ≤ a) →
      orderedFrom a segs → QuietOutside maxErr tk len a segs := by
  intro segs
  induction segs with
  | nil =>
    intro pre a hsplit hpre _ t h1 h2 h3
    rcases hglob t h2 h3 with ⟨g, hg, _, hlt⟩ | h
    · rw [hsplit, List.append_nil] at hg
      have := hpre g hg
      unfold BurstSpec.e at this
      omega
    · exact h
  | cons g gs ih =>
    intro pre a hsplit hpre hord
    obtain ⟨ho1, ho2⟩ := hord
    have hgall : g ∈ all := by rw [hsplit]; simp
    obtain ⟨b1, b2, _⟩ := hall g hgall
    have hn := g.n_ge
    have hes := g.e_le_stop
    have hlb := ordered_lb gs _ ho2
    have he := g.e_eq
    have hout : ∀ t, a ≤ t → t < g.stop → (t < g.o + g.acq + 31 ∨ g.e ≤ t) → ¬ InSynced all t := by
      rintro t h1 h2 h3 ⟨g', hg', hge, hlt⟩
      rw [hsplit] at hg'
      rcases List.mem_append.1 hg' with hp | hp
      · have := hpre g' hp
        unfold BurstSpec.e at this
        omega
      · rcases List.mem_cons.1 hp with rfl | hp
        · omega
        · have := hlb g' hp
          omega
    refine ⟨?_, ?_, ?_⟩
    · intro t h1 h2 h3
      exact (hglob t (by omega) h3).resolve_left (hout t h1 (by omega) (Or.inl h2))
    · intro t h1 h2
      exact (hglob t (by omega) (by omega)).resolve_left (hout t (by omega) h2 (Or.inr h1))
    · apply ih (pre ++ [g]) g.stop (by rw [hsplit]; simp) ?_ ho2
      intro g' hg'
      rcases List.mem_append.1 hg' with hp | hp
      · have := hpre g' hp
        omega
      · rw [List.mem_singleton.1 hp]; exact hes

/-- burst `g` with its lead-in from tick `a`, cut out of the stream -/
def segOf (stream : List Tick) (a : Nat) (g : BurstSpec) : Seg :=
  ⟨slice stream a g.o, slice stream g.o g.e, slice stream g.e g.stop, g.acq, g.rel⟩

theorem segOf_ticks (stream : List Tick) (a : Nat) (g : BurstSpec) (ha : a ≤ g.o) :
    (segOf stream a g).ticks = slice stream a g.stop := by
  have he : g.o ≤ g.e := by unfold BurstSpec.e; omega
  have hes := g.e_le_stop
  unfold Seg.ticks segOf
  simp only
  rw [slice_append _ _ _ _ ha he, slice_append _ _ _ _ (by omega) hes]

theorem segOf_lengths (stream : List Tick) (a : Nat) (g : BurstSpec) (ha : a ≤ g.o)
    (hs : g.stop ≤ stream.length) :
    (segOf stream a g).lead.length = g.o - a ∧ (segOf stream a g).body.length = g.n
      ∧ (segOf stream a g).tail.length = g.rel + 40 ∧ (segOf stream a g).ticks.length = g.stop - a := by
  have he := g.e_eq
  have hst := g.stop_eq
  refine ⟨slice_length _ _ _ (by omega), ?_, ?_, ?_⟩
  · show (slice stream g.o g.e).length = g.n
    rw [slice_length _ _ _ (by omega)]; omega
  · show (slice stream g.e g.stop).length = g.rel + 40
    rw [slice_length _ _ _ hs]; omega
  · rw [segOf_ticks _ _ _ ha, slice_length _ _ _ hs]

theorem burstObserved'_of_burstAt (stream : List Tick) (g : BurstSpec)
    (h : BurstAtF (fun i => stream.getD i dfltTick) stream.length g) :
    BurstObserved' g.payload (slice stream g.o g.e) (slice stream g.e g.stop) g.acq g.rel := by
  obtain ⟨b1, b2, b3, b4, b5, b6, b7, b8, b9⟩ := h
  have hes := g.e_le_stop
  have he := g.e_eq
  have hst := g.stop_eq
  have hbl : (slice stream g.o g.e).length = g.n := by rw [slice_length _ _ _ (by omega)]; omega
  have htl : (slice stream g.e g.stop).length = g.rel + 40 := by rw [slice_length _ _ _ b1]; omega
  have hn : g.n = 8 * (frameOf g.payload).length := rfl
  refine ⟨by rw [hbl, hn], b2, ?_, ?_, ?_, ?_, ?_, ?_, ?_, by rw [htl]; exact Nat.le_refl _⟩
  · intro j hj hacq
    rw [getElem_slice, bitsOf_getD]
    exact b3 j (by rw [← hbl]; exact hj) hacq
  · intro j hj hacq
    rw [getElem_slice]
    exact b4 j (by rw [← hbl]; exact hj) hacq
  · intro j hj hacq
    rw [getElem_slice]
    exact b5 j (by rw [← hbl]; exact hj) hacq
  · intro m hm hj
    rw [getElem_slice]
    exact b6 m (by omega)
  · intro m hm hk
    rw [getElem_slice]
    exact b7 m hm
  · intro k hk hr
    rw [getElem_slice]
    exact b8 k hr
  · intro k hk hr
    rw [getElem_slice]
    exact b9 k (by rw [← htl]; exact hk) hr

theorem observed'_of_burstAt (stream : List Tick) (a : Nat) (g : BurstSpec)
    (h : BurstAtF (fun i => stream.getD i dfltTick) stream.length g) :
    Observed' g.payload (segOf stream a g) := burstObserved'_of_burstAt stream g h

theorem stream_split (stream : List Tick) (a b : Nat) (h : a ≤ b) :
    stream.take a ++ (slice stream a b ++ stream.drop b) = stream := by
  rw [← List.append_assoc, take_append_slice _ _ _ h, List.take_append_drop]

theorem noHitAt_slice (c : LCfg) (stream : List Tick) (a b t : Nat) (hb : b ≤ stream.length)
    (ht : t < b - a) (h31 : 31 ≤ a + t)
    (hq : QuietAtF c.maxErrors (fun i => stream.getD i dfltTick) (a + t)) :
    NoHitAt c (lrunState c {} (stream.take a)) (slice stream a b) t := by
  have h0 := noHitAt_of_quietAt c {} stream (a + t) h31 (fun _ => hq)
  rw [← stream_split stream a b (by omega)] at h0
  exact noHitAt_mid c {} _ _ _ a t (by rw [List.length_take]; omega)
    (by rw [slice_length _ _ _ hb]; exact ht) h0

theorem noFalse_of_stream (c : LCfg) (stream : List Tick) (a : Nat) (g : BurstSpec)
    (ha : a ≤ g.o) (h32 : 32 ≤ g.o) (hstop : g.stop ≤ stream.length) (hacq : g.acq ≤ 89)
    (hq1 : ∀ t, a ≤ t → t < g.o + g.acq + 31 → 31 ≤ t →
      QuietAtF c.maxErrors (fun i => stream.getD i dfltTick) t)
    (hq2 : ∀ t, g.e ≤ t → t < g.stop → QuietAtF c.maxErrors (fun i => stream.getD i dfltTick) t) :
    NoFalse c (lrunState c {} (stream.take a)) (segOf stream a g) := by
  have hn := g.n_ge
  have hes := g.e_le_stop
  have he := g.e_eq
  have hst := g.stop_eq
  have hll : (slice stream a g.o).length = g.o - a := slice_length _ _ _ (by omega)
  have hbl : (slice stream g.o g.e).length = g.n := by rw [slice_length _ _ _ (by omega)]; omega
  have htl : (slice stream g.e g.stop).length = g.rel + 40 := by rw [slice_length _ _ _ hstop]; omega
  have hsl : (slice stream a g.stop).length = g.stop - a := slice_length _ _ _ hstop
  have hta : (stream.take a).length = a := by rw [List.length_take]; omega
  have hticks : slice stream a g.o ++ slice stream g.o g.e ++ slice stream g.e g.stop
      = slice stream a g.stop := by
    have := segOf_ticks stream a g ha
    unfold Seg.ticks segOf at this
    exact this
  have key : ∀ t, t < g.stop - a → 31 ≤ a + t →
      QuietAtF c.maxErrors (fun i => stream.getD i dfltTick) (a + t) →
      NoHitAt c (lrunState c {} (stream.take a)) (slice stream a g.stop) t :=
    fun t => noHitAt_slice c stream a g.stop t hstop
  constructor
  · intro t ht hns
    show NoHitAt c _ (slice stream a g.o ++ slice stream g.o g.e ++ slice stream g.e g.stop) t
    rw [hticks]
    change t < (slice stream a g.o).length at ht
    rw [nsym_run, hta] at hns
    have hns : 31 ≤ a + t := by simpa using hns
    exact key t (by omega) hns (hq1 (a + t) (by omega) (by omega) hns)
  · intro t ht
    show NoHitAt c _ (slice stream a g.o ++ slice stream g.o g.e ++ slice stream g.e g.stop)
      ((slice stream a g.o).length + t)
    rw [hticks, hll]
    change t < g.acq + 31 at ht
    exact key _ (by omega) (by omega)
      (by rw [show a + (g.o - a + t) = g.o + t by omega]; exact hq1 _ (by omega) (by omega) (by omega))
  · intro t ht
    show NoHitAt c _ (slice stream a g.o ++ slice stream g.o g.e ++ slice stream g.e g.stop)
      ((slice stream a g.o).length + (slice stream g.o g.e).length + t)
    rw [hticks, hll, hbl]
    change t < (slice stream g.e g.stop).length at ht
    exact key _ (by omega) (by omega)
      (by rw [show a + (g.o - a + g.n + t) = g.e + t by omega]; exact hq2 _ (by omega) (by omega))

/-- the bursts as segments: the first lead-in starts at `a`, each following one where the previous
    minimal tail ends -/
def segsOf (stream : List Tick) : Nat → List BurstSpec → List (List Byte × Seg)
  | _, [] => []
  | a, g :: gs => (g.payload, segOf stream a g) :: segsOf stream g.stop gs

/-- where the last minimal tail ends -/
def lastStop : Nat → List BurstSpec → Nat
  | a, [] => a
  | _, g :: gs => lastStop g.stop gs

theorem segsOk_of_stream (c : LCfg) (stream : List Tick) :
    ∀ (segs : List BurstSpec) (a : Nat),
      (∀ g ∈ segs, BurstAtF (fun i => stream.getD i dfltTick) stream.length g ∧ PayloadCond c g.payload
        ∧ 32 ≤ g.o) →
      orderedFrom a segs → a ≤ stream.length →
      QuietOutside c.maxErrors (fun i => stream.getD i dfltTick) stream.length a segs →
      SegsOk c (lrunState c {} (stream.take a)) (segsOf stream a segs)
        ∧ stream.take (lastStop a segs)
            = stream.take a ++ (segsOf stream a segs).flatMap (fun p => p.2.ticks)
        ∧ a ≤ lastStop a segs ∧ lastStop a segs ≤ stream.length
        ∧ (∀ t, lastStop a segs ≤ t → t < stream.length → 31 ≤ t →
            QuietAtF c.maxErrors (fun i => stream.getD i dfltTick) t) := by
  intro segs
  induction segs with
  | nil =>
    intro a _ _ ha hq
    exact ⟨trivial, by simp [segsOf, lastStop], Nat.le_refl _, ha, hq⟩
  | cons g gs ih =>
    intro a hall hord ha hq
    obtain ⟨hb, hpc, h32⟩ := hall g List.mem_cons_self
    obtain ⟨ho1, ho2⟩ := hord
    obtain ⟨hq1, hq2, hq3⟩ := hq
    have hstop : g.stop ≤ stream.length := hb.1
    have hes := g.e_le_stop
    have he := g.e_eq
    have hta : (stream.take a).length = a := by rw [List.length_take]; omega
    have hticks := segOf_ticks stream a g ho1
    have hstate : lrunState c (lrunState c {} (stream.take a)) (segOf stream a g).ticks
        = lrunState c {} (stream.take g.stop) := by
      rw [← lrunState_append, hticks, take_append_slice _ _ _ (by omega)]
    obtain ⟨i1, i2, i3, i4, i5⟩ := ih g.stop (fun g' hg' => hall g' (List.mem_cons_of_mem _ hg'))
      ho2 hstop hq3
    refine ⟨⟨hpc, observed'_of_burstAt stream a g hb, ?_,
      noFalse_of_stream c stream a g ho1 h32 hstop hb.2.1 hq1 hq2, ?_⟩, ?_, ?_, i4, i5⟩
    · rw [nsym_run, hta]
      show 32 ≤ ({} : LState).nsym + a + (slice stream a g.o).length
      rw [slice_length _ _ _ (by omega)]
      omega
    · show SegsOk c (lrunState c (lrunState c {} (stream.take a)) (segOf stream a g).ticks)
        (segsOf stream g.stop gs)
      rw [hstate]; exact i1
    · show stream.take (lastStop g.stop gs) = _
      rw [i2]
      simp only [segsOf, List.flatMap_cons]
      rw [hticks, ← List.append_assoc, take_append_slice _ _ _ (by omega)]
    · show a ≤ lastStop g.stop gs
      omega

theorem quiet_rest (c : LCfg) (stream : List Tick) (L : Nat) (hL : L ≤ stream.length)
    (hq : ∀ t, L ≤ t → t < stream.length → 31 ≤ t →
      QuietAtF c.maxErrors (fun i => stream.getD i dfltTick) t) :
    QuietNoHit c (lrunState c {} (stream.take L)) (stream.drop L) := by
  intro t h31
  have hta : (stream.take L).length = L := by rw [List.length_take]; omega
  rw [nsym_run, hta] at h31
  have h31 : 31 ≤ L + t := by simpa using h31
  have h0 := noHitAt_of_quietAt c {} stream (L + t) h31 (fun hlt => hq _ (by omega) hlt h31)
  have h1 : NoHitAt c {} (stream.take L ++ stream.drop L) ((stream.take L).length + t) := by
    rw [List.take_append_drop, hta]; exact h0
  exact (noHitAt_append_right c {} _ _ t).1 h1

end SameVerif.Chain
