import SameVerif.Spec.StreamObserved2
import SameVerif.Lemmas.StreamLink
import SameVerif.Lemmas.LinkPhases2
import SameVerif.Lemmas.ChainLinkG
/-
  From `Spec.StreamObserved2` (generalised synchronisation: early, wrong-phase and dropped first
  hits allowed, the last adjusting hit at the correct phase) to `Chain.DeliversT` for every burst,
  the link model running from the initial state `{}` (support for `Thm/C01t.lean` and the chain
  theorems on a whole stream).
-/
namespace SameVerif.Chain
open SameVerif SameVerif.Spec

/-! ### the model's hit and power-history tests are the observational ones -/

theorem getD_eq_getElem (xs : List Tick) (t : Nat) (ht : t < xs.length) : xs.getD t dfltTick = xs[t] := by
  rw [List.getD_eq_getElem?_getD, List.getElem?_eq_getElem ht]; rfl

theorem hitOf_stream (c : LCfg) (s : LState) (xs : List Tick) (t : Nat) (h31 : 31 ≤ t) (ht : t < xs.length)
    (hl : (lrunState c s (xs.take t)).lock = false) :
    hitOf c (lrunState c s (xs.take t)) xs[t].1 = potHit c.maxErrors (fun i => xs.getD i dfltTick) t := by
  rw [hitOf_eq, hl, errOf_run c s xs t h31 ht]
  unfold potHit windowErrF
  simp only [← bitAt_eq]
  rw [getD_eq_getElem xs t ht]
  simp [Bool.and_comm]

theorem headOf_stream (c : LCfg) (s : LState) (xs : List Tick) (t : Nat) (h31 : 31 ≤ t) (ht : t < xs.length) :
    headOf (lrunState c s (xs.take t)) xs[t].1 = headAt (fun i => xs.getD i dfltTick) t := by
  rw [headOf_run c s xs t h31 ht]
  unfold headAt
  simp only
  rw [getD_eq_getElem xs (t - 31) (by omega)]

theorem quietAt_of_potHit {m : Nat} {tk : Nat → Tick} {t : Nat} (h : potHit m tk t = false) :
    QuietAtF m tk t := by
  unfold potHit at h
  unfold QuietAtF
  cases ho : (tk t).1.openOk
  · left; rfl
  · right
    rw [ho] at h
    simpa using h

theorem ready_warm (c : LCfg) (xs : List Tick) :
    Ready (lrunState c {} (xs.take 31)) ∧ lrunBursts c {} (xs.take 31) = [] := by
  obtain ⟨_, r2, r3⟩ := quiet_run c (xs.take 31) {} ready_init (by
    intro t h31 x hx
    have h1 := (List.getElem?_eq_some_iff.1 hx).1
    rw [List.length_take] at h1
    have h0 : ({} : LState).nsym = 0 := rfl
    omega)
  exact ⟨r3, r2⟩

theorem sync_tick (c : LCfg) (hP : c.fc.maxPrefixErr < 15) (st : LState) (o : Obs) (b : Byte)
    (h31 : 31 ≤ st.nsym) (ast : Option Nat) (hsim : SimPre ast st)
    (hadj : adjustable (some ast) = true) (hhit : hitOf c st o = true) :
    (lstep c st o b).1.clock = some 1 ∧ (lstep c st o b).1.lock = false
      ∧ (lstep c st o b).1.fr = .search 0xAB 1 ∧ (lstep c st o b).1.train = 3
      ∧ burstOf (lstep c st o b).2.1 = [] := by
  have hstep : preStep (hitOf c st o) (headOf st o) ast = some (some 1) := by
    rw [hhit]
    cases ast with
    | none => rfl
    | some k =>
      have hk : k % 8 ≠ 0 := by simpa [adjustable] using hadj
      simp [preStep, hk]
  obtain ⟨⟨_, _, s1, s2, s3, s4⟩, hb⟩ := preStep_sim c hP st o b h31 ast (some 1) hsim hstep
  exact ⟨s1, s2, by rw [s4]; rfl, s3, hb⟩

/-! ### global and local coordinates -/

theorem slice_take (xs : List Tick) (a b t : Nat) (ht : t ≤ b - a) :
    (slice xs a b).take t = slice xs a (a + t) := by
  unfold slice
  rw [List.take_take, show a + t - a = t by omega, Nat.min_eq_left ht]

theorem local_state (c : LCfg) (stream : List Tick) (o stop t : Nat) (ht : t ≤ stop - o) :
    lrunState c (lrunState c {} (stream.take o)) ((slice stream o stop).take t)
      = lrunState c {} (stream.take (o + t)) := by
  rw [slice_take _ _ _ _ ht, ← lrunState_append, take_append_slice _ _ _ (by omega)]

theorem local_bursts (c : LCfg) (stream : List Tick) (o stop t : Nat) (ht : t ≤ stop - o) :
    lrunBursts c {} (stream.take (o + t))
      = lrunBursts c {} (stream.take o)
        ++ lrunBursts c (lrunState c {} (stream.take o)) ((slice stream o stop).take t) := by
  rw [slice_take _ _ _ _ ht, ← lrunBursts_append, take_append_slice _ _ _ (by omega)]

theorem bursts_split (c : LCfg) (stream : List Tick) (t1 t2 : Nat) (h : t1 ≤ t2) :
    lrunBursts c {} (stream.take t2)
      = lrunBursts c {} (stream.take t1)
        ++ lrunBursts c (lrunState c {} (stream.take t1)) (slice stream t1 t2) := by
  rw [← lrunBursts_append, take_append_slice _ _ _ h]

theorem _root_.SameVerif.Spec.BurstSpec2.n_ge (g : BurstSpec2) : 128 ≤ g.n := by
  unfold BurstSpec2.n; rw [frame_length]; omega

def segOf2 (stream : List Tick) (a : Nat) (g : BurstSpec2) : Seg :=
  ⟨slice stream a g.o, slice stream g.o g.e, slice stream g.e g.stop, g.acq, g.rel⟩

theorem segOf2_ticks (stream : List Tick) (a : Nat) (g : BurstSpec2) (ha : a ≤ g.o) :
    (segOf2 stream a g).ticks = slice stream a g.stop := by
  have he : g.o ≤ g.e := by unfold BurstSpec2.e; omega
  have hes : g.e ≤ g.stop := by unfold BurstSpec2.e BurstSpec2.stop; omega
  unfold Seg.ticks segOf2
  simp only
  rw [slice_append _ _ _ _ ha he, slice_append _ _ _ _ (by omega) hes]

theorem _root_.SameVerif.Spec.BurstSpec2.e_eq (g : BurstSpec2) : g.e = g.o + g.n := rfl

theorem _root_.SameVerif.Spec.BurstSpec2.stop_eq (g : BurstSpec2) : g.stop = g.e + (g.rel + 40) := rfl

theorem _root_.SameVerif.Spec.BurstSpec2.o_le_stop (g : BurstSpec2) : g.o ≤ g.stop := by
  unfold BurstSpec2.stop; omega

theorem _root_.SameVerif.Spec.BurstSpec2.c_eq (g : BurstSpec2) : g.c = g.o + g.sync := rfl

theorem segOf2_ends (stream : List Tick) (a : Nat) (g : BurstSpec2) (ha : a ≤ g.o)
    (hs : g.stop ≤ stream.length) :
    a + (segOf2 stream a g).lead.length = g.o ∧ g.o + (segOf2 stream a g).body.length = g.e
      ∧ (segOf2 stream a g).tail.length = g.rel + 40 ∧ a + (segOf2 stream a g).ticks.length = g.stop := by
  have he := g.e_eq
  have hst := g.stop_eq
  refine ⟨?_, ?_, ?_, ?_⟩
  · show a + (slice stream a g.o).length = g.o
    rw [slice_length _ _ _ (by omega)]; omega
  · show g.o + (slice stream g.o g.e).length = g.e
    rw [slice_length _ _ _ (by omega)]; omega
  · show (slice stream g.e g.stop).length = g.rel + 40
    rw [slice_length _ _ _ hs]; omega
  · rw [segOf2_ticks _ _ _ ha, slice_length _ _ _ hs]; omega

theorem lrunState_segOf2 (c : LCfg) (stream : List Tick) (a : Nat) (g : BurstSpec2) (ha : a ≤ g.o) :
    lrunState c (lrunState c {} (stream.take a)) (segOf2 stream a g).ticks
      = lrunState c {} (stream.take g.stop) := by
  have := g.stop_eq
  have := g.e_eq
  rw [← lrunState_append, segOf2_ticks _ _ _ ha, take_append_slice _ _ _ (by omega)]

theorem lrunState_segOf2_zero (c : LCfg) (stream : List Tick) (g : BurstSpec2) :
    lrunState c {} (segOf2 stream 0 g).ticks = lrunState c {} (stream.take g.stop) :=
  lrunState_segOf2 c stream 0 g (Nat.zero_le _)

theorem burstTracked_of_trackAt2 (stream : List Tick) (g : BurstSpec2)
    (h : TrackAt2F (fun i => stream.getD i dfltTick) stream.length g) :
    BurstTracked g.payload (slice stream g.o g.e) (slice stream g.e g.stop) g.acq g.rel := by
  obtain ⟨b1, b2, b3, b5, b6, b7, b8, b9⟩ := h
  have he := g.e_eq
  have hst := g.stop_eq
  have hbl : (slice stream g.o g.e).length = g.n := by rw [slice_length _ _ _ (by omega)]; omega
  have htl : (slice stream g.e g.stop).length = g.rel + 40 := by rw [slice_length _ _ _ b1]; omega
  have hn : g.n = 8 * (frameOf g.payload).length := rfl
  refine ⟨by rw [hbl, hn], b2, ?_, ?_, ?_, ?_, ?_, ?_, by rw [htl]; exact Nat.le_refl _⟩
  · intro j hj hacq
    rw [getElem_slice, bitsOf_getD]
    exact b3 j (by rw [← hbl]; exact hj) hacq
  · intro j hj hacq
    rw [getElem_slice]
    exact b5 j (by rw [← hbl]; exact hj) hacq
  · intro m hm hj
    rw [getElem_slice]
    exact b6 m (by omega)
  · intro m hm hk
    rw [getElem_slice]
    exact b7 m hm
  · intro k hk hr
    rw [getElem_slice]
    exact b8 k hr
  · intro hk
    rw [getElem_slice]
    exact b9

/-- `g.sync` is the body tick of the adjusting sync hit; from there to the burst the link is busy -/
theorem burst_of_stream2 (c : LCfg) (hE : c.maxErrors ≤ 6) (hP : c.fc.maxPrefixErr ≤ 7)
    (stream : List Tick) (a : Nat) (g : BurstSpec2)
    (ha : a = 0 ∨ 31 ≤ a) (hready : Ready (lrunState c {} (stream.take a)))
    (hpc : PayloadCond c g.payload) (hao : a ≤ g.o) (h32 : 32 ≤ g.o)
    (htrack : TrackAt2F (fun i => stream.getD i dfltTick) stream.length g)
    (hsync : SyncAt2F c.maxErrors (fun i => stream.getD i dfltTick) (max a 31) g)
    (htail : ∀ t, t < g.stop → g.e ≤ t → potHit c.maxErrors (fun i => stream.getD i dfltTick) t = false) :
    DeliversT c (lrunState c {} (stream.take a)) (segOf2 stream a g) g.payload
      ∧ SegBusy c (lrunState c {} (stream.take a)) (segOf2 stream a g) g.sync := by
  have hstop : g.stop ≤ stream.length := htrack.1
  have hacq : g.acq ≤ 89 := htrack.2.1
  have hn := g.n_ge
  have he := g.e_eq
  have hst := g.stop_eq
  have hcdef := g.c_eq
  obtain ⟨⟨hs7, hs15, hs127, hac⟩, hadj, hpot, hheads, hlate⟩ := hsync
  -- 1. ready at the start of the abstract run
  have h1 : Ready (lrunState c {} (stream.take (max a 31)))
      ∧ lrunBursts c {} (stream.take (max a 31)) = lrunBursts c {} (stream.take a) := by
    rcases ha with rfl | h
    · rw [show max 0 31 = 31 from rfl]
      exact ⟨(ready_warm c stream).1, by rw [(ready_warm c stream).2]; rfl⟩
    · rw [Nat.max_eq_left h]; exact ⟨hready, rfl⟩
  have ha31 : 31 ≤ max a 31 := Nat.le_max_right _ _
  have haa : a ≤ max a 31 := Nat.le_max_left _ _
  have hao' : max a 31 ≤ g.o := Nat.max_le.2 ⟨hao, by omega⟩
  -- 2. the abstract squelch over the lead-in
  cases hpr : preRun (potHit c.maxErrors (fun i => stream.getD i dfltTick))
      (headAt (fun i => stream.getD i dfltTick)) (max a 31) (g.c - max a 31) with
  | none => rw [hpr] at hadj; cases hadj
  | some ast =>
    rw [hpr] at hadj
    obtain ⟨simC, bC⟩ := preRun_sim c (by omega) stream {} _ _ (max a 31) h1.1
      (by show 31 ≤ ({} : LState).nsym + max a 31; omega)
      (fun t ht hat hl => hitOf_stream c {} stream t (by omega) ht hl)
      (fun t ht hat => headOf_stream c {} stream t (by omega) ht) (g.c - max a 31) ast (by omega) hpr
    rw [show max a 31 + (g.c - max a 31) = g.c by omega] at simC bC
    -- 3. the sync tick
    have hcl : g.c < stream.length := by omega
    have hlockC : (lrunState c {} (stream.take g.c)).lock = false := by
      cases ast with
      | none => exact simC.2.1
      | some k => exact simC.2.2.2.1
    have hhit : hitOf c (lrunState c {} (stream.take g.c)) stream[g.c].1 = true := by
      rw [hitOf_stream c {} stream g.c (by omega) hcl hlockC]; exact hpot
    obtain ⟨y1, y2, y3, y4, y5⟩ := sync_tick c (by omega) _ _ (stream[g.c]).2
      (by rw [nsym_run, List.length_take]; omega) ast simC hadj hhit
    have hS := lrunState_take_succ c {} stream g.c hcl
    have hB := lrunBursts_take_succ c {} stream g.c hcl
    rw [y5, List.append_nil, bC, h1.2] at hB
    -- 4. local coordinates
    have hbt : slice stream g.o g.e ++ slice stream g.e g.stop = slice stream g.o g.stop :=
      slice_append _ _ _ _ (by omega) (by omega)
    have hbtl : (slice stream g.o g.stop).length = g.stop - g.o := slice_length _ _ _ hstop
    -- no burst over the lead-in, nor up to the sync tick
    have hBo := bursts_split c stream a g.o hao
    have hBc := local_bursts c stream g.o g.stop (g.sync + 1) (by omega)
    rw [show g.o + (g.sync + 1) = g.c + 1 by omega, hB, hBo, List.append_assoc] at hBc
    have hnil := List.self_eq_append_right.1 hBc
    obtain ⟨(hleadB : lrunBursts c _ (segOf2 stream a g).lead = []), hsyncB⟩ := List.append_eq_nil_iff.1 hnil
    -- no hit at a quiet global tick, in local coordinates
    have key : ∀ t, t < g.stop - g.o → potHit c.maxErrors (fun i => stream.getD i dfltTick) (g.o + t) = false →
        NoHitAt c (lrunState c {} (stream.take g.o)) (slice stream g.o g.stop) t :=
      fun t ht hq => noHitAt_slice c stream g.o g.stop t hstop ht (by omega) (quietAt_of_potHit hq)
    have Nl : ∀ t, (slice stream g.o g.e).length ≤ t →
        NoHitAt c (lrunState c {} (stream.take g.o)) (slice stream g.o g.e ++ slice stream g.e g.stop) t := by
      intro t ht
      rw [slice_length _ _ _ (by omega)] at ht
      rw [hbt]
      by_cases hlt : t < g.stop - g.o
      · exact key t hlt (htail _ (by omega) (by omega))
      · intro x hx
        have := (List.getElem?_eq_some_iff.1 hx).1
        omega
    have Ne : ∀ t, 8 * (g.sync / 8) + 8 ≤ t → t < g.acq + 31 → t % 8 ≠ 7 →
        NoHitAt c (lrunState c {} (stream.take g.o)) (slice stream g.o g.e ++ slice stream g.e g.stop) t := by
      intro t h1t h2t h3t
      rw [hbt]
      exact key t (by omega) (hlate t h2t (by omega) h3t)
    have Hh : ∀ t, 8 * (g.sync / 8) + 8 ≤ t → t < g.acq + 31 →
        HeadAt c (lrunState c {} (stream.take g.o)) (slice stream g.o g.e ++ slice stream g.e g.stop) t := by
      intro t h1t h2t x hx
      rw [hbt] at hx ⊢
      have hlt : t < g.stop - g.o := by omega
      rw [slice_getElem? _ _ _ _ hlt] at hx
      obtain ⟨hgl, rfl⟩ := List.getElem?_eq_some_iff.1 hx
      rw [local_state c stream g.o g.stop t (by omega), headOf_stream c {} stream (g.o + t) (by omega) hgl]
      exact hheads t h2t (by omega)
    have hq0 : g.sync = 8 * (g.sync / 8) + 7 := by omega
    have hbase : JustSynced c (lrunState c {} (stream.take g.o))
        (slice stream g.o g.e ++ slice stream g.e g.stop) (8 * (g.sync / 8) + 7 + 1) := by
      unfold JustSynced
      rw [← hq0, hbt, local_state c stream g.o g.stop (g.sync + 1) (by omega),
        show g.o + (g.sync + 1) = g.c + 1 by omega, hS]
      exact ⟨y1, y2, y3, y4, hsyncB⟩
    -- 5. the synchronised phases
    have H := burstTracked_of_trackAt2 stream g htrack
    have hF := prefixFacts_of c.fc g.payload hpc.ok hP hpc.p4
    have hw : 32 ≤ (lrunState c {} (stream.take g.o)).nsym := by
      rw [nsym_run, List.length_take]
      show 32 ≤ ({} : LState).nsym + _
      omega
    have e := synced_end2 H hpc.ok hpc.dash c hE hF _ hw (g.sync / 8)
      (by omega) (by omega) Nl Ne Hh hbase
    obtain ⟨t, r1, r2, r3⟩ := burst_of_payloadRead H c _ hw Nl e
    have hbusy := bt_busy2 H hpc.ok hpc.dash c hE hF _ hw (g.sync / 8)
      (by omega) (by omega) Nl Ne Hh hbase
    rw [← hq0] at hbusy
    -- 6. the segment, entered in the state at tick `a`: after its lead-in, the state at tick `g.o`
    have hlead_state : lrunState c (lrunState c {} (stream.take a)) (segOf2 stream a g).lead
        = lrunState c {} (stream.take g.o) := by
      show lrunState c _ (slice stream a g.o) = _
      rw [← lrunState_append, take_append_slice _ _ _ hao]
    have hticks := (segOf2 stream a g).ticks_eq
    have hb : lrunBursts c (lrunState c {} (stream.take a)) (segOf2 stream a g).ticks = [g.payload ++ t] := by
      rw [hticks, lrunBursts_append, hleadB, hlead_state]
      exact r1
    refine ⟨Delivers.timed ⟨t, ?_, hb, ?_⟩ ?_, ?_⟩
    · apply segOut_of_facts c _ (segOf2 stream a g) g.payload t hb hleadB ?_ ?_ r2
      · rw [hlead_state]
        exact e.2.2.2.2
      · show 31 ≤ (slice stream g.e g.stop).length
        rw [slice_length _ _ _ hstop]; omega
    · rw [hticks, lrunState_append, hlead_state]
      exact r3
    · apply segTiming_of_bt c _ (segOf2 stream a g) hleadB
      rw [hlead_state]
      exact garbage_timing H c _ hw Nl e
    · apply segBusy_of_bt c _ (segOf2 stream a g) g.sync hleadB
      rw [hlead_state]
      exact hbusy

def segsOf2 (stream : List Tick) : Nat → List BurstSpec2 → List (List Byte × Seg)
  | _, [] => []
  | a, g :: gs => (g.payload, segOf2 stream a g) :: segsOf2 stream g.stop gs

def lastStop2 : Nat → List BurstSpec2 → Nat
  | a, [] => a
  | _, g :: gs => lastStop2 g.stop gs

theorem deliversAllT_of_stream2 (c : LCfg) (hE : c.maxErrors ≤ 6) (hP : c.fc.maxPrefixErr ≤ 7)
    (stream : List Tick) :
    ∀ (segs : List BurstSpec2) (a : Nat), (a = 0 ∨ 31 ≤ a) → a ≤ stream.length →
      Ready (lrunState c {} (stream.take a)) →
      (∀ g ∈ segs, PayloadCond c g.payload) →
      chainOk2 c.maxErrors (fun i => stream.getD i dfltTick) stream.length a segs →
      DeliversAllT c (lrunState c {} (stream.take a)) (segsOf2 stream a segs)
        ∧ stream.take (lastStop2 a segs)
            = stream.take a ++ (segsOf2 stream a segs).flatMap (fun p => p.2.ticks)
        ∧ a ≤ lastStop2 a segs ∧ lastStop2 a segs ≤ stream.length
        ∧ (∀ t, lastStop2 a segs ≤ t → t < stream.length → 31 ≤ t →
            potHit c.maxErrors (fun i => stream.getD i dfltTick) t = false) := by
  intro segs
  induction segs with
  | nil =>
    intro a _ ha _ _ hq
    exact ⟨trivial, by simp [segsOf2, lastStop2], Nat.le_refl _, ha, fun t h1 h2 h3 => hq t h2 h1 h3⟩
  | cons g gs ih =>
    intro a ha0 ha hready hpc hq
    obtain ⟨⟨hao, h32⟩, htrack, hsync, htail, hrest⟩ := hq
    have hstop : g.stop ≤ stream.length := htrack.1
    have hn := g.n_ge
    have hge := g.stop_eq
    have he := g.e_eq
    have hd := (burst_of_stream2 c hE hP stream a g ha0 hready (hpc g List.mem_cons_self) hao h32
      htrack hsync htail).1
    have hstate := lrunState_segOf2 c stream a g hao
    have hready' : Ready (lrunState c {} (stream.take g.stop)) := by
      obtain ⟨_, _, _, hqq⟩ := hd
      rw [hstate] at hqq
      exact hqq.ready
    obtain ⟨i1, i2, i3, i4, i5⟩ := ih g.stop (Or.inr (by omega)) hstop hready'
      (fun g' hg' => hpc g' (List.mem_cons_of_mem _ hg')) hrest
    refine ⟨⟨hd, ?_⟩, ?_, ?_, i4, i5⟩
    · show DeliversAllT c (lrunState c (lrunState c {} (stream.take a)) (segOf2 stream a g).ticks)
        (segsOf2 stream g.stop gs)
      rw [hstate]; exact i1
    · show stream.take (lastStop2 g.stop gs) = _
      rw [i2]
      simp only [segsOf2, List.flatMap_cons]
      rw [segOf2_ticks stream a g hao, ← List.append_assoc, take_append_slice _ _ _ (by omega)]
    · show a ≤ lastStop2 g.stop gs
      omega

theorem deliversAll_of_stream2 (c : LCfg) (hE : c.maxErrors ≤ 6) (hP : c.fc.maxPrefixErr ≤ 7)
    (stream : List Tick) (segs : List BurstSpec2) (a : Nat) (ha0 : a = 0 ∨ 31 ≤ a)
    (ha : a ≤ stream.length) (hready : Ready (lrunState c {} (stream.take a)))
    (hpc : ∀ g ∈ segs, PayloadCond c g.payload)
    (hq : chainOk2 c.maxErrors (fun i => stream.getD i dfltTick) stream.length a segs) :
    DeliversAll c (lrunState c {} (stream.take a)) (segsOf2 stream a segs)
      ∧ stream.take (lastStop2 a segs)
          = stream.take a ++ (segsOf2 stream a segs).flatMap (fun p => p.2.ticks)
      ∧ a ≤ lastStop2 a segs ∧ lastStop2 a segs ≤ stream.length
      ∧ (∀ t, lastStop2 a segs ≤ t → t < stream.length → 31 ≤ t →
          potHit c.maxErrors (fun i => stream.getD i dfltTick) t = false) := by
  obtain ⟨h1, hrest⟩ := deliversAllT_of_stream2 c hE hP stream segs a ha0 ha hready hpc hq
  exact ⟨h1.toDeliversAll, hrest⟩

theorem stream_deliversT (c : LCfg) (hE : c.maxErrors ≤ 6) (hP : c.fc.maxPrefixErr ≤ 7)
    (stream : List Tick) (segs : List BurstSpec2)
    (hobs : StreamObserved2 c.maxErrors stream segs) (hpc : ∀ g ∈ segs, PayloadCond c g.payload) :
    DeliversAllT c {} (segsOf2 stream 0 segs)
      ∧ (segsOf2 stream 0 segs).flatMap (fun p => p.2.ticks) ++ stream.drop (lastStop2 0 segs) = stream
      ∧ lastStop2 0 segs ≤ stream.length
      ∧ QuietNoHit c (lrunState c {} ((segsOf2 stream 0 segs).flatMap (fun p => p.2.ticks)))
          (stream.drop (lastStop2 0 segs)) := by
  obtain ⟨s1, s2, _, s4, s5⟩ := deliversAllT_of_stream2 c hE hP stream segs 0 (Or.inl rfl) (by omega)
    ready_init hpc hobs
  have s2' : stream.take (lastStop2 0 segs) = (segsOf2 stream 0 segs).flatMap (fun p => p.2.ticks) := by
    rw [s2]; rfl
  refine ⟨s1, by rw [← s2', List.take_append_drop], s4, ?_⟩
  rw [← s2']
  exact quiet_rest c stream _ s4 (fun t h1 h2 h3 => quietAt_of_potHit (s5 t h1 h2 h3))

theorem quiet_gap (c : LCfg) (stream : List Tick) (Lo K : Nat) (hL : Lo + K ≤ stream.length)
    (h31 : 31 ≤ Lo)
    (hq : ∀ t, Lo ≤ t → t < Lo + K → potHit c.maxErrors (fun i => stream.getD i dfltTick) t = false) :
    QuietNoHit c (lrunState c {} (stream.take Lo)) (slice stream Lo (Lo + K)) := by
  intro t _
  by_cases ht : t < K
  · exact noHitAt_slice c stream Lo (Lo + K) t hL (by omega) (by omega)
      (quietAt_of_potHit (hq (Lo + t) (by omega) (by omega)))
  · intro x hx
    have := (List.getElem?_eq_some_iff.1 hx).1
    rw [slice_length _ _ _ hL] at this
    omega

end SameVerif.Chain
