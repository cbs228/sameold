import SameVerif.Lemmas.LinkStep
import SameVerif.Spec.FrontEnd
/-
  Front-end assumptions for ONE burst in which the correlator, not the power threshold, excludes
  false sync hits.

  On tapped real runs three clauses of `Spec.BurstObserved` are (almost) never true of the DSP:
  `open_late`, `tail_closed` (power threshold closed before `acq + 31` / on the whole tail) and
  `lead_closed`.  Their only use is to exclude a sync hit; what excludes an early sync in reality
  is the correlator.  So the assumptions are split:

  * `BurstObserved'`  — `BurstObserved` without those three clauses (tracking, thresholds while
    synchronised, equalizer bytes, release);
  * `NoFalseHits`     — run from the start state over `lead ++ body ++ tail`, the link model cannot
    hit (`NoHit`: squelch locked, or open threshold not met, or correlator window more than
    `maxErrors` away from the sync word) at any lead tick, at any body tick `t < acq + 31`, at any
    tail tick.

  `BurstObserved` implies both (`BurstObserved.weaken`, `BurstObserved.noFalseHits`).
-/
namespace SameVerif.Spec
open SameVerif

/-- `BurstObserved` without `lead_closed`, `open_late`, `tail_closed` (and hence without `lead`) -/
structure BurstObserved' (payload : List Byte) (body tail : List Tick) (acq rel : Nat) : Prop where
  body_len : body.length = 8 * (frameOf payload).length
  /-- acquisition within the first 90 bits of the 128 preamble bits -/
  acq_le : acq ≤ 89
  /-- tracking: from `acq` on the correlator sees the transmitted bits -/
  bits_ok : ∀ j (hj : j < body.length), acq ≤ j → body[j].1.bit = (bitsOf (frameOf payload)).getD j false
  /-- once the 32-bit window is entirely correct the open threshold is met -/
  open_ok : ∀ j (hj : j < body.length), acq + 31 ≤ j → body[j].1.openOk = true
  /-- the power stays above the close threshold from acquisition to the last bit -/
  close_ok : ∀ j (hj : j < body.length), acq ≤ j → body[j].1.closeOk = true
  /-- the equalizer's byte decision at the tick that completes transmitted byte `m + 3` is
      transmitted byte `m` -/
  eq_ok : ∀ m, m + 3 < (frameOf payload).length → ∀ (hj : 8 * (m + 3) + 7 < body.length),
    body[8 * (m + 3) + 7].2 = (frameOf payload).getD m 0
  /-- the last three bytes reach the framer during the first 24 ticks of the tail -/
  eq_tail : ∀ m, m < 3 → ∀ (hk : 8 * m + 7 < tail.length),
    tail[8 * m + 7].2 = (frameOf payload).getD ((frameOf payload).length - 3 + m) 0
  /-- release: the close threshold holds for `rel` more ticks and then fails for good -/
  rel_hold : ∀ k (hk : k < tail.length), k < rel → tail[k].1.closeOk = true
  rel_drop : ∀ k (hk : k < tail.length), rel ≤ k → tail[k].1.closeOk = false
  /-- the tail is long enough for the 32-tick power history to empty -/
  tail_len : rel + 40 ≤ tail.length

/-- `BurstObserved'` without `open_ok`: tracking, close threshold, equalizer bytes, release.
    (The open threshold matters only where sync hits are; see `Spec/StreamObserved2.lean`.) -/
structure BurstTracked (payload : List Byte) (body tail : List Tick) (acq rel : Nat) : Prop where
  body_len : body.length = 8 * (frameOf payload).length
  acq_le : acq ≤ 89
  bits_ok : ∀ j (hj : j < body.length), acq ≤ j → body[j].1.bit = (bitsOf (frameOf payload)).getD j false
  close_ok : ∀ j (hj : j < body.length), acq ≤ j → body[j].1.closeOk = true
  eq_ok : ∀ m, m + 3 < (frameOf payload).length → ∀ (hj : 8 * (m + 3) + 7 < body.length),
    body[8 * (m + 3) + 7].2 = (frameOf payload).getD m 0
  eq_tail : ∀ m, m < 3 → ∀ (hk : 8 * m + 7 < tail.length),
    tail[8 * m + 7].2 = (frameOf payload).getD ((frameOf payload).length - 3 + m) 0
  rel_hold : ∀ k (hk : k < tail.length), k < rel → tail[k].1.closeOk = true
  /-- release: at tail tick `rel` the close threshold fails (what it does afterwards is immaterial:
      31 ticks later the carrier is dropped) -/
  rel_drop : ∀ (hk : rel < tail.length), tail[rel].1.closeOk = false
  tail_len : rel + 40 ≤ tail.length

theorem BurstObserved'.tracked {pl : List Byte} {body tail : List Tick} {acq rel : Nat}
    (H : BurstObserved' pl body tail acq rel) : BurstTracked pl body tail acq rel :=
  ⟨H.body_len, H.acq_le, H.bits_ok, H.close_ok, H.eq_ok, H.eq_tail, H.rel_hold, fun hk => H.rel_drop rel hk (Nat.le_refl _), H.tail_len⟩

theorem BurstObserved.weaken {pl : List Byte} {lead body tail : List Tick} {acq rel : Nat}
    (H : BurstObserved pl lead body tail acq rel) : BurstObserved' pl body tail acq rel :=
  ⟨H.body_len, H.acq_le, H.bits_ok, H.open_ok, H.close_ok, H.eq_ok, H.eq_tail, H.rel_hold,
    H.rel_drop, H.tail_len⟩

/-- running the link model from `s` over `xs`, a sync hit is impossible at tick `t`
    (vacuous beyond the end of `xs`) -/
def NoHitAt (c : LCfg) (s : LState) (xs : List Tick) (t : Nat) : Prop :=
  ∀ x, xs[t]? = some x → NoHit c (lrunState c s (xs.take t)) x.1

/-- a link state that is unsynchronised and idle; the 32-symbol sample history need not be full -/
structure Ready (s : LState) : Prop where
  clock : s.clock = none
  lock : s.lock = false
  fr : s.fr = .idle

theorem Quiescent.ready {s : LState} (h : Quiescent s) : Ready s := ⟨h.clock, h.lock, h.fr⟩

theorem ready_init : Ready {} := ⟨rfl, rfl, rfl⟩

/-- **No false hits**, in terms of the link model's own state: run from `s` over
    `lead ++ body ++ tail`, no sync hit is possible at a lead tick (once the sample history is full:
    before that the model cannot hit anyway), at a body tick before `acq + 31`, at a tail tick. -/
structure NoFalseHits (c : LCfg) (s : LState) (lead body tail : List Tick) (acq : Nat) : Prop where
  in_lead : ∀ t, t < lead.length → 31 ≤ s.nsym + t → NoHitAt c s (lead ++ body ++ tail) t
  in_early : ∀ t, t < acq + 31 → NoHitAt c s (lead ++ body ++ tail) (lead.length + t)
  in_tail : ∀ t, t < tail.length → NoHitAt c s (lead ++ body ++ tail) (lead.length + body.length + t)

/-- the same for `body ++ tail` alone, from the state after the lead-in -/
structure BTNoHit (c : LCfg) (s1 : LState) (body tail : List Tick) (acq : Nat) : Prop where
  early : ∀ t, t < acq + 31 → NoHitAt c s1 (body ++ tail) t
  late : ∀ t, body.length ≤ t → NoHitAt c s1 (body ++ tail) t

/-- no hit over a whole stretch (lead-in, silence) -/
def QuietNoHit (c : LCfg) (s : LState) (xs : List Tick) : Prop :=
  ∀ t, 31 ≤ s.nsym + t → NoHitAt c s xs t

theorem noHitAt_of_closed (c : LCfg) (s : LState) (xs : List Tick) (t : Nat)
    (h : ∀ x, xs[t]? = some x → x.1.openOk = false) : NoHitAt c s xs t :=
  fun x hx => Or.inr (Or.inl (h x hx))

theorem noHitAt_append_right (c : LCfg) (s : LState) (pre xs : List Tick) (t : Nat) :
    NoHitAt c s (pre ++ xs) (pre.length + t) ↔ NoHitAt c (lrunState c s pre) xs t := by
  unfold NoHitAt
  rw [List.getElem?_append_right (by omega), List.take_append,
    List.take_of_length_le (by omega), lrunState_append,
    show pre.length + t - pre.length = t by omega]

theorem noHitAt_append_left (c : LCfg) (s : LState) (xs post : List Tick) (t : Nat)
    (ht : t < xs.length) : NoHitAt c s (xs ++ post) t ↔ NoHitAt c s xs t := by
  unfold NoHitAt
  rw [List.getElem?_append_left ht, List.take_append_of_le_length (by omega)]

theorem NoFalseHits.bt {c : LCfg} {s : LState} {lead body tail : List Tick} {acq : Nat}
    (N : NoFalseHits c s lead body tail acq) : BTNoHit c (lrunState c s lead) body tail acq := by
  constructor
  · intro t ht
    have := N.in_early t ht
    rwa [List.append_assoc, noHitAt_append_right] at this
  · intro t ht
    by_cases hl : t - body.length < tail.length
    · have := N.in_tail (t - body.length) hl
      rwa [List.append_assoc, show lead.length + body.length + (t - body.length) = lead.length + t by omega,
        noHitAt_append_right] at this
    · intro x hx
      have := (List.getElem?_eq_some_iff.1 hx).1
      rw [List.length_append] at this
      omega

theorem NoFalseHits.quiet {c : LCfg} {s : LState} {lead body tail : List Tick} {acq : Nat}
    (N : NoFalseHits c s lead body tail acq) : QuietNoHit c s lead := by
  intro t h31
  by_cases ht : t < lead.length
  · have := N.in_lead t ht h31
    rwa [List.append_assoc, noHitAt_append_left _ _ _ _ _ ht] at this
  · intro x hx
    have := (List.getElem?_eq_some_iff.1 hx).1
    omega

theorem BurstObserved.noFalseHits {pl : List Byte} {lead body tail : List Tick} {acq rel : Nat}
    (H : BurstObserved pl lead body tail acq rel) (c : LCfg) (s : LState) :
    NoFalseHits c s lead body tail acq := by
  constructor
  · intro t ht _
    apply noHitAt_of_closed
    intro x hx
    rw [List.append_assoc, List.getElem?_append_left ht] at hx
    exact H.lead_closed x (List.mem_of_getElem? hx)
  · intro t ht
    apply noHitAt_of_closed
    intro x hx
    rw [List.append_assoc, List.getElem?_append_right (by omega),
      show lead.length + t - lead.length = t by omega] at hx
    have hlen := H.body_len
    have hacq := H.acq_le
    have hfl : 16 ≤ (frameOf pl).length := by simp [frameOf]
    have htb : t < body.length := by omega
    rw [List.getElem?_append_left htb, List.getElem?_eq_getElem htb] at hx
    cases hx
    exact H.open_late t htb ht
  · intro t ht
    apply noHitAt_of_closed
    intro x hx
    rw [List.getElem?_append_right (by rw [List.length_append]; omega), List.length_append,
      show lead.length + body.length + t - (lead.length + body.length) = t by omega] at hx
    exact H.tail_closed x (List.mem_of_getElem? hx)

theorem BurstObserved.btNoHit {pl : List Byte} {lead body tail : List Tick} {acq rel : Nat}
    (H : BurstObserved pl lead body tail acq rel) (c : LCfg) (s1 : LState) :
    BTNoHit c s1 body tail acq := by
  have hlen := H.body_len
  have hacq := H.acq_le
  have hfl : 16 ≤ (frameOf pl).length := by simp [frameOf]
  constructor
  · intro t ht
    apply noHitAt_of_closed
    intro x hx
    have htb : t < body.length := by omega
    rw [List.getElem?_append_left htb, List.getElem?_eq_getElem htb] at hx
    cases hx
    exact H.open_late t htb ht
  · intro t ht
    apply noHitAt_of_closed
    intro x hx
    rw [List.getElem?_append_right ht] at hx
    exact H.tail_closed x (List.mem_of_getElem? hx)

end SameVerif.Spec
