import SameVerif.Spec.FrontEnd
import SameVerif.Spec.StreamObserved
import SameVerif.Spec.StreamObserved2
/-
  Are the front-end assumptions of the C01 theorems met by what the DSP front end actually
  delivered on a tapped real run?  (Evidence about the assumptions, not a verdict on the property.)

  Three layers:
  * SEARCH (`alignBurst`, `checkBurstAt`, `checkTransmission`; `findBurst2`, `findTransmission2`):
    locates every burst in the tick stream and finds its parameters (`acq`, `rel`, `sync`); names
    the first clause that fails (diagnostics).  Unverified.
  * VERDICT (`streamObservedB`, `streamObserved2B`): `decide` of the very propositions
    `Spec.StreamObservedF` / `Spec.StreamObserved2F` that the theorems take as hypotheses, on the
    positions the search found.  `streamObservedB_iff`, `streamObserved2B_iff`: a `true` verdict is
    a proof of `StreamObserved` / `StreamObserved2` for `ticks.toList`; `C01s.checked_stream_bursts`
    and `C01t.checked_stream_bursts2` draw the conclusion.
  * the driver prints `fe_all=sat` iff `streamObservedB` (realistic assumptions) and
    `fe2_all=sat` iff `streamObserved2B` (generalised synchronisation) returned `true`.

  The tick stream is rebuilt exactly as the link-model request does it: one observation per symbol
  tick, and the equalizer byte attached to the tick at which the model's byte clock consumes it.
-/
namespace SameVerif.Spec
open SameVerif

/-- the link model's input stream for a tapped run -/
def ticksOf (c : LCfg) (obs : List Obs) (bytes : List Byte) : Array Tick := Id.run do
  let mut st : LState := {}
  let mut rest := bytes
  let mut out : Array Tick := Array.mkEmpty obs.length
  for o in obs do
    let eb := rest.headD 0
    let (st', _, bt) := lstep c st o eb
    st := st'
    out := out.push (o, eb)
    if bt.isSome then rest := rest.tail
  return out

structure FEOk where
  o : Nat
  acq : Nat
  rel : Nat
  next : Nat      -- first tick after the minimal tail (`rel + 40` ticks)

/-- first index `k < n` with `p k`, if any -/
def firstIdx (n : Nat) (p : Nat → Bool) : Option Nat := (List.range n).find? p

/-- correlator window error at stream index `t` (`31 ≤ t`): differences between the sync word and
    the last 32 hard decisions -/
def windowErr (ticks : Array Tick) (t : Nat) : Nat :=
  (List.range 32).countP (fun i =>
    SYNC_WORD.toBitVec.getLsbD i != (ticks.getD (t - 31 + i) (⟨false, false, false⟩, 0)).1.bit)

/-- last index `j < n` with `p j`, if any -/
def lastIdx (n : Nat) (p : Nat → Bool) : Option Nat := (List.range n).reverse.find? p

/-- decide the (refined) `BurstObserved` for `body = ticks[o, o + 8F)`, `lead = ticks[leadFrom, o)`,
    `tail = ticks[o + 8F, o + 8F + rel + 40)`: `acq` is the least index from which bits, close
    threshold and (31 ticks later) open threshold are all right; `no_early`: before `acq + 31` no tick
    has both the open threshold met and a correlator window within `maxErr` of the sync word -/
def checkBurstAt (maxErr : Nat) (ticks : Array Tick) (payload : List Byte) (leadFrom o : Nat) : Except String FEOk :=
  let frame := (frameOf payload).toArray
  let bits := (bitsOf (frameOf payload)).toArray
  let n := bits.size
  let tk (i : Nat) : Tick := ticks.getD i (⟨false, false, false⟩, 0)
  if o + n > ticks.size then .error "stream_too_short"
  else if o < 31 then .error "lead_shorter_than_31"
  else
    let a1 := match lastIdx n (fun j => (tk (o + j)).1.bit != bits.getD j false) with | some j => j + 1 | none => 0
    let a2 := match lastIdx n (fun j => !(tk (o + j)).1.closeOk) with | some j => j + 1 | none => 0
    let a3 := match lastIdx n (fun j => !(tk (o + j)).1.openOk) with | some j => j + 1 - 31 | none => 0
    let acq := max a1 (max a2 a3)
    if acq > 89 then .error s!"acq_le:{acq}:bits={a1}:close={a2}:open={a3}"
    else
    match firstIdx (acq + 31) (fun j => (tk (o + j)).1.openOk && decide (windowErr ticks (o + j) ≤ maxErr)) with
    | some j => .error s!"no_early:hit_at_bit_{j}:phase_{j % 8}:err_{windowErr ticks (o + j)}"
    | none =>
      match firstIdx (frame.size - 3) (fun m => (tk (o + 8 * (m + 3) + 7)).2 != frame.getD m 0) with
      | some m => .error s!"eq_ok:byte_{m}"
      | none =>
        let e := o + n
        match firstIdx 3 (fun m => (tk (e + 8 * m + 7)).2 != frame.getD (frame.size - 3 + m) 0) with
        | some m => .error s!"eq_tail:byte_{m}"
        | none =>
          match firstIdx (ticks.size - e) (fun k => !(tk (e + k)).1.closeOk) with
          | none => .error "rel_drop:never_released"
          | some rel =>
            if e + rel + 40 > ticks.size then .error "tail_len"
            else
            match firstIdx (rel + 40) (fun k => decide (rel ≤ k) && (tk (e + k)).1.closeOk) with
            | some k => .error s!"rel_drop:reopened_at_{k}"
            | none =>
            match firstIdx (rel + 40) (fun k => (tk (e + k)).1.openOk && decide (windowErr ticks (e + k) ≤ maxErr)) with
            | some k => .error s!"tail_no_hit:hit_at_{k}"
            | none =>
            match firstIdx (o - leadFrom) (fun k => (tk (leadFrom + k)).1.openOk && decide (31 ≤ leadFrom + k) && decide (windowErr ticks (leadFrom + k) ≤ maxErr)) with
            | some k => .error s!"lead_no_hit:hit_at_{leadFrom + k}"
            | none => .ok ⟨o, acq, rel, e + rel + 40⟩

/-- find the body start near `hint`: the offset at which every transmitted bit from index 96 on is
    what the correlator decided -/
def alignBurst (ticks : Array Tick) (payload : List Byte) (hint : Nat) : Option Nat :=
  let bits := (bitsOf (frameOf payload)).toArray
  let n := bits.size
  let lo := hint - 24
  (List.range 96).findSome? (fun d =>
    let o := lo + d
    if o + n ≤ ticks.size ∧ (List.range (n - 96)).all (fun j => (ticks.getD (o + 96 + j) (⟨false, false, false⟩, 0)).1.bit == bits.getD (96 + j) false)
    then some o else none)

/-- the bursts of one transmission in order: `(payload, hint)`; result: per burst `FEOk` or the failing clause -/
def checkTransmission (maxErr : Nat) (ticks : Array Tick) (bursts : List (List Byte × Nat)) : List (Except String FEOk) := Id.run do
  let mut leadFrom := 0
  let mut out : List (Except String FEOk) := []
  for (p, hint) in bursts do
    match alignBurst ticks p hint with
    | none => out := .error "no_alignment" :: out
    | some o =>
      let r := checkBurstAt maxErr ticks p leadFrom o
      match r with
      | .ok ok => leadFrom := ok.next
      | .error _ => leadFrom := o + 8 * (frameOf p).length
      out := r :: out
  return out.reverse

/-! ### the verdict: the positions `checkTransmission` found are handed to `streamObservedB`, `decide`
  of the hypothesis `Spec.StreamObservedF` of `C01s.stream_bursts` / `Chain.stream_decoded` -/

/-- the bursts found by `checkTransmission`, as the `segs` of `StreamObserved`
    (`none` unless every burst was found and passed the search's own checks) -/
def segsOfResults : List (List Byte × Nat) → List (Except String FEOk) → Option (List BurstSpec)
  | [], [] => some []
  | (p, _) :: bs, .ok k :: rs => (segsOfResults bs rs).map (fun l => ⟨k.o, p, k.acq, k.rel⟩ :: l)
  | _, _ => none

/-- **the executable check is the theorems' hypothesis**, evaluated on the tapped tick array -/
def streamObservedB (maxErr : Nat) (ticks : Array Tick) (segs : List BurstSpec) : Bool :=
  decide (StreamObservedF maxErr (fun i => ticks.getD i dfltTick) ticks.size segs)

theorem streamObservedB_iff (maxErr : Nat) (ticks : Array Tick) (segs : List BurstSpec) :
    streamObservedB maxErr ticks segs = true ↔ StreamObserved maxErr ticks.toList segs := by
  have hf : (fun i => ticks.getD i dfltTick) = (fun i => ticks.toList.getD i dfltTick) := by
    funext i
    rw [Array.getD_eq_getD_getElem?, List.getD_eq_getElem?_getD, Array.getElem?_toList]
  unfold streamObservedB StreamObserved
  rw [decide_eq_true_iff, hf, Array.length_toList]

theorem streamObservedB_sound (maxErr : Nat) (ticks : Array Tick) (segs : List BurstSpec)
    (h : streamObservedB maxErr ticks segs = true) : StreamObserved maxErr ticks.toList segs :=
  (streamObservedB_iff maxErr ticks segs).1 h

/-- which part of `StreamObservedF` fails (diagnostics only) -/
def streamObservedWhy (maxErr : Nat) (ticks : Array Tick) (segs : List BurstSpec) : String :=
  let tk := fun i => ticks.getD i dfltTick
  if ¬ (∀ g ∈ segs, BurstAtF tk ticks.size g) then "burst_clauses"
  else if ¬ orderedFrom 32 segs then "order"
  else match (List.range ticks.size).find? (fun t => decide (31 ≤ t) && !decide (InSynced segs t ∨ QuietAtF maxErr tk t)) with
    | some t => s!"hit_possible_at_{t}"
    | none => "none"

/-! ### the generalised check (`Spec.StreamObserved2`: early, wrong-phase, dropped first hits allowed) -/

/-- SEARCH (unverified): position parameters of one burst for `StreamObserved2` — `acq` from bits and
    close threshold, `rel` from the close threshold, `sync` = the first byte-aligned body tick for which
    the synchronisation clauses `SyncAt2F` hold (lead-in from tick `a`) -/
def findBurst2 (maxErr : Nat) (ticks : Array Tick) (payload : List Byte) (a o : Nat) : Except String BurstSpec2 :=
  let bits := (bitsOf (frameOf payload)).toArray
  let n := bits.size
  let tk (i : Nat) : Tick := ticks.getD i dfltTick
  if o + n > ticks.size then .error "stream_too_short"
  else if o < 32 then .error "lead_shorter_than_32"
  else if o < a then .error "overlaps_previous_tail"
  else
    let a1 := match lastIdx n (fun j => (tk (o + j)).1.bit != bits.getD j false) with | some j => j + 1 | none => 0
    let a2 := match lastIdx n (fun j => !(tk (o + j)).1.closeOk) with | some j => j + 1 | none => 0
    let acq := max a1 a2
    if acq > 89 then .error s!"acq_le:{acq}:bits={a1}:close={a2}"
    else
      let e := o + n
      match firstIdx (ticks.size - e) (fun k => !(tk (e + k)).1.closeOk) with
      | none => .error "rel_drop:never_released"
      | some rel =>
        match firstIdx 15 (fun q => decide (SyncAt2F maxErr tk (max a 31) ⟨o, payload, acq, 8 * (q + 1) + 7, rel⟩)) with
        | none =>
          let hits := (List.range 144).filter (fun r => potHit maxErr tk (o - 16 + r))
          .error s!"no_sync:acq={acq}:hits_rel={hits.map (fun r => Int.ofNat r - 16)}"
        | some q => .ok ⟨o, payload, acq, 8 * (q + 1) + 7, rel⟩

def findTransmission2 (maxErr : Nat) (ticks : Array Tick) (bursts : List (List Byte × Nat)) : List (Except String BurstSpec2) := Id.run do
  let mut a := 0
  let mut out : List (Except String BurstSpec2) := []
  for (p, hint) in bursts do
    match alignBurst ticks p hint with
    | none => out := .error "no_alignment" :: out
    | some o =>
      let r := findBurst2 maxErr ticks p a o
      match r with
      | .ok g => a := g.stop
      | .error _ => a := o + 8 * (frameOf p).length
      out := r :: out
  return out.reverse

def allFound2 : List (Except String BurstSpec2) → Option (List BurstSpec2)
  | [] => some []
  | .ok g :: rs => (allFound2 rs).map (g :: ·)
  | .error _ :: _ => none

/-- **the executable check is the hypothesis** of `C01t.stream_bursts2` / `Chain.stream_decoded2` -/
def streamObserved2B (maxErr : Nat) (ticks : Array Tick) (segs : List BurstSpec2) : Bool :=
  decide (StreamObserved2F maxErr (fun i => ticks.getD i dfltTick) ticks.size segs)

theorem streamObserved2B_iff (maxErr : Nat) (ticks : Array Tick) (segs : List BurstSpec2) :
    streamObserved2B maxErr ticks segs = true ↔ StreamObserved2 maxErr ticks.toList segs := by
  have hf : (fun i => ticks.getD i dfltTick) = (fun i => ticks.toList.getD i dfltTick) := by
    funext i
    rw [Array.getD_eq_getD_getElem?, List.getD_eq_getElem?_getD, Array.getElem?_toList]
  unfold streamObserved2B StreamObserved2
  rw [decide_eq_true_iff, hf, Array.length_toList]

theorem streamObserved2B_sound (maxErr : Nat) (ticks : Array Tick) (segs : List BurstSpec2)
    (h : streamObserved2B maxErr ticks segs = true) : StreamObserved2 maxErr ticks.toList segs :=
  (streamObserved2B_iff maxErr ticks segs).1 h

/-- which clause fails first for burst `g` with lead-in from `a` (diagnostics only) -/
def burstAt2Why (maxErr : Nat) (ticks : Array Tick) (a : Nat) (g : BurstSpec2) : String :=
  let tk := fun i => ticks.getD i dfltTick
  let F := (frameOf g.payload).length
  if ¬ g.stop ≤ ticks.size then "tail_len"
  else if ¬ (∀ m, m < F - 3 → (tk (g.o + (8 * (m + 3) + 7))).2 = (frameOf g.payload).getD m 0) then "eq_ok"
  else if ¬ TrackAt2F tk ticks.size g then "track_other"
  else if ¬ SyncAt2F maxErr tk (max a 31) g then "sync"
  else if ¬ (∀ t, t < g.stop → g.e ≤ t → potHit maxErr tk t = false) then "tail_hit"
  else "none"

/-- per burst verdicts along the chain (diagnostics only; the verdict is `streamObserved2B`) -/
def chainWhy2 (maxErr : Nat) (ticks : Array Tick) : Nat → List BurstSpec2 → List String
  | a, [] =>
    match (List.range ticks.size).find? (fun t => decide (a ≤ t) && decide (31 ≤ t) && potHit maxErr (fun i => ticks.getD i dfltTick) t) with
    | some t => [s!"final_hit_possible_at_{t}"]
    | none => []
  | a, g :: gs => burstAt2Why maxErr ticks a g :: chainWhy2 maxErr ticks g.stop gs

end SameVerif.Spec
