/-
  C17 for the model, from the raw setter arguments (`Model/BuilderCfg.lean`): every receiver
  configuration expressible through the builder builds without panicking at any sample rate and
  processes audio without panicking.

  B1  the setters are total — NO range assumption on any argument: every out-of-range argument is
      clamped, none panics (generic in `F` under `OrderLaws F`, given `0 ≤ f32::MAX`) — and the
      ranges of what they store (`SetterRanges`).  Observation `squelch_close_can_exceed_open`:
      `with_squelch_power` takes `min(close, open)` with the RAW `open`, so the stored close
      threshold can exceed the stored (clamped) open threshold when the raw open exceeds 1.
  B2  the derived constructor arguments (`rxCfgOf`): DC-blocker length ≥ 1 (fix F1: `max 1`),
      samples per symbol ≥ 0, equalizer orders ≥ 1, gain limits unchanged.
  B3  `built_receiver_never_panics`: from ANY setter arguments with `agc_min ≤ agc_max`, at any
      rate, the setters, `FullRx.new` and every `FullRx.run` succeed; `built_samedec_never_panics`;
      the converse witness `reversed_limits_panic`.
  B4  non-vacuity: concrete arguments where the clamps bite.
-/
import SameVerif.Lemmas.BuilderCfgFacts
import SameVerif.Thm.Program
import SameVerif.Thm.Silence

namespace SameVerif.BuilderCfgThm

open SameVerif SameVerif.Dsp Arith

-- for the evaluations below (`decide +kernel` on `applySetters … = some …`)
deriving instance DecidableEq for SameVerif.Dsp.BuilderState

/-! ## B1 the setters are total; the ranges of what they store -/

section Setters
variable {F : Type} [Arith F] [OrderLaws F]

/-- **The setters never panic**, whatever they are given: no hypothesis on `a` at all.  (The only
    `clamp` whose limits are not constants is `clamp(timing_bw_locked, 0, timing_bw_unlocked)`, and
    `0 ≤ timing_bw_unlocked` after ITS clamp.) -/
theorem applySetters_total {fmaxVal : F} (hmax : le zero fmaxVal = true) (a : BuilderArgs F) :
    ∃ b, applySetters fmaxVal a = some b := by
  obtain ⟨_, _, _, _, _, _, _, _, _, _, _, _, e⟩ := applySetters_spec hmax a
  exact ⟨_, e⟩

theorem applySetters_ne_none {fmaxVal : F} (hmax : le zero fmaxVal = true) (a : BuilderArgs F) :
    applySetters fmaxVal a ≠ none := by
  obtain ⟨b, e⟩ := applySetters_total hmax a
  rw [e]; exact Option.some_ne_none _

theorem eqSetters_total {fmaxVal : F} (hmax : le zero fmaxVal = true) (e : Nat × Nat × F × F) :
    ∃ q, eqSetters fmaxVal e = some q := by
  obtain ⟨_, _, _, _, h⟩ := eqSetters_spec hmax e
  exact ⟨_, h⟩

omit [OrderLaws F] in
/-- the hypothesis `0 ≤ f32::MAX` of the totality theorems is needed (and is all that is needed):
    without it `with_regularization`'s `clamp(0, f32::MAX)` asserts -/
theorem eqSetters_none_iff (fmaxVal : F) (e : Nat × Nat × F × F) (h01 : le (zero : F) one = true) :
    eqSetters fmaxVal e = none ↔ le zero fmaxVal = false := by
  unfold eqSetters
  obtain ⟨r, hr⟩ := clamp_isSome_of_le (x := e.2.2.1) h01
  rw [hr]
  cases h : le zero fmaxVal with
  | false => rw [(clamp_none_iff _ _ _).2 h]; simp
  | true => obtain ⟨q, hq⟩ := clamp_isSome_of_le (x := e.2.2.2) h; rw [hq]; simp

theorem eqSetters_ranges {fmaxVal : F} {e : Nat × Nat × F × F} {nff nfb : Nat} {relax reg : F}
    (h : eqSetters fmaxVal e = some (nff, nfb, relax, reg)) :
    1 ≤ nfb ∧ nfb ≤ nff ∧ nff = max e.1 1 ∧ nfb = min (max e.2.1 1) nff ∧
    le zero relax = true ∧ le relax one = true ∧ le zero reg = true ∧ le reg fmaxVal = true := by
  unfold eqSetters at h
  cases h1 : clamp e.2.2.1 zero one with
  | none => simp [h1] at h
  | some r1 =>
    cases h2 : clamp e.2.2.2 zero fmaxVal with
    | none => simp [h1, h2] at h
    | some r2 =>
      simp only [h1, h2, Option.some.injEq, Prod.mk.injEq] at h
      obtain ⟨rfl, rfl, rfl, rfl⟩ := h
      obtain ⟨_, a1, a2⟩ := clamp_bounds' h1
      obtain ⟨_, b1, b2⟩ := clamp_bounds' h2
      exact ⟨by omega, by omega, rfl, rfl, a1, a2, b1, b2⟩

omit [OrderLaws F] in
/-- `with_agc_gain_limits` stores its arguments as they are (no law about `F` needed) -/
theorem applySetters_agcLimits {fmaxVal : F} {a : BuilderArgs F} {b : BuilderState F}
    (h : applySetters fmaxVal a = some b) : b.agcMin = a.agcMin ∧ b.agcMax = a.agcMax := by
  unfold applySetters at h
  split at h
  · split at h
    · split at h
      · cases h; exact ⟨rfl, rfl⟩
      · rename_i e _
        cases hq : eqSetters fmaxVal e with
        | none => rw [hq] at h; cases h
        | some q => rw [hq] at h; cases h; exact ⟨rfl, rfl⟩
    · cases h
  · cases h

/-- the ranges of the builder's fields after the setters ran, relative to the raw arguments -/
structure SetterRanges (fmaxVal : F) (a : BuilderArgs F) (b : BuilderState F) : Prop where
  rate : b.rate = a.rate
  /-- `with_dc_blocker_length`: `f32::max(0.0, len)` -/
  dcLen : le zero b.dcLen = true
  agcBw : le zero b.agcBw = true ∧ le b.agcBw one = true
  /-- `with_agc_gain_limits` stores its arguments as they are -/
  agcLimits : b.agcMin = a.agcMin ∧ b.agcMax = a.agcMax
  /-- `0 ≤ locked ≤ unlocked ≤ 1` -/
  timingBw : le zero b.timingBwLocked = true ∧ le b.timingBwLocked b.timingBwUnlocked = true ∧
    le b.timingBwUnlocked one = true
  timingMaxDev : le zero b.timingMaxDev = true ∧ le b.timingMaxDev half = true
  squelchOpen : le zero b.squelchOpen = true ∧ le b.squelchOpen one = true
  /-- `f32::min(close, open)` with the RAW `open` -/
  squelchClose : le b.squelchClose a.squelchOpen = true ∧ le b.squelchClose a.squelchClose = true
  squelchBw : b.squelchBw = a.squelchBw
  preambleMaxErrors : b.preambleMaxErrors = a.preambleMaxErrors
  framePrefixMaxErrors : b.framePrefixMaxErrors = min a.framePrefixMaxErrors 7 ∧ b.framePrefixMaxErrors ≤ 7
  frameMaxInvalid : b.frameMaxInvalid = a.frameMaxInvalid
  /-- the equalizer is disabled exactly when the caller disabled it -/
  eqNone : b.eq = none ↔ a.eq = none
  /-- … and otherwise holds what `eqSetters` stored -/
  eqSome : ∀ q, b.eq = some q → ∃ e, a.eq = some e ∧ eqSetters fmaxVal e = some q
  eqRanges : ∀ nff nfb relax reg, b.eq = some (nff, nfb, relax, reg) →
    1 ≤ nfb ∧ nfb ≤ nff ∧ le zero relax = true ∧ le relax one = true ∧
    le zero reg = true ∧ le reg fmaxVal = true

theorem applySetters_ranges {fmaxVal : F} (hmax : le zero fmaxVal = true) {a : BuilderArgs F}
    {b : BuilderState F} (h : applySetters fmaxVal a = some b) : SetterRanges fmaxVal a b := by
  obtain ⟨agcBw, tbu, tbl, dev, sqo, eq, h1, h2, h3, h4, h5, hq, e⟩ := applySetters_spec hmax a
  rw [e] at h
  cases h
  obtain ⟨_, a1, a2⟩ := clamp_bounds' h1
  obtain ⟨_, _, b2⟩ := clamp_bounds' h2
  obtain ⟨_, c1, c2⟩ := clamp_bounds' h3
  obtain ⟨_, d1, d2⟩ := clamp_bounds' h4
  obtain ⟨_, e1, e2⟩ := clamp_bounds' h5
  have heq : (eq = none ↔ a.eq = none) ∧
      ∀ q, eq = some q → ∃ e, a.eq = some e ∧ eqSetters fmaxVal e = some q := by
    cases ha : a.eq with
    | none =>
      rw [ha] at hq; dsimp only at hq
      exact ⟨⟨fun _ => rfl, fun _ => hq⟩, fun q hqq => by rw [hq] at hqq; cases hqq⟩
    | some e0 =>
      rw [ha] at hq; dsimp only at hq
      obtain ⟨relax, reg, c1, c2, rfl⟩ := hq
      refine ⟨⟨(fun h => nomatch h), (fun h => nomatch h)⟩, fun q hqq => ⟨e0, rfl, ?_⟩⟩
      cases hqq
      unfold eqSetters
      simp only [c1, c2]
  refine ⟨rfl, le_fmax_left _ _, ⟨a1, a2⟩, ⟨rfl, rfl⟩, ⟨c1, c2, b2⟩, ⟨d1, d2⟩, ⟨e1, e2⟩,
    ⟨fmin_le_right _ _, fmin_le_left _ _⟩, rfl, rfl, ⟨rfl, Nat.min_le_right _ _⟩, rfl, heq.1, heq.2, ?_⟩
  intro nff nfb relax reg hb
  obtain ⟨e0, _, he⟩ := heq.2 _ hb
  obtain ⟨r1, r2, _, _, r5, r6, r7, r8⟩ := eqSetters_ranges he
  exact ⟨r1, r2, r5, r6, r7, r8⟩

/-- arguments inside the documented ranges are stored as they are -/
theorem applySetters_inrange {fmaxVal : F} {a : BuilderArgs F}
    (hdc : lt zero a.dcLen = true)
    (h1 : le zero a.agcBw = true ∧ le a.agcBw one = true)
    (h2 : le zero a.timingBwUnlocked = true ∧ le a.timingBwUnlocked one = true)
    (h3 : le zero a.timingBwLocked = true ∧ le a.timingBwLocked a.timingBwUnlocked = true)
    (h4 : le zero a.timingMaxDev = true ∧ le a.timingMaxDev half = true)
    (h5 : le zero a.squelchOpen = true ∧ le a.squelchOpen one = true)
    (h6 : le a.squelchClose a.squelchOpen = true) (h7 : a.framePrefixMaxErrors ≤ 7)
    (h8 : a.eq = none) :
    applySetters fmaxVal a = some
      { rate := a.rate, dcLen := a.dcLen, agcBw := a.agcBw, agcMin := a.agcMin, agcMax := a.agcMax,
        timingBwUnlocked := a.timingBwUnlocked, timingBwLocked := a.timingBwLocked,
        timingMaxDev := a.timingMaxDev, squelchOpen := a.squelchOpen, squelchClose := a.squelchClose,
        squelchBw := a.squelchBw, preambleMaxErrors := a.preambleMaxErrors, eq := none,
        framePrefixMaxErrors := a.framePrefixMaxErrors, frameMaxInvalid := a.frameMaxInvalid } := by
  have h01 := OrderLaws.zero_le_one (F := F)
  unfold applySetters
  rw [clamp_of_mem h1.1 h1.2 h01, clamp_of_mem h2.1 h2.2 h01]
  dsimp only
  rw [clamp_of_mem h3.1 h3.2 h2.1, clamp_of_mem h4.1 h4.2 OrderLaws.zero_le_half,
    clamp_of_mem h5.1 h5.2 h01]
  simp only [h8, fmax, fmin, hdc, not_lt_of_le h6, if_true, Nat.min_eq_left h7]
  rfl

end Setters

/-! ### an observation about `with_squelch_power` (not a panic) -/

/-- `with_squelch_power(open, close)` stores `open.clamp(0, 1)` and `close.min(open)` — with the RAW
    `open`.  With `open = 2`, `close = 3/2` the stored close threshold `3/2` exceeds the stored open
    threshold `1`: `squelchClose ≤ squelchOpen` does NOT hold for the stored values in general. -/
theorem squelch_close_can_exceed_open :
    ∃ (a : BuilderArgs Rat) (b : BuilderState Rat), applySetters (1000 : Rat) a = some b ∧
      a.squelchOpen = 2 ∧ a.squelchClose = 3 / 2 ∧ b.squelchOpen = 1 ∧ b.squelchClose = 3 / 2 ∧
      b.squelchOpen < b.squelchClose :=
  ⟨⟨8000, 0, 0, 0, 1, 0, 0, 0, 2, 3 / 2, 0, 0, none, 0, 0⟩,
   ⟨8000, 0, 0, 0, 1, 0, 0, 0, 1, 3 / 2, 0, 0, none, 0, 0⟩,
   by decide +kernel, rfl, rfl, rfl, rfl, by decide +kernel⟩

/-- … while it does whenever the raw open threshold is at most 1 -/
theorem squelch_close_le_open {fmaxVal : Rat} {a : BuilderArgs Rat} {b : BuilderState Rat}
    (hmax : 0 ≤ fmaxVal) (h : applySetters fmaxVal a = some b) (ho : a.squelchOpen ≤ 1) :
    b.squelchClose ≤ b.squelchOpen ∨ b.squelchClose ≤ 0 := by
  obtain ⟨agcBw, tbu, tbl, dev, sqo, eq, _, _, _, _, h5, _, e⟩ :=
    applySetters_spec ((rat_le_iff _ _).2 hmax) a
  rw [e] at h; cases h
  dsimp only
  have hm : fmin a.squelchClose a.squelchOpen ≤ a.squelchOpen := (rat_le_iff _ _).1 (fmin_le_right _ _)
  obtain ⟨y, e5, y0, _, yid⟩ := clamp_rat (x := a.squelchOpen) (lo := 0) (hi := 1) (by decide)
  have : clamp a.squelchOpen zero one = some y := e5
  rw [this] at h5; cases h5
  by_cases h0 : 0 ≤ a.squelchOpen
  · left; rw [yid h0 ho]; exact hm
  · right; grind

/-! ## B2 the derived constructor arguments -/

section Derived
variable {F : Type} [Arith F]

/-- the DC blocker's window length is at least one sample (fix F1: `usize::max(1, …)`), whatever
    `as usize` returns — no hypothesis -/
theorem rxCfgOf_dcLen_pos (d : Derive F) (b : BuilderState F) : 0 < (rxCfgOf d b).dcLen := by
  have : (rxCfgOf d b).dcLen = max 1 (d.toUsize (mul b.dcLen (div (ofNat b.rate) d.baud))) := rfl
  rw [this]; omega

theorem rxCfgOf_dcLen_ne_zero (d : Derive F) (b : BuilderState F) : (rxCfgOf d b).dcLen ≠ 0 :=
  Nat.pos_iff_ne_zero.1 (rxCfgOf_dcLen_pos d b)

theorem rxCfgOf_passthrough (d : Derive F) (b : BuilderState F) :
    (rxCfgOf d b).agcMin = b.agcMin ∧ (rxCfgOf d b).agcMax = b.agcMax ∧
    (rxCfgOf d b).rate = b.rate ∧ (rxCfgOf d b).sps = div (ofNat b.rate) d.baud ∧
    (rxCfgOf d b).maxDev = b.timingMaxDev ∧ (rxCfgOf d b).powerOpen = b.squelchOpen ∧
    (rxCfgOf d b).powerClose = b.squelchClose ∧ (rxCfgOf d b).squelchBw = b.squelchBw ∧
    (rxCfgOf d b).lcfg = ⟨b.preambleMaxErrors, ⟨b.framePrefixMaxErrors, b.frameMaxInvalid⟩⟩ :=
  ⟨rfl, rfl, rfl, rfl, rfl, rfl, rfl, rfl, rfl⟩

/-- the equalizer's parameters: the stored ones, or `disabled_equalizer()` -/
theorem rxCfgOf_eq (d : Derive F) (b : BuilderState F) :
    ((rxCfgOf d b).nff, (rxCfgOf d b).nfb, (rxCfgOf d b).relax, (rxCfgOf d b).reg) =
      match b.eq with
      | some e => e
      | none => (1, 1, zero, d.defaultReg) := rfl

theorem rxCfgOf_orders [OrderLaws F] {fmaxVal : F} (hmax : le zero fmaxVal = true) (d : Derive F)
    {a : BuilderArgs F} {b : BuilderState F} (h : applySetters fmaxVal a = some b) :
    1 ≤ (rxCfgOf d b).nfb ∧ (rxCfgOf d b).nfb ≤ (rxCfgOf d b).nff := by
  have hr := applySetters_ranges hmax h
  have he := rxCfgOf_eq d b
  cases hb : b.eq with
  | none =>
    rw [hb] at he
    simp only [Prod.mk.injEq] at he
    rw [he.1, he.2.1]; omega
  | some q =>
    obtain ⟨nff, nfb, relax, reg⟩ := q
    rw [hb] at he
    simp only [Prod.mk.injEq] at he
    obtain ⟨r1, r2, _⟩ := hr.eqRanges _ _ _ _ hb
    rw [he.1, he.2.1]; exact ⟨r1, r2⟩

end Derived

/-- samples per symbol: `rate / BAUD ≥ 0` at every rate, 0 included -/
theorem rxCfgOf_sps_nonneg {d : Derive Rat} (hbaud : 0 < d.baud) (b : BuilderState Rat) :
    0 ≤ (rxCfgOf d b).sps :=
  rat_div_nonneg (a := (b.rate : Rat)) Rat.natCast_nonneg hbaud

/-- the AGC bandwidth per sample the constructor receives is non-negative (and then clamped to
    `[0, 1]` by `Agc::new`) -/
theorem rxCfgOf_agcBw_nonneg {fmaxVal : Rat} (hmax : 0 ≤ fmaxVal) {d : Derive Rat} (hbaud : 0 < d.baud)
    {a : BuilderArgs Rat} {b : BuilderState Rat} (h : applySetters fmaxVal a = some b) :
    0 ≤ (rxCfgOf d b).agcBw := by
  have hr := applySetters_ranges ((rat_le_iff _ _).2 hmax) h
  have h0 : 0 ≤ b.agcBw := (rat_le_iff _ _).1 hr.agcBw.1
  have hs := rxCfgOf_sps_nonneg hbaud b
  have : (rxCfgOf d b).agcBw = b.agcBw * (rxCfgOf d b).sps / (b.rate : Rat) := rfl
  rw [this, Rat.div_def]
  refine Rat.mul_nonneg (Rat.mul_nonneg h0 hs) ?_
  by_cases hz : b.rate = 0
  · rw [hz]; decide +kernel
  · exact Rat.le_of_lt (Rat.inv_pos.2 (Rat.natCast_pos.2 (Nat.pos_of_ne_zero hz)))

/-! ## B3 the built receiver never panics -/

theorem built_exists {fmaxVal : Rat} (hmax : 0 ≤ fmaxVal) (a : BuilderArgs Rat) (d : Derive Rat) :
    ∃ b r0, applySetters fmaxVal a = some b ∧ SetterRanges fmaxVal a b ∧
      FullRx.new (rxCfgOf d b) = some r0 ∧
      (rxCfgOf d b).agcMin = a.agcMin ∧ (rxCfgOf d b).agcMax = a.agcMax := by
  have hmax' := (rat_le_iff 0 fmaxVal).2 hmax
  obtain ⟨b, hb⟩ := applySetters_total hmax' a
  have hr := applySetters_ranges hmax' hb
  obtain ⟨r0, hnew⟩ := FullRxThm.fullrx_new_rat (rxCfgOf_dcLen_ne_zero d b)
  exact ⟨b, r0, hb, hr, hnew, hr.agcLimits⟩

section NeverPanics
variable [Hypot Rat]

/-- **C17 for the model.**  Whatever is passed to the setters — any sampling rate (0 included), any
    DC-blocker length (0.0 and negatives included), any bandwidths, deviations, squelch powers,
    the equalizer disabled or with any orders and parameters, any error budgets — provided only the
    documented precondition `agc_min ≤ agc_max` of `with_agc_gain_limits`:
    the setters do not panic, `SameReceiver::from(&builder)` does not panic, and the receiver
    processes every sample list without panicking. -/
theorem built_receiver_never_panics {fmaxVal : Rat} (hmax : 0 ≤ fmaxVal) (a : BuilderArgs Rat)
    (hagc : a.agcMin ≤ a.agcMax) {d : Derive Rat} (hbaud : 0 < d.baud) :
    ∃ b r0, applySetters fmaxVal a = some b ∧ SetterRanges fmaxVal a b ∧
      FullRx.new (rxCfgOf d b) = some r0 ∧ ∀ xs : List Rat, FullRx.run r0 xs ≠ none := by
  obtain ⟨b, r0, hb, hr, hnew, e1, e2⟩ := built_exists hmax a d
  exact ⟨b, r0, hb, hr, hnew, fun xs =>
    FullRxThm.fullrx_never_panics_rat hnew (rxCfgOf_sps_nonneg hbaud b) (by rw [e1, e2]; exact hagc) xs⟩

/-- the same in the form "for every `b`, `r0` the two constructors return" -/
theorem built_receiver_never_panics' {fmaxVal : Rat} {a : BuilderArgs Rat}
    (hagc : a.agcMin ≤ a.agcMax) {d : Derive Rat} (hbaud : 0 < d.baud)
    {b : BuilderState Rat} {r0 : FullRx Rat} (hb : applySetters fmaxVal a = some b)
    (hnew : FullRx.new (rxCfgOf d b) = some r0) (xs : List Rat) : FullRx.run r0 xs ≠ none := by
  refine FullRxThm.fullrx_never_panics_rat hnew (rxCfgOf_sps_nonneg hbaud b) ?_ xs
  obtain ⟨e1, e2⟩ := applySetters_agcLimits hb
  show b.agcMin ≤ b.agcMax
  rw [e1, e2]; exact hagc

/-- **Corollary, whole program.**  `samedec` with a receiver built from any setter arguments with
    `agc_min ≤ agc_max` does not panic on any input byte string, for any application options and
    any child-spawning behaviour. -/
theorem built_samedec_never_panics {fmaxVal : Rat} (hmax : 0 ≤ fmaxVal) (a : BuilderArgs Rat)
    (hagc : a.agcMin ≤ a.agcMax) {d : Derive Rat} (hbaud : 0 < d.baud) :
    ∃ b, applySetters fmaxVal a = some b ∧
      ∀ (app : AppCfg) (spawnOk : Nat → Bool) (bytes : List UInt8),
        samedec (rxCfgOf d b) app spawnOk bytes ≠ none := by
  obtain ⟨b, _, hb, _, _, e1, e2⟩ := built_exists hmax a d
  exact ⟨b, hb, fun app spawnOk bytes =>
    ProgramThm.samedec_never_panics_rat (rxCfgOf_dcLen_ne_zero d b) (rxCfgOf_sps_nonneg hbaud b)
      (by rw [e1, e2]; exact hagc) app spawnOk bytes⟩

/-- **The built receiver is "reachable" in the sense of Thm/Silence.lean.**  With
    `A = max |alpha_unlocked| |alpha_locked|` (whatever gains the derivation computed), the receiver
    built from any setter arguments with `agc_min ≤ agc_max` satisfies `SilCfg` and the invariant
    `SilInv`, which every sample of any input keeps: the theorems about silence, tick spacing and
    `flush()` there apply to every receiver the builder can produce. -/
theorem built_receiver_inv {fmaxVal : Rat} (hmax : 0 ≤ fmaxVal) (a : BuilderArgs Rat)
    (hagc : a.agcMin ≤ a.agcMax) {d : Derive Rat} (hbaud : 0 < d.baud) :
    ∃ b r0 A, applySetters fmaxVal a = some b ∧ FullRx.new (rxCfgOf d b) = some r0 ∧
      SilCfg (rxCfgOf d b) ((rxCfgOf d b).sps / 2) r0.tl.periodMin r0.tl.periodMax A ∧
      SilInv (rxCfgOf d b) ((rxCfgOf d b).sps / 2) r0.tl.periodMin r0.tl.periodMax A r0 ∧
      r0.tl.periodMax ≤ (rxCfgOf d b).sps ∧
      ∀ xs : List Rat, ∃ r evs, FullRx.run r0 xs = some (r, evs) ∧
        SilInv (rxCfgOf d b) ((rxCfgOf d b).sps / 2) r0.tl.periodMin r0.tl.periodMax A r := by
  obtain ⟨b, r0, hb, _, hnew, e1, e2⟩ := built_exists hmax a d
  have hlim : (rxCfgOf d b).agcMin ≤ (rxCfgOf d b).agcMax := by rw [e1, e2]; exact hagc
  obtain ⟨hc, hi, hp⟩ := SilenceThm.inv_new (A := max (rxCfgOf d b).alphaU.abs (rxCfgOf d b).alphaL.abs)
    hnew (rxCfgOf_sps_nonneg hbaud b) hlim (by grind) (by grind)
  exact ⟨b, r0, _, hb, hnew, hc, hi, hp, fun xs => SilenceThm.run_keeps_inv hc hi xs⟩

/-- **The precondition cannot be dropped.**  With `agc_max < agc_min` the setters and the constructor
    still succeed (the setter does not check), and the first sample processed panics
    (`f32::clamp` in `Agc::input`). -/
theorem reversed_limits_panic {fmaxVal : Rat} (hmax : 0 ≤ fmaxVal) (a : BuilderArgs Rat)
    (hagc : a.agcMax < a.agcMin) (d : Derive Rat) :
    ∃ b r0, applySetters fmaxVal a = some b ∧ FullRx.new (rxCfgOf d b) = some r0 ∧
      ∀ (x : Rat) (xs : List Rat), FullRx.run r0 (x :: xs) = none := by
  obtain ⟨b, r0, hb, _, hnew, e1, e2⟩ := built_exists hmax a d
  refine ⟨b, r0, hb, hnew, fun x xs => ?_⟩
  refine FullRxThm.fullrx_panics_when_agc_reversed hnew ?_ x xs
  rw [e1, e2]
  simp only [rat_le, decide_eq_false_iff_not, Rat.not_le]
  exact hagc

end NeverPanics

/-! ## B4 non-vacuity -/

section Demo

/-- for the examples only (the theorems hold for ANY `Hypot Rat`) -/
local instance : Hypot Rat := FullRxThm.demoHypot

/-- arguments far outside the documented ranges: negative DC-blocker length, AGC bandwidth 2,
    locked timing bandwidth above the unlocked one, maximum deviation 3/4, squelch open power 2,
    equalizer orders 0 / 100 with relaxation −1 and regularization 10⁹, prefix budget 100 -/
def wildArgs : BuilderArgs Rat :=
  { rate := 22050, dcLen := -3, agcBw := 2, agcMin := 1 / 32767, agcMax := 1 / 200,
    timingBwUnlocked := 1 / 8, timingBwLocked := 5, timingMaxDev := 3 / 4,
    squelchOpen := 2, squelchClose := 3 / 2, squelchBw := -1, preambleMaxErrors := 40,
    eq := some (0, 100, -1, 1000000000), framePrefixMaxErrors := 100, frameMaxInvalid := 0 }

/-- a tiny derivation: 520.83 baud, `as usize` = floor (saturating at 0), constant loop gains,
    two-tap matched filters -/
def tinyDerive : Derive Rat :=
  { baud := 52083 / 100, toUsize := fun x => x.floor.toNat, gains := fun bw => (bw, bw / 10),
    taps := fun _ => ([(1, 0), (0, 1)], [(1, 0), (0, -1)]), defaultReg := 1 / 100000 }

/-- by evaluation: every clamp bites, nothing panics -/
theorem wild_setters : applySetters (1000000 : Rat) wildArgs = some
    { rate := 22050, dcLen := 0, agcBw := 1, agcMin := 1 / 32767, agcMax := 1 / 200,
      timingBwUnlocked := 1 / 8, timingBwLocked := 1 / 8, timingMaxDev := 1 / 2,
      squelchOpen := 1, squelchClose := 3 / 2, squelchBw := -1, preambleMaxErrors := 40,
      eq := some (1, 1, 0, 1000000), framePrefixMaxErrors := 7, frameMaxInvalid := 0 } := by
  decide +kernel

/-- by evaluation: a DC-blocker length of 0.0 becomes a window of one sample; the rest of the derived
    constructor arguments -/
theorem wild_cfg :
    (applySetters (1000000 : Rat) wildArgs).map (fun b =>
      let c := rxCfgOf tinyDerive b; (c.dcLen, c.sps, c.agcBw, c.maxDev)) =
      some (1, 735000 / 17361, 100 / 52083, 1 / 2) ∧
    (applySetters (1000000 : Rat) wildArgs).map (fun b =>
      let c := rxCfgOf tinyDerive b; (c.nff, c.nfb, c.relax, c.reg, c.lcfg.fc.maxPrefixErr)) =
      some (1, 1, 0, 1000000, 7) := by
  constructor <;> decide +kernel

/-- a positive DC-blocker length goes through `as usize`: 0.38 symbols at 42.3 samples per symbol
    is a window of 16 samples -/
example : (applySetters (1000000 : Rat) { wildArgs with dcLen := 38 / 100 }).map (fun b =>
    (rxCfgOf tinyDerive b).dcLen) = some 16 := by decide +kernel

/-- by the general theorem: the wild arguments build a receiver that never panics -/
example : ∃ b r0, applySetters (1000000 : Rat) wildArgs = some b ∧
    FullRx.new (rxCfgOf tinyDerive b) = some r0 ∧ ∀ xs : List Rat, FullRx.run r0 xs ≠ none := by
  obtain ⟨b, r0, h1, _, h2, h3⟩ := built_receiver_never_panics (fmaxVal := 1000000) (by decide +kernel)
    wildArgs (by decide +kernel) (d := tinyDerive) (by decide +kernel)
  exact ⟨b, r0, h1, h2, h3⟩

/-- … at a sampling rate of 0 too (`sps = 0`, the timing loop's limits collapse to `[0, 0]`) -/
example : ∃ b r0, applySetters (1000000 : Rat) { wildArgs with rate := 0 } = some b ∧
    FullRx.new (rxCfgOf tinyDerive b) = some r0 ∧ ∀ xs : List Rat, FullRx.run r0 xs ≠ none := by
  obtain ⟨b, r0, h1, _, h2, h3⟩ := built_receiver_never_panics (fmaxVal := 1000000) (by decide +kernel)
    { wildArgs with rate := 0 } (by decide +kernel) (d := tinyDerive) (by decide +kernel)
  exact ⟨b, r0, h1, h2, h3⟩

/-- … and by evaluation on four samples at a small rate (1042 Hz: two samples per symbol, so that
    the run reaches `symbol`): the constructor and the run return -/
example : ((applySetters (1000000 : Rat) { wildArgs with rate := 1042 }).bind fun b =>
    (FullRx.new (rxCfgOf tinyDerive b)).bind fun r0 =>
      (FullRx.trace r0 [1000, -2000, 1500, 300, -700, 50]).map fun p => p.2.length).isSome = true := by
  decide +kernel

/-- … and satisfies the invariant of Thm/Silence.lean, so that e.g. `SilenceThm.tick_spacing` applies -/
example : ∃ b r0 A, applySetters (1000000 : Rat) wildArgs = some b ∧
    FullRx.new (rxCfgOf tinyDerive b) = some r0 ∧
    SilInv (rxCfgOf tinyDerive b) ((rxCfgOf tinyDerive b).sps / 2) r0.tl.periodMin r0.tl.periodMax A r0 := by
  obtain ⟨b, r0, A, h1, h2, _, h3, _⟩ := built_receiver_inv (fmaxVal := 1000000) (by decide +kernel)
    wildArgs (by decide +kernel) (d := tinyDerive) (by decide +kernel)
  exact ⟨b, r0, A, h1, h2, h3⟩

/-- the whole program on the wild configuration, any bytes: by the general theorem -/
example (app : AppCfg) (spawnOk : Nat → Bool) (bytes : List UInt8) :
    ∃ b, applySetters (1000000 : Rat) wildArgs = some b ∧
      samedec (rxCfgOf tinyDerive b) app spawnOk bytes ≠ none := by
  obtain ⟨b, h1, h2⟩ := built_samedec_never_panics (fmaxVal := 1000000) (by decide +kernel)
    wildArgs (by decide +kernel) (d := tinyDerive) (by decide +kernel)
  exact ⟨b, h1, h2 app spawnOk bytes⟩

/-- with the gain limits swapped, the first sample panics: by `reversed_limits_panic` and by
    evaluation -/
example : ∃ b r0, applySetters (1000000 : Rat) { wildArgs with agcMin := 1 / 200, agcMax := 1 / 32767 } = some b ∧
    FullRx.new (rxCfgOf tinyDerive b) = some r0 ∧ FullRx.run r0 [1000] = none := by
  obtain ⟨b, r0, h1, h2, h3⟩ := reversed_limits_panic (fmaxVal := 1000000) (by decide +kernel)
    { wildArgs with agcMin := 1 / 200, agcMax := 1 / 32767 } (by decide +kernel) tinyDerive
  exact ⟨b, r0, h1, h2, h3 _ _⟩

example : ((applySetters (1000000 : Rat) { wildArgs with agcMin := 1 / 200, agcMax := 1 / 32767 }).bind fun b =>
    (FullRx.new (rxCfgOf tinyDerive b)).bind fun r0 => FullRx.run r0 [1000]) = none := by
  decide +kernel

/-- in-range arguments are stored unchanged: by `applySetters_inrange` -/
example : (applySetters (1000000 : Rat)
    { wildArgs with dcLen := 38 / 100, agcBw := 1 / 100, timingBwLocked := 1 / 20, timingMaxDev := 1 / 100,
                    squelchOpen := 1 / 10, squelchClose := 1 / 20, eq := none, framePrefixMaxErrors := 2 }).map
      (fun b => (b.dcLen, b.agcBw, b.timingBwLocked, b.timingMaxDev, b.squelchOpen, b.squelchClose,
        b.framePrefixMaxErrors)) = some (38 / 100, 1 / 100, 1 / 20, 1 / 100, 1 / 10, 1 / 20, 2) := by
  rw [applySetters_inrange (by decide +kernel) (by decide +kernel) (by decide +kernel) (by decide +kernel)
    (by decide +kernel) (by decide +kernel) (by decide +kernel) (by decide) rfl]
  rfl

end Demo

end SameVerif.BuilderCfgThm
