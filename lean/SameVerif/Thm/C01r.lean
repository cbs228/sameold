import SameVerif.Thm.C01
/-
  C01, one burst, on REALISTIC front-end assumptions (state-based form).

  `Spec.BurstObserved` asks that the open threshold be closed over the whole lead-in, up to body
  tick `acq + 31`, and over the whole tail.  On tapped real runs this is false (the power threshold
  opens early in the preamble and stays open after the last bit); what excludes an early or late
  sync in reality is the correlator.  Here the chain `lead_quiet → first_sync → framer_sees →
  burst_delivered` of `Thm/C01.lean` is proved from

    `Spec.BurstObserved'`  (= `BurstObserved` minus `lead_closed`, `open_late`, `tail_closed`)
    `Spec.NoFalseHits`     (no sync hit possible — locked, or open threshold not met, or window
                            more than `maxErrors` from the sync word — at lead ticks, body ticks
                            `< acq + 31`, tail ticks; stated on the model's own state)

  and the start state need only be `Ready` (unsynchronised, idle) provided the lead-in fills the
  32-symbol sample history — so the theorems apply from the initial state `{}`.
  `Spec.BurstObserved` implies both (`burstObserved_refines`), so `C01.burst_delivered` is an
  instance (`burst_delivered_old`).
  The observational form (a decidable condition on the whole tick stream that implies these
  hypotheses for every burst) is in `Thm/C01s.lean`.
-/
namespace SameVerif.C01r
open SameVerif SameVerif.Spec

/-- `BurstObserved` is the special case where the thresholds alone exclude every false hit -/
theorem burstObserved_refines {payload : List Byte} {lead body tail : List Tick} {acq rel : Nat}
    (H : BurstObserved payload lead body tail acq rel) (c : LCfg) (s : LState) :
    BurstObserved' payload body tail acq rel ∧ NoFalseHits c s lead body tail acq :=
  ⟨H.weaken, H.noFalseHits c s⟩

theorem quiescent_iff (s : LState) : Quiescent s ↔ Ready s ∧ 32 ≤ s.nsym :=
  ⟨fun h => ⟨h.ready, h.warm⟩, fun h => quiescent_of_ready h.1 h.2⟩

/-- (a) over a stretch without possible hits (lead-in, silence) an unsynchronised idle receiver
    reports only `noCarrier`, no burst, and stays unsynchronised and idle; it is quiescent at the
    end if the sample history has been filled -/
theorem lead_quiet (c : LCfg) (s : LState) (hs : Ready s) (lead : List Tick)
    (hl : QuietNoHit c s lead) :
    (∀ ls ∈ lrun c s lead, ls = .noCarrier) ∧ lrunBursts c s lead = []
      ∧ Ready (lrunState c s lead)
      ∧ (32 ≤ s.nsym + lead.length → Quiescent (lrunState c s lead)) := by
  obtain ⟨r1, r2, r3⟩ := quiet_run c lead s hs hl
  exact ⟨r1, r2, r3, fun hw => quiescent_of_ready r3 (by rw [nsym_run]; exact hw)⟩

/-- (b) the first synchronisation happens at body tick `syncTick acq` and not before
    (`C01.first_sync` from `BurstObserved'` and `NoFalseHits`) -/
theorem first_sync (c : LCfg) (hE : c.maxErrors ≤ 6) (hP : c.fc.maxPrefixErr < 15)
    (s : LState) (hs : Ready s) (payload : List Byte) (hok : PayloadOk payload)
    (lead body tail : List Tick) (acq rel : Nat) (hw : 32 ≤ s.nsym + lead.length)
    (H : BurstObserved' payload body tail acq rel) (N : NoFalseHits c s lead body tail acq) :
    acq + 31 ≤ syncTick acq ∧ syncTick acq < acq + 39 ∧ syncTick acq % 8 = 7 ∧ syncTick acq ≤ 127
      ∧ (∀ t, t ≤ syncTick acq →
            (lrunState c (lrunState c s lead) ((body ++ tail).take t)).clock = none
            ∧ lrunBursts c (lrunState c s lead) ((body ++ tail).take t) = [])
      ∧ (lrunState c (lrunState c s lead) ((body ++ tail).take (syncTick acq + 1))).clock = some 1
      ∧ (lrunState c (lrunState c s lead) ((body ++ tail).take (syncTick acq + 1))).fr = .search 0xAB 1
      ∧ (lrunState c (lrunState c s lead) ((body ++ tail).take (syncTick acq + 1))).train = 3
      ∧ lrunBursts c (lrunState c s lead) ((body ++ tail).take (syncTick acq + 1)) = [] :=
  first_sync_facts H hok c hE hP _ ((lead_quiet c s hs lead N.quiet).2.2.2 hw) N.bt

/-- (d) what the framer has seen when the last payload byte has been delivered
    (`C01.framer_sees` from `BurstObserved'` and `NoFalseHits`) -/
theorem framer_sees (c : LCfg) (hE : c.maxErrors ≤ 6) (hP : c.fc.maxPrefixErr ≤ 7)
    (s : LState) (hs : Ready s) (payload : List Byte) (hok : PayloadOk payload)
    (hdash : ∀ h : 4 < payload.length, payload[4] = 45)
    (hP4 : payload.take 4 = [78, 78, 78, 78] → c.fc.maxPrefixErr ≤ 4)
    (lead body tail : List Tick) (acq rel : Nat) (hw : 32 ≤ s.nsym + lead.length)
    (H : BurstObserved' payload body tail acq rel) (N : NoFalseHits c s lead body tail acq) :
    (lrunState c (lrunState c s lead) ((body ++ tail).take (body.length + 31))).fr = .read payload 0
      ∧ (lrunState c (lrunState c s lead) ((body ++ tail).take (body.length + 31))).lock = true
      ∧ (lrunState c (lrunState c s lead) ((body ++ tail).take (body.length + 31))).clock = some 0
      ∧ (lrunState c (lrunState c s lead) ((body ++ tail).take (body.length + 31))).train = 0
      ∧ lrunBursts c (lrunState c s lead) ((body ++ tail).take (body.length + 31)) = [] := by
  have hq1 := (lead_quiet c s hs lead N.quiet).2.2.2 hw
  obtain ⟨e1, e2, e3, e4, e5⟩ :=
    synced_end H hok hdash c hE (prefixFacts_of c.fc payload hok hP hP4) _ hq1 N.bt
  exact ⟨e4, e2, e1, e3, e5⟩

/-- **C01, one burst, realistic assumptions.**  From any unsynchronised idle state (in particular
    the initial one) whose sample history the lead-in fills: under `BurstObserved'` and
    `NoFalseHits` the link model reports exactly one burst, the payload followed by at most
    `⌈rel / 8⌉` bytes, and is quiescent again. -/
theorem burst_delivered (c : LCfg) (hE : c.maxErrors ≤ 6) (hP : c.fc.maxPrefixErr ≤ 7)
    (s : LState) (hs : Ready s) (payload : List Byte) (hok : PayloadOk payload)
    (hdash : ∀ h : 4 < payload.length, payload[4] = 45)
    (hP4 : payload.take 4 = [78, 78, 78, 78] → c.fc.maxPrefixErr ≤ 4)
    (lead body tail : List Tick) (acq rel : Nat) (hw : 32 ≤ s.nsym + lead.length)
    (H : BurstObserved' payload body tail acq rel) (N : NoFalseHits c s lead body tail acq) :
    ∃ g, lrunBursts c s (lead ++ body ++ tail) = [payload ++ g] ∧ g.length ≤ (rel + 7) / 8
      ∧ Quiescent (lrunState c s (lead ++ body ++ tail)) :=
  burst_whole H hok hdash c hE (prefixFacts_of c.fc payload hok hP hP4) s hs hw N

/-- `C01.burst_delivered`, from a quiescent state under `BurstObserved`, as an instance -/
theorem burst_delivered_old (c : LCfg) (hE : c.maxErrors ≤ 6) (hP : c.fc.maxPrefixErr ≤ 7)
    (s : LState) (hs : Quiescent s) (payload : List Byte) (hok : PayloadOk payload)
    (hdash : ∀ h : 4 < payload.length, payload[4] = 45)
    (hP4 : payload.take 4 = [78, 78, 78, 78] → c.fc.maxPrefixErr ≤ 4)
    (lead body tail : List Tick) (acq rel : Nat) (H : BurstObserved payload lead body tail acq rel) :
    ∃ g, lrunBursts c s (lead ++ body ++ tail) = [payload ++ g] ∧ g.length ≤ (rel + 7) / 8
      ∧ Quiescent (lrunState c s (lead ++ body ++ tail)) :=
  burst_delivered c hE hP s hs.ready payload hok hdash hP4 lead body tail acq rel
    (by have := hs.warm; omega) H.weaken (H.noFalseHits c s)

/-- non-vacuity: the demo stream of `Thm/C01.lean` from the INITIAL state `{}` (the 40-tick
    lead-in warms up the sample history) -/
example : ∃ g, lrunBursts ⟨6, ⟨7, 5⟩⟩ {}
        (C01.demoLead 40 ++ C01.demoBody C01.demoHeader 5 0x41 ++ C01.demoTail C01.demoHeader 10 0x41)
      = [C01.demoHeader ++ g] ∧ g.length ≤ (10 + 7) / 8
      ∧ Quiescent (lrunState ⟨6, ⟨7, 5⟩⟩ {}
          (C01.demoLead 40 ++ C01.demoBody C01.demoHeader 5 0x41 ++ C01.demoTail C01.demoHeader 10 0x41)) :=
  burst_delivered ⟨6, ⟨7, 5⟩⟩ (by decide) (by decide) _ ready_init C01.demoHeader C01.demoHeader_ok.1
    C01.demoHeader_ok.2 (by decide) _ _ _ 5 10 (by decide) C01.demoHeader_observed.weaken
    (C01.demoHeader_observed.noFalseHits _ _)

end SameVerif.C01r
