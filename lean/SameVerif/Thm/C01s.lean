import SameVerif.Lemmas.StreamLink
import SameVerif.Spec.FrontEndCheck
/-
  C01 at the link layer, on the realistic front-end assumptions in OBSERVATIONAL form:
  a whole tick stream, processed from the initial link state `{}`.

  `Spec.StreamObserved maxErr stream segs` is a decidable condition on the tick stream alone (no
  model state in it): per burst the clauses of `Spec.BurstObserved'` at global indices, bursts in
  order, and — outside the synchronised stretches — every tick has the open threshold not met or
  its 32-bit correlator window more than `maxErr` from the sync word.  It is exactly what
  `Spec.streamObservedB` (`Spec/FrontEndCheck.lean`) evaluates on a tapped real run.

  * `stream_segments` : it implies the state-based hypotheses (`BurstObserved'`, `NoFalseHits`) of
    `C01r.burst_delivered` for every burst, each entered in the state the model is really in;
  * `stream_bursts`   : hence the link model reports exactly the bursts `payload_k ++ t_k`, in
    order, `|t_k| ≤ ⌈rel_k / 8⌉`, and nothing else over the whole stream.
-/
namespace SameVerif.C01s
open SameVerif SameVerif.Spec SameVerif.Chain

/-- **From the stream to the model's hypotheses.**  The bursts cut out of the stream as segments
    (`segsOf`: lead-in from tick 0 resp. from the end of the previous minimal tail) satisfy the
    state-based assumptions one after the other from the initial state; they tile the stream up to
    `lastStop`; what follows is a stretch without possible hits. -/
theorem stream_segments (c : LCfg) (stream : List Tick) (segs : List BurstSpec)
    (hobs : StreamObserved c.maxErrors stream segs) (hpc : ∀ g ∈ segs, PayloadCond c g.payload) :
    SegsOk c {} (segsOf stream 0 segs)
      ∧ stream.take (lastStop 0 segs) = (segsOf stream 0 segs).flatMap (fun p => p.2.ticks)
      ∧ lastStop 0 segs ≤ stream.length
      ∧ QuietNoHit c (lrunState c {} (stream.take (lastStop 0 segs))) (stream.drop (lastStop 0 segs)) := by
  obtain ⟨h1, h2, h3⟩ := hobs
  have hq := quietOutside_of_global c.maxErrors _ _ segs h1 h3 segs [] 0 rfl
    (by intro g hg; cases hg) (ordered_mono segs 32 0 (by omega) h2)
  have hlb := ordered_lb segs 32 h2
  obtain ⟨s1, s2, _, s4, s5⟩ := segsOk_of_stream c stream segs 0
    (fun g hg => ⟨h1 g hg, hpc g hg, hlb g hg⟩) (ordered_mono segs 32 0 (by omega) h2) (by omega) hq
  refine ⟨s1, ?_, s4, quiet_rest c stream _ s4 s5⟩
  rw [s2]; rfl

theorem forall2_segsOf {R : BurstSpec → List Byte → Prop} {R' : List Byte × Seg → List Byte → Prop}
    (stream : List Tick) (hR : ∀ a g b, R' (g.payload, segOf stream a g) b → R g b) :
    ∀ (segs : List BurstSpec) (a : Nat) (bs : List (List Byte)),
      Forall₂ R' (segsOf stream a segs) bs → Forall₂ R segs bs := by
  intro segs
  induction segs with
  | nil => intro a bs h; cases h; exact .nil
  | cons g gs ih =>
    intro a bs h
    cases h with
    | cons hr ht => exact .cons (hR a g _ hr) (ih _ _ ht)

/-- **C01, link layer, whole stream.**  If the tick stream meets `StreamObserved` for the bursts
    `segs` (with the model's own sync budget), then the link model, started in its initial state,
    reports over the whole stream exactly one burst per element of `segs`, in order: the payload
    followed by at most `⌈rel / 8⌉` bytes; at the end it is unsynchronised and idle. -/
theorem stream_bursts (c : LCfg) (hE : c.maxErrors ≤ 6) (hP : c.fc.maxPrefixErr ≤ 7)
    (stream : List Tick) (segs : List BurstSpec)
    (hobs : StreamObserved c.maxErrors stream segs) (hpc : ∀ g ∈ segs, PayloadCond c g.payload) :
    Forall₂ (fun g b => ∃ t, b = g.payload ++ t ∧ t.length ≤ (g.rel + 7) / 8) segs
        (lrunBursts c {} stream)
      ∧ Ready (lrunState c {} stream) := by
  obtain ⟨s1, s2, _, s4⟩ := stream_segments c stream segs hobs hpc
  obtain ⟨d1, d2⟩ := segments_delivered_r c hE hP _ {} ready_init s1
  rw [← s2] at d1 d2
  obtain ⟨e1, e2⟩ := quiet_rest_run c {} stream _ d2 s4
  exact ⟨by rw [e1]; exact forall2_segsOf stream (fun a g b h => h) segs 0 _ d1, e2⟩

theorem stream_burst_count (c : LCfg) (hE : c.maxErrors ≤ 6) (hP : c.fc.maxPrefixErr ≤ 7)
    (stream : List Tick) (segs : List BurstSpec)
    (hobs : StreamObserved c.maxErrors stream segs) (hpc : ∀ g ∈ segs, PayloadCond c g.payload) :
    (lrunBursts c {} stream).length = segs.length := by
  have h := (stream_bursts c hE hP stream segs hobs hpc).1
  generalize lrunBursts c {} stream = bs at h
  clear hobs hpc
  induction h with
  | nil => rfl
  | cons _ _ ih => simp [ih]

/-- **a `sat` verdict of the driver's check is the hypothesis**: if `Spec.streamObservedB` — what
    the driver evaluates on the tapped tick array for its verdict `fe_all=sat` — returns `true`
    for the positions `segs`, the link model delivers exactly those bursts over that very stream -/
theorem checked_stream_bursts (c : LCfg) (hE : c.maxErrors ≤ 6) (hP : c.fc.maxPrefixErr ≤ 7)
    (ticks : Array Tick) (segs : List BurstSpec)
    (hchk : streamObservedB c.maxErrors ticks segs = true)
    (hpc : ∀ g ∈ segs, PayloadCond c g.payload) :
    Forall₂ (fun g b => ∃ t, b = g.payload ++ t ∧ t.length ≤ (g.rel + 7) / 8) segs
        (lrunBursts c {} ticks.toList)
      ∧ Ready (lrunState c {} ticks.toList) :=
  stream_bursts c hE hP ticks.toList segs (streamObservedB_sound _ _ _ hchk) hpc

end SameVerif.C01s
