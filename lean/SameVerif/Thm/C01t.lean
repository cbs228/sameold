import SameVerif.Lemmas.StreamLink2
import SameVerif.Spec.FrontEndCheck
/-
  C01 at the link layer on the GENERALISED realistic assumptions `Spec.StreamObserved2`:
  the first correlator hits of a burst may come early (window within the budget though not yet
  all-correct), at a wrong byte phase, or be dropped at once by the power history; what is
  assumed is that the LAST adjusting hit before the framer locks is at the correct phase — stated
  observationally, through the abstract squelch `preRun` (`Spec/PreSync.lean`) driven by
  `potHit` (open threshold ∧ window within budget) and `headAt` (close threshold 31 ticks back).
  `Lemmas/LinkPre.lean` proves that the link model follows that automaton.

  * `stream_segments2` : every burst is delivered (`Chain.Delivers`), each entered in the state the
    model is really in;
  * `stream_bursts2`   : the link model, from its initial state, reports over the whole stream
    exactly the bursts `payload_k ++ t_k`, in order;
  * `checked_stream_bursts2` : the same from a `true` verdict of `Spec.streamObserved2B`, the check
    the driver evaluates on tapped real runs (`fe2_all=sat`).
-/
namespace SameVerif.C01t
open SameVerif SameVerif.Spec SameVerif.Chain

theorem stream_segments2 (c : LCfg) (hE : c.maxErrors ≤ 6) (hP : c.fc.maxPrefixErr ≤ 7)
    (stream : List Tick) (segs : List BurstSpec2)
    (hobs : StreamObserved2 c.maxErrors stream segs) (hpc : ∀ g ∈ segs, PayloadCond c g.payload) :
    DeliversAll c {} (segsOf2 stream 0 segs)
      ∧ stream.take (lastStop2 0 segs) = (segsOf2 stream 0 segs).flatMap (fun p => p.2.ticks)
      ∧ lastStop2 0 segs ≤ stream.length
      ∧ QuietNoHit c (lrunState c {} (stream.take (lastStop2 0 segs))) (stream.drop (lastStop2 0 segs)) := by
  obtain ⟨s1, s2, _, s4, s5⟩ := deliversAll_of_stream2 c hE hP stream segs 0 (Or.inl rfl) (by omega)
    ready_init hpc hobs
  refine ⟨s1, ?_, s4, quiet_rest c stream _ s4 (fun t h1 h2 h3 => quietAt_of_potHit (s5 t h1 h2 h3))⟩
  rw [s2]; rfl

theorem forall2_segsOf2 {R : BurstSpec2 → List Byte → Prop} {R' : List Byte × Seg → List Byte → Prop}
    (stream : List Tick) (hR : ∀ a g b, R' (g.payload, segOf2 stream a g) b → R g b) :
    ∀ (segs : List BurstSpec2) (a : Nat) (bs : List (List Byte)),
      Forall₂ R' (segsOf2 stream a segs) bs → Forall₂ R segs bs := by
  intro segs
  induction segs with
  | nil => intro a bs h; cases h; exact .nil
  | cons g gs ih =>
    intro a bs h
    cases h with
    | cons hr ht => exact .cons (hR a g _ hr) (ih _ _ ht)

/-- **C01, link layer, whole stream, generalised synchronisation.** -/
theorem stream_bursts2 (c : LCfg) (hE : c.maxErrors ≤ 6) (hP : c.fc.maxPrefixErr ≤ 7)
    (stream : List Tick) (segs : List BurstSpec2)
    (hobs : StreamObserved2 c.maxErrors stream segs) (hpc : ∀ g ∈ segs, PayloadCond c g.payload) :
    Forall₂ (fun g b => ∃ t, b = g.payload ++ t ∧ t.length ≤ (g.rel + 7) / 8) segs
        (lrunBursts c {} stream)
      ∧ Ready (lrunState c {} stream) := by
  obtain ⟨s1, s2, _, s4⟩ := stream_segments2 c hE hP stream segs hobs hpc
  obtain ⟨d1, d2⟩ := segments_delivered_g c _ {} ready_init s1
  rw [← s2] at d1 d2
  obtain ⟨e1, e2⟩ := quiet_rest_run c {} stream _ d2 s4
  exact ⟨by rw [e1]; exact forall2_segsOf2 stream (fun a g b h => h) segs 0 _ d1, e2⟩

/-- **a `sat` verdict of the driver's generalised check is the hypothesis** -/
theorem checked_stream_bursts2 (c : LCfg) (hE : c.maxErrors ≤ 6) (hP : c.fc.maxPrefixErr ≤ 7)
    (ticks : Array Tick) (segs : List BurstSpec2)
    (hchk : streamObserved2B c.maxErrors ticks segs = true)
    (hpc : ∀ g ∈ segs, PayloadCond c g.payload) :
    Forall₂ (fun g b => ∃ t, b = g.payload ++ t ∧ t.length ≤ (g.rel + 7) / 8) segs
        (lrunBursts c {} ticks.toList)
      ∧ Ready (lrunState c {} ticks.toList) :=
  stream_bursts2 c hE hP ticks.toList segs (streamObserved2B_sound _ _ _ hchk) hpc

end SameVerif.C01t
