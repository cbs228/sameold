import SameVerif.Thm.C03
import SameVerif.Lemmas.CombineFew
import SameVerif.Lemmas.AssemblerRuns
import SameVerif.Lemmas.CombineTails
import SameVerif.Lemmas.AssemblerThree
/-
  C02 — Two of three bursts suffice (and one does not).
  `combine` on one, two and three bursts, also with bytes after the header (`H ++ g_i`: exactly `H`
  if the voted tail holds no `-`, the F7 witness when it does), and the assembler model run over
  operation lists: two or three header bursts and the trailer, under any poll schedule.
  The combiner lemmas are in Lemmas/CombineFew.lean and CombineTails.lean, the run lemmas in
  Lemmas/AssemblerSteps.lean, AssemblerRuns.lean and AssemblerThree.lean.
-/
namespace SameVerif.C02
open SameVerif SameVerif.Spec SameVerif.Asm

/-- **Two intact bursts.**  For a canonical header text `H` in the SAME character set that fits the
    burst buffer, two copies (no third burst) combine to exactly `H`, with no bit errors and no
    byte voted on by three bursts. -/
theorem combine_pair_equal (maxLen : Nat) (H : List Byte) (off : Nat)
    (hall : ∀ b ∈ H, isAllowed b = true)
    (hcan : checkHeader H = some (off, H.length))
    (hfit : H.length ≤ maxLen) :
    combine maxLen [H, H] = some (.ok (.som ⟨H, off, 0, 0⟩)) := by
  rw [combine_congr _ _ _ (estimateMessage_pair maxLen H)]
  have := C03.combine_two_of_three maxLen 0 H [] off hall hcan hfit
  simpa [specParity, specVoting] using this

/-- **One header burst** combines to nothing (neither a message nor an error). -/
theorem combine_single_none (maxLen : Nat) (H : List Byte) (r : Nat × Nat)
    (hcan : checkHeader H = some r) : combine maxLen [H] = none :=
  combine_single_header maxLen H r hcan

/-- **Any one burst** combines to nothing or to an EndOfMessage — never to a StartOfMessage, never
    to an error.  (A lone burst beginning `NN` *is* reported as EndOfMessage: the trailer test
    looks at the raw estimate, not at the part backed by two bursts.) -/
theorem combine_single_cases (maxLen : Nat) (b : List Byte) :
    combine maxLen [b] = none ∨ combine maxLen [b] = some (.ok .eom) :=
  combine_single maxLen b

/-- **Two bursts suffice.**  Start with an empty history, nothing pending, and a previous report
    (if any) of a different text.  Header `H` arrives at `t1` and again at `t2 < t1 + HIST`; polls
    (any number, any order) come at times `≤ t2` between the bursts and at times `< t2 + HOLD`
    after them; then a poll at `t ≥ t2 + HOLD`.  The only message output in the whole run is
    `H`, exactly, at that last poll.  (`t1 ≤ t2` and lower bounds on the poll times are not needed.) -/
theorem two_bursts_report (s : AState) (H : List Byte) (off t1 t2 t : Nat) (polls1 polls2 : List Nat)
    (hall : ∀ b ∈ H, isAllowed b = true)
    (hcan : checkHeader H = some (off, H.length))
    (hfit : H.length ≤ MAXLEN)
    (hh : s.history = []) (hp : s.pending = none)
    (hprev : ∀ p, s.previous = some p → p.data.text ≠ H)
    (h21 : t2 < t1 + HIST)
    (hp1 : ∀ u ∈ polls1, u ≤ t2)
    (hp2 : ∀ u ∈ polls2, u < t2 + HOLD)
    (ht : t2 + HOLD ≤ t) :
    (runOps s (.burst H t1 :: (polls1.map .poll ++ .burst H t2 :: (polls2.map .poll ++ [.poll t])))).2
      = [(t, .ok (.som ⟨H, off, 0, 0⟩))] := by
  have hne := isEmpty_of_checkHeader H [] _ hcan
  rw [List.append_nil] at hne
  have htake : H.take MAXLEN = H := List.take_of_length_le hfit
  obtain ⟨S2, hrun, hS2⟩ := two_bursts_held s H H t1 t2 ⟨H, off, 0, 0⟩ polls1 hne hne
    (by rw [htake]; exact combine_single_header _ _ _ hcan)
    (by rw [htake]; exact combine_pair_equal MAXLEN H off hall hcan hfit) (by rw [hh]; rfl) hp
    (fun p hp _ => hprev p hp) h21 hp1
  -- of the polls after the second burst only the last one reaches the hold deadline
  obtain ⟨u, hu, hd, hout, _⟩ := held_release S2 _ _ _ _ (polls2 ++ [t]) hS2 ⟨t, by simp, ht⟩
  have hut : u = t := by
    rcases List.mem_append.mp hu with h | h
    · have := hp2 u h; omega
    · exact List.mem_singleton.mp h
  rw [hrun, polls_snoc, hout, hut]

/-- **One burst, then any polls.**  From the initial state the run outputs nothing, or a single
    EndOfMessage at the burst's own tick. -/
theorem single_burst_outputs (b : List Byte) (t0 : Nat) (polls : List Nat) :
    (runOps {} (.burst b t0 :: polls.map .poll)).2 = []
      ∨ (runOps {} (.burst b t0 :: polls.map .poll)).2 = [(t0, .ok .eom)] := by
  have key : (stepOp {} (.burst b t0)).1.pending = none ∧
      (outOf t0 (stepOp {} (.burst b t0)).2 = [] ∨ outOf t0 (stepOp {} (.burst b t0)).2 = [(t0, .ok .eom)]) := by
    by_cases hb : b.isEmpty = true
    · rw [stepOp_eq, preIdle_burst_empty _ _ _ hb]
      have hi := idle_of_pending_none {} t0 rfl
      simp only [AOp.time]
      rw [hi.1]
      exact ⟨rfl, Or.inl (outOf_quiet _ _ hi.2)⟩
    · have hb' : b.isEmpty = false := by simpa using hb
      have hist := historyAfter_of_prune {} b t0 [] rfl
      rcases combine_single MAXLEN (b.take MAXLEN) with hc | hc
      · obtain ⟨hs, hq⟩ := burst_quiet {} b t0 hb' rfl (estimateOf_none _ _ _ (by rw [hist]; exact hc))
        rw [hs]
        exact ⟨rfl, Or.inl (outOf_quiet _ _ hq)⟩
      · rw [burst_eom {} b t0 hb'
          (estimateOf_pass {} b t0 .eom (by rw [hist]; exact hc) (fun p hp => by cases hp))
          (fun old ho => by cases ho)]
        exact ⟨rfl, Or.inr rfl⟩
  obtain ⟨hq, _, _⟩ := run_polls_quiet polls (stepOp {} (.burst b t0)).1 key.1
  simp only [runOps_cons, hq, List.append_nil, AOp.time]
  exact key.2

/-- **A single burst never reaches the transport as a header.** -/
theorem single_never_transport (b : List Byte) (t0 : Nat) (polls : List Nat) :
    ∀ x ∈ (runOps {} (.burst b t0 :: polls.map .poll)).2, ∀ h, x.2 ≠ .ok (.som h) := by
  intro x hx h
  rcases single_burst_outputs b t0 polls with ho | ho
  · rw [ho] at hx; cases hx
  · rw [ho] at hx
    simp only [List.mem_singleton] at hx
    subst hx
    simp

/-! ### the scenario is satisfiable at the extremes -/

/-- With the longest legal pause (1.05 s at −1 % baud, 560 ticks) and maximum-length bursts, the
    second burst — and even the third — ends before the first one leaves the history. -/
theorem max_header_fits :
    2 * (560 + 8 * MAXLEN) < HIST ∧ 8 * MAXLEN + 560 < HIST := by
  decide

/-! ### F4: a trailer can be lost -/

/-- "ZCZC-WXR-RWT-012345+0030-1231200-KLOX-" -/
def exampleHeader : List Byte :=
  [90, 67, 90, 67, 45, 87, 88, 82, 45, 82, 87, 84, 45, 48, 49, 50, 51, 52, 53, 43, 48, 48, 51, 48, 45,
   49, 50, 51, 49, 50, 48, 48, 45, 75, 76, 79, 88, 45]

theorem exampleHeader_canonical :
    checkHeader exampleHeader = some (19, exampleHeader.length)
      ∧ exampleHeader.all isAllowed = true ∧ exampleHeader.length = 38 := by
  decide +kernel

/-- **Counterexample (F4).**  Header bursts 1 and 3 (ends 1900 ticks apart), then trailer bursts 1
    and 2 following at the one-second pause (681 ticks between burst ends), no polls while the
    link is busy, polls afterwards.  The only message ever output is the StartOfMessage: the first
    trailer burst re-votes the pending header (pushing its deadline to 3581 + HOLD), the second
    trailer burst's EndOfMessage is dropped because a StartOfMessage is still pending. -/
theorem eom_lost_counterexample :
    (runOps {} [.burst exampleHeader 1000, .burst exampleHeader 2900, .burst litNNNN 3581,
                .burst litNNNN 4262, .poll 4263, .poll 11000]).2
      = [(4263, .ok (.som ⟨exampleHeader, 19, 10, 4⟩))] := by
  decide +kernel

theorem eom_lost_counterexample_sorted :
    Sorted [.burst exampleHeader 1000, .burst exampleHeader 2900, .burst litNNNN 3581,
            .burst litNNNN 4262, .poll 4263, .poll 11000] := by
  unfold Sorted
  decide

/-- the hypotheses of `two_bursts_report` are satisfiable: the example header, bursts 1 and 3 of a
    transmission, some polls, by the general theorem (not by evaluation) -/
theorem two_bursts_report_example :
    (runOps {} (.burst exampleHeader 1000 :: ([1500, 2000].map .poll ++
        .burst exampleHeader 2900 :: ([2901, 3500].map .poll ++ [.poll 3582])))).2
      = [(3582, .ok (.som ⟨exampleHeader, 19, 0, 0⟩))] := by
  have hc := exampleHeader_canonical
  refine two_bursts_report {} exampleHeader 19 1000 2900 3582 [1500, 2000] [2901, 3500]
    (fun b hb => List.all_eq_true.mp hc.2.1 b hb) hc.1 (by rw [hc.2.2]; decide) rfl rfl
    (by intro p hp; cases hp) (by decide) (by decide) (by decide) (by decide)

/-- **Appended dash-free text cannot extend the match.**  `H` is canonical (its match covers it
    entirely); `t` is any byte string without `-`.  The match on `H ++ t` is the match on `H`. -/
theorem parse_with_dashfree_tail (H t : List Byte) (off : Nat)
    (hcan : checkHeader H = some (off, H.length)) (ht : ∀ b ∈ t, b ≠ 45) :
    checkHeader (H ++ t) = some (off, H.length) :=
  checkHeader_dashfree_tail H off t hcan ht

/-- the header built from `H ++ t` (ASCII, `t` dash-free) stores exactly `H` -/
theorem header_new_dashfree_tail (H t : List Byte) (off : Nat)
    (hcan : checkHeader H = some (off, H.length)) (ht : ∀ b ∈ t, b ≠ 45)
    (hascii : ∀ b ∈ H ++ t, b < 128) :
    Header.new (H ++ t) = .ok ⟨H, off, 0, 0⟩ := by
  have hall : (H ++ t).all isAsciiByte = true := by
    rw [List.all_eq_true]
    intro b hb
    simpa [isAsciiByte] using hascii b hb
  simp [Header.new, hall, checkHeader_dashfree_tail H off t hcan ht]

theorem estimate_with_tails (maxLen : Nat) (H g1 g2 g3 : List Byte)
    (hall : ∀ b ∈ H, isAllowed b = true) (hfit : H.length ≤ maxLen) :
    estimateMessage maxLen [H ++ g1, H ++ g2, H ++ g3]
      = agreePart 3 H ++ estimateLoop (maxLen - H.length) [g1, g2, g3] := by
  simp only [estimateMessage, List.take]
  exact estimateLoop_prefix H [g1, g2, g3] maxLen hall hfit (Or.inr rfl)

theorem estimate_with_tails_pair (maxLen : Nat) (H g1 g2 : List Byte)
    (hall : ∀ b ∈ H, isAllowed b = true) (hfit : H.length ≤ maxLen) :
    estimateMessage maxLen [H ++ g1, H ++ g2]
      = agreePart 2 H ++ estimateLoop (maxLen - H.length) [g1, g2] := by
  simp only [estimateMessage, List.take]
  exact estimateLoop_prefix H [g1, g2] maxLen hall hfit (Or.inl rfl)

/-- **Three bursts with tails, condition on the tails' own estimate.**  If no byte of the estimate
    over `[g1, g2, g3]` (capacity `maxLen - |H|`) that is backed by two or more bursts is `-`, the
    three bursts combine to exactly `H`: no errors, every byte voted. -/
theorem combine_with_tails' (maxLen : Nat) (H g1 g2 g3 : List Byte) (off : Nat)
    (hall : ∀ b ∈ H, isAllowed b = true)
    (hcan : checkHeader H = some (off, H.length))
    (hfit : H.length ≤ maxLen)
    (hdash : ∀ e ∈ estimateLoop (maxLen - H.length) [g1, g2, g3], 2 ≤ e.nbursts → e.byte ≠ 45) :
    combine maxLen [H ++ g1, H ++ g2, H ++ g3] = some (.ok (.som ⟨H, off, 0, H.length⟩)) := by
  have := combine_of_agree maxLen _ H off 3 _ (by omega)
    (estimate_with_tails maxLen H g1 g2 g3 hall hfit) hall hcan (estimateLoop_allowed _ _) hdash
  simpa using this

/-- **Three bursts with tails.**  The same with the condition read off the estimate of the bursts
    themselves: beyond `|H|`, no estimated byte backed by two or more bursts is `-`. -/
theorem combine_with_tails (maxLen : Nat) (H g1 g2 g3 : List Byte) (off : Nat)
    (hall : ∀ b ∈ H, isAllowed b = true)
    (hcan : checkHeader H = some (off, H.length))
    (hfit : H.length ≤ maxLen)
    (hdash : ∀ e ∈ (estimateMessage maxLen [H ++ g1, H ++ g2, H ++ g3]).drop H.length,
      2 ≤ e.nbursts → e.byte ≠ 45) :
    combine maxLen [H ++ g1, H ++ g2, H ++ g3] = some (.ok (.som ⟨H, off, 0, H.length⟩)) := by
  apply combine_with_tails' maxLen H g1 g2 g3 off hall hcan hfit
  rwa [estimate_with_tails maxLen H g1 g2 g3 hall hfit, drop_agreePart] at hdash

/-- **Two bursts with tails**, condition on the tails' own estimate: exactly `H`, no errors, no
    byte voted by three. -/
theorem combine_with_tails_pair' (maxLen : Nat) (H g1 g2 : List Byte) (off : Nat)
    (hall : ∀ b ∈ H, isAllowed b = true)
    (hcan : checkHeader H = some (off, H.length))
    (hfit : H.length ≤ maxLen)
    (hdash : ∀ e ∈ estimateLoop (maxLen - H.length) [g1, g2], 2 ≤ e.nbursts → e.byte ≠ 45) :
    combine maxLen [H ++ g1, H ++ g2] = some (.ok (.som ⟨H, off, 0, 0⟩)) := by
  have := combine_of_agree maxLen _ H off 2 _ (by omega)
    (estimate_with_tails_pair maxLen H g1 g2 hall hfit) hall hcan (estimateLoop_allowed _ _) hdash
  simpa using this

theorem combine_with_tails_pair (maxLen : Nat) (H g1 g2 : List Byte) (off : Nat)
    (hall : ∀ b ∈ H, isAllowed b = true)
    (hcan : checkHeader H = some (off, H.length))
    (hfit : H.length ≤ maxLen)
    (hdash : ∀ e ∈ (estimateMessage maxLen [H ++ g1, H ++ g2]).drop H.length,
      2 ≤ e.nbursts → e.byte ≠ 45) :
    combine maxLen [H ++ g1, H ++ g2] = some (.ok (.som ⟨H, off, 0, 0⟩)) := by
  apply combine_with_tails_pair' maxLen H g1 g2 off hall hcan hfit
  rwa [estimate_with_tails_pair maxLen H g1 g2 hall hfit, drop_agreePart] at hdash

/-- **The tail condition, position by position.**  Wherever two or more of the tails have a byte,
    the vote over those bytes (eighth bit cleared; in burst order) is not `-`. -/
def TailsVoteNoDash (gs : List (List Byte)) : Prop :=
  ∀ j v, 2 ≤ (columnAt gs j).length → voteAt (columnAt gs j) ≠ some (45, v)

theorem tails_cond_of_pointwise (cap : Nat) (gs : List (List Byte)) (h : TailsVoteNoDash gs) :
    ∀ e ∈ estimateLoop cap gs, 2 ≤ e.nbursts → e.byte ≠ 45 := by
  intro e he hn hb
  obtain ⟨j, v, h1, h2⟩ := estimateLoop_mem_vote cap gs e he
  rw [hb] at h1
  exact h j v (by omega) h1

theorem combine_with_tails_pointwise (maxLen : Nat) (H g1 g2 g3 : List Byte) (off : Nat)
    (hall : ∀ b ∈ H, isAllowed b = true)
    (hcan : checkHeader H = some (off, H.length))
    (hfit : H.length ≤ maxLen)
    (hdash : TailsVoteNoDash [g1, g2, g3]) :
    combine maxLen [H ++ g1, H ++ g2, H ++ g3] = some (.ok (.som ⟨H, off, 0, H.length⟩)) :=
  combine_with_tails' maxLen H g1 g2 g3 off hall hcan hfit (tails_cond_of_pointwise _ _ hdash)

theorem combine_with_tails_pair_pointwise (maxLen : Nat) (H g1 g2 : List Byte) (off : Nat)
    (hall : ∀ b ∈ H, isAllowed b = true)
    (hcan : checkHeader H = some (off, H.length))
    (hfit : H.length ≤ maxLen)
    (hdash : TailsVoteNoDash [g1, g2]) :
    combine maxLen [H ++ g1, H ++ g2] = some (.ok (.som ⟨H, off, 0, 0⟩)) :=
  combine_with_tails_pair' maxLen H g1 g2 off hall hcan hfit (tails_cond_of_pointwise _ _ hdash)

/-- for two bursts it is enough that one tail holds no `-` (eighth bit aside): the two-burst
    "vote" only passes bytes on which both bursts agree -/
theorem pair_pointwise_of_first (g1 g2 : List Byte) (h : ∀ b ∈ g1, mask7 b ≠ 45) :
    TailsVoteNoDash [g1, g2] := by
  intro j v hl hv
  unfold columnAt at hl hv
  cases h1 : g1[j]? with
  | none => cases h2 : g2[j]? <;> simp [h1, h2] at hl
  | some a =>
    cases h2 : g2[j]? with
    | none => simp [h1, h2] at hl
    | some b =>
      have ha := h a (List.mem_of_getElem? h1)
      simp only [List.filterMap_cons, h1, h2, List.filterMap_nil, List.map_cons, List.map_nil, voteAt,
        C03.vote_detect_spec, Option.some.injEq, Prod.mk.injEq] at hv
      obtain ⟨hv, _⟩ := hv
      split at hv
      · exact ha hv
      · exact absurd hv (by decide)

theorem combine_with_tails_pair_simple (maxLen : Nat) (H g1 g2 : List Byte) (off : Nat)
    (hall : ∀ b ∈ H, isAllowed b = true)
    (hcan : checkHeader H = some (off, H.length))
    (hfit : H.length ≤ maxLen)
    (hdash : ∀ b ∈ g1, mask7 b ≠ 45) :
    combine maxLen [H ++ g1, H ++ g2] = some (.ok (.som ⟨H, off, 0, 0⟩)) :=
  combine_with_tails_pair_pointwise maxLen H g1 g2 off hall hcan hfit (pair_pointwise_of_first g1 g2 hdash)

/-! ### F7: the voted tail can extend the callsign -/

/-- "ZCZC-WXR-RWT-012345+0030-1231200-sz2-" (37 bytes, a three-character callsign) -/
def shortCallHeader : List Byte :=
  [90, 67, 90, 67, 45, 87, 88, 82, 45, 82, 87, 84, 45, 48, 49, 50, 51, 52, 53, 43, 48, 48, 51, 48, 45,
   49, 50, 51, 49, 50, 48, 48, 45, 115, 122, 50, 45]

theorem shortCallHeader_canonical :
    checkHeader shortCallHeader = some (19, shortCallHeader.length)
      ∧ shortCallHeader.all isAllowed = true ∧ shortCallHeader.length = 37 := by
  decide +kernel

/-- **Counterexample (F7).**  Three bursts carry the same canonical 37-byte header; each is followed
    by link-layer garbage: `5-`, `LF ff ff`, `ff 80 LF`.  None of the garbage strings is text, two of
    them are not even in the character set.  The per-position vote over the tails is `?-` (3f 2d),
    both bytes backed by three bursts; the third position votes to NUL and ends the estimate.  The
    greedy callsign match swallows `?-`: the reported header is `H ++ "?-"` (callsign `sz2-?`), with
    `voting = 39`, `parity = 16` — not `H`. -/
theorem tail_extension_witness :
    combine MAXLEN [shortCallHeader ++ [0x35, 45], shortCallHeader ++ [0x0a, 0xff, 0xff],
                    shortCallHeader ++ [0xff, 0x80, 0x0a]]
      = some (.ok (.som ⟨shortCallHeader ++ [63, 45], 19, 16, 39⟩))
    ∧ (estimateMessage MAXLEN [shortCallHeader ++ [0x35, 45], shortCallHeader ++ [0x0a, 0xff, 0xff],
                    shortCallHeader ++ [0xff, 0x80, 0x0a]]).drop shortCallHeader.length
      = [⟨63, 3, 8⟩, ⟨45, 3, 8⟩] := by
  decide +kernel

/-- the hypothesis of `combine_with_tails` is satisfiable with non-trivial tails: the same header
    and the same two garbage tails, the first tail `5+` instead of `5-`; by the general theorem -/
theorem combine_with_tails_example :
    combine MAXLEN [shortCallHeader ++ [0x35, 43], shortCallHeader ++ [0x0a, 0xff, 0xff],
                    shortCallHeader ++ [0xff, 0x80, 0x0a]]
      = some (.ok (.som ⟨shortCallHeader, 19, 0, 37⟩)) := by
  have hc := shortCallHeader_canonical
  have := combine_with_tails' MAXLEN shortCallHeader [0x35, 43] [0x0a, 0xff, 0xff] [0xff, 0x80, 0x0a] 19
    (fun b hb => List.all_eq_true.mp hc.2.1 b hb) hc.1 (by rw [hc.2.2]; decide)
    (by rw [hc.2.2]; decide +kernel)
  rw [hc.2.2] at this
  exact this

theorem sublist_singleton {α} (l : List α) (a : α) (h : l.Sublist [a]) : l = [] ∨ l = [a] := by
  cases h with
  | cons _ h' => left; exact List.eq_nil_of_sublist_nil h'
  | cons_cons _ h' => right; rw [List.eq_nil_of_sublist_nil h']

/-- **One trailer transmission, bursts 1 and 2.**  From the initial state: `NNNN` at `t1` is output
    as EndOfMessage by that very call; a second `NNNN` at `t2 < t1 + HIST` adds nothing, and no poll
    (any number, any times, before, between or after) outputs anything.  Exactly one EndOfMessage. -/
theorem trailer_two_bursts (t1 t2 : Nat) (polls1 polls2 : List Nat) (h21 : t2 < t1 + HIST) :
    (runOps {} (.burst litNNNN t1 :: (polls1.map .poll ++ .burst litNNNN t2 :: polls2.map .poll))).2
      = [(t1, .ok .eom)] := by
  have hne : litNNNN.isEmpty = false := rfl
  have htake : litNNNN.take MAXLEN = litNNNN := by decide
  -- first burst: EndOfMessage at once
  have hist1 := historyAfter_of_prune {} litNNNN t1 [] rfl
  have hs1 := burst_eom {} litNNNN t1 hne
    (estimateOf_pass {} litNNNN t1 .eom (by rw [hist1, htake]; exact combine_trailer_one)
      (fun p hp => by cases hp)) (fun old ho => by cases ho)
  rw [prune_historyAfter, hist1, htake] at hs1
  -- polls: nothing pending; the stored burst may expire
  obtain ⟨hq1, hpn1, hpv1⟩ := run_polls_quiet polls1 (stepOp {} (.burst litNNNN t1)).1 (by rw [hs1])
  have hsub := run_polls_history_sublist polls1 (stepOp {} (.burst litNNNN t1)).1
  generalize hS : (runOps (stepOp {} (.burst litNNNN t1)).1 (polls1.map .poll)).1 = S at hpn1 hpv1 hsub
  rw [hs1] at hpv1 hsub
  -- second burst: a duplicate
  have hc2 : combine MAXLEN ((historyAfter S litNNNN t2).map (·.data)) = some (.ok .eom) := by
    rcases sublist_singleton _ _ hsub with h0 | h1
    · simp only [historyAfter, h0, pruneHistory_nil, htake, List.nil_append, List.map_cons, List.map_nil]
      exact combine_trailer_one
    · rw [historyAfter, h1, prune_one_fresh _ _ (by simpa using h21), htake]
      exact combine_trailer_two
  obtain ⟨hs2, hq2⟩ := burst_quiet S litNNNN t2 hne hpn1
    (estimateOf_dup S litNNNN t2 (t1 + HIST) .eom .eom hc2 hpv1 h21 rfl)
  obtain ⟨hq3, _, _⟩ := run_polls_quiet polls2 (stepOp S (.burst litNNNN t2)).1 (by rw [hs2])
  rw [runOps_cons_snd, runOps_append_snd, hq1, hS, runOps_cons_snd, outOf_quiet _ _ hq2, hq3, hs1]
  rfl

/-- **Three bursts with tails, any polls** — who reports, and what is left behind.  Bursts
    `H ++ g1`, `H ++ g2`, `H ++ g3` end at `t1 ≤ t2 ≤ t3 < t1 + HIST`; the voted tails hold no `-`.
    Exactly one message is output, with the text `H`: the two-burst header by a poll between
    bursts 2 and 3 that reaches `t2 + HOLD`, or else the fully voted header by the first poll at or
    after `t3 + HOLD`.  Nothing is held afterwards and the last two bursts (clipped) are stored. -/
theorem three_bursts_left (s : AState) (H g1 g2 g3 : List Byte) (off t1 t2 t3 t : Nat)
    (polls1 polls2 polls3 : List Nat)
    (hall : ∀ b ∈ H, isAllowed b = true)
    (hcan : checkHeader H = some (off, H.length))
    (hfit : H.length ≤ MAXLEN)
    (hd2 : ∀ e ∈ estimateLoop (MAXLEN - H.length) [g1, g2], 2 ≤ e.nbursts → e.byte ≠ 45)
    (hd3 : ∀ e ∈ estimateLoop (MAXLEN - H.length) [g1, g2, g3], 2 ≤ e.nbursts → e.byte ≠ 45)
    (hh : s.history = []) (hp : s.pending = none)
    (hprev : ∀ p, s.previous = some p → p.data.text ≠ H)
    (h12 : t1 ≤ t2) (h23 : t2 ≤ t3) (h31 : t3 < t1 + HIST)
    (hp1 : ∀ u ∈ polls1, u ≤ t2) (hp2 : ∀ u ∈ polls2, u ≤ t3) (ht : t3 + HOLD ≤ t) :
    ∃ u h, ((h = ⟨H, off, 0, 0⟩ ∧ u ∈ polls2) ∨ (h = ⟨H, off, 0, H.length⟩ ∧ u ∈ polls3 ++ [t]
          ∧ t3 + HOLD ≤ u ∧ ∀ v ∈ polls2, v < t2 + HOLD)) ∧ t2 + HOLD ≤ u
      ∧ (runOps s (.burst (H ++ g1) t1 :: (polls1.map .poll ++ .burst (H ++ g2) t2 ::
          (polls2.map .poll ++ .burst (H ++ g3) t3 :: (polls3.map .poll ++ [.poll t]))))).2
          = [(u, .ok (.som h))]
      ∧ ∀ T, (∀ v ∈ polls3 ++ [t], v ≤ T) →
          LeftBy (runOps s (.burst (H ++ g1) t1 :: (polls1.map .poll ++ .burst (H ++ g2) t2 ::
            (polls2.map .poll ++ .burst (H ++ g3) t3 :: (polls3.map .poll ++ [.poll t]))))).1
            (.som h) (u + HIST) [⟨H ++ g2.take (MAXLEN - H.length), t2 + HIST⟩,
              ⟨H ++ g3.take (MAXLEN - H.length), t3 + HIST⟩] T := by
  -- bursts are clipped to the buffer; `combine` would not look further anyway
  have hc1 : combine MAXLEN [(H ++ g1).take MAXLEN] = none := by
    rw [take_header_tail H g1 MAXLEN hfit]
    exact combine_single_prefixed _ _ _ _ hcan
  have hc2 := (combine_clip MAXLEN [H ++ g1, H ++ g2]).trans
    (combine_with_tails_pair' MAXLEN H g1 g2 off hall hcan hfit hd2)
  have hc3 := (combine_clip MAXLEN [H ++ g1, H ++ g2, H ++ g3]).trans
    (combine_with_tails' MAXLEN H g1 g2 g3 off hall hcan hfit hd3)
  have := transmission3_st s (H ++ g1) (H ++ g2) (H ++ g3) t1 t2 t3 t _ _ polls1 polls2 polls3
    (isEmpty_of_checkHeader H g1 _ hcan) (isEmpty_of_checkHeader H g2 _ hcan)
    (isEmpty_of_checkHeader H g3 _ hcan) hc1 hc2 hc3 (Nat.zero_le _) rfl (by rw [hh]; rfl) hp
    (fun p hp _ => hprev p hp) h12 h23 h31 hp1 hp2 ht
  rwa [take_header_tail H g2 MAXLEN hfit, take_header_tail H g3 MAXLEN hfit] at this

/-- **Three bursts with tails, any polls.**  Start with an empty history, nothing pending, and a
    previous report (if any) of a different text.  Bursts `H ++ g1`, `H ++ g2`, `H ++ g3` end at
    `t1 ≤ t2 ≤ t3 < t1 + HIST`; polls at times `≤ t2` between the first two, at times `≤ t3` between
    the last two, at any times afterwards, and finally one at `t ≥ t3 + HOLD`.  The voted tails hold
    no `-` (pair `g1 g2`, triple `g1 g2 g3`).  Then exactly one message is output and its text is `H`:
    * if some poll between bursts 2 and 3 comes at or after `t2 + HOLD`, the two-burst header
      (`voting = 0`) is output by the first such poll, and the third burst is suppressed;
    * otherwise the fully voted header (`voting = |H|`) is output by the first poll at or after
      `t3 + HOLD`. -/
theorem three_bursts_report_tails (s : AState) (H g1 g2 g3 : List Byte) (off t1 t2 t3 t : Nat)
    (polls1 polls2 polls3 : List Nat)
    (hall : ∀ b ∈ H, isAllowed b = true)
    (hcan : checkHeader H = some (off, H.length))
    (hfit : H.length ≤ MAXLEN)
    (hd2 : ∀ e ∈ estimateLoop (MAXLEN - H.length) [g1, g2], 2 ≤ e.nbursts → e.byte ≠ 45)
    (hd3 : ∀ e ∈ estimateLoop (MAXLEN - H.length) [g1, g2, g3], 2 ≤ e.nbursts → e.byte ≠ 45)
    (hh : s.history = []) (hp : s.pending = none)
    (hprev : ∀ p, s.previous = some p → p.data.text ≠ H)
    (h12 : t1 ≤ t2) (h23 : t2 ≤ t3) (h31 : t3 < t1 + HIST)
    (hp1 : ∀ u ∈ polls1, u ≤ t2)
    (hp2 : ∀ u ∈ polls2, u ≤ t3)
    (ht : t3 + HOLD ≤ t) :
    (∃ u ∈ polls2, t2 + HOLD ≤ u ∧
        (runOps s (.burst (H ++ g1) t1 :: (polls1.map .poll ++ .burst (H ++ g2) t2 ::
          (polls2.map .poll ++ .burst (H ++ g3) t3 :: (polls3.map .poll ++ [.poll t]))))).2
          = [(u, .ok (.som ⟨H, off, 0, 0⟩))])
    ∨ ((∀ u ∈ polls2, u < t2 + HOLD) ∧ ∃ u ∈ polls3 ++ [t], t3 + HOLD ≤ u ∧
        (runOps s (.burst (H ++ g1) t1 :: (polls1.map .poll ++ .burst (H ++ g2) t2 ::
          (polls2.map .poll ++ .burst (H ++ g3) t3 :: (polls3.map .poll ++ [.poll t]))))).2
          = [(u, .ok (.som ⟨H, off, 0, H.length⟩))]) := by
  obtain ⟨u, h, hc, hu, hout, _⟩ := three_bursts_left s H g1 g2 g3 off t1 t2 t3 t polls1 polls2 polls3
    hall hcan hfit hd2 hd3 hh hp hprev h12 h23 h31 hp1 hp2 ht
  rcases hc with ⟨rfl, hm⟩ | ⟨rfl, hm, hd, hA⟩
  · exact Or.inl ⟨u, hm, hu, hout⟩
  · exact Or.inr ⟨hA, u, hm, hd, hout⟩

theorem three_bursts_sorted (b1 b2 b3 : List Byte) (t1 t2 t3 t : Nat) (polls1 polls2 polls3 : List Nat)
    (hsort : Sorted (.burst b1 t1 :: (polls1.map .poll ++ .burst b2 t2 ::
      (polls2.map .poll ++ .burst b3 t3 :: (polls3.map .poll ++ [.poll t]))))) :
    t1 ≤ t2 ∧ t2 ≤ t3 ∧ (∀ u ∈ polls1, u ≤ t2) ∧ (∀ u ∈ polls2, u ≤ t3) := by
  obtain ⟨h1, h2, h3, h4, _⟩ := sorted_three _ _ _ _ _ _ _ _ _ hsort
  exact ⟨h1, h2, h3, h4⟩

/-- **Three bursts with tails are reported exactly once** — any poll schedule in time order. -/
theorem three_bursts_report (s : AState) (H g1 g2 g3 : List Byte) (off t1 t2 t3 t : Nat)
    (polls1 polls2 polls3 : List Nat)
    (hall : ∀ b ∈ H, isAllowed b = true)
    (hcan : checkHeader H = some (off, H.length))
    (hfit : H.length ≤ MAXLEN)
    (hd2 : ∀ e ∈ estimateLoop (MAXLEN - H.length) [g1, g2], 2 ≤ e.nbursts → e.byte ≠ 45)
    (hd3 : ∀ e ∈ estimateLoop (MAXLEN - H.length) [g1, g2, g3], 2 ≤ e.nbursts → e.byte ≠ 45)
    (hh : s.history = []) (hp : s.pending = none)
    (hprev : ∀ p, s.previous = some p → p.data.text ≠ H)
    (hsort : Sorted (.burst (H ++ g1) t1 :: (polls1.map .poll ++ .burst (H ++ g2) t2 ::
      (polls2.map .poll ++ .burst (H ++ g3) t3 :: (polls3.map .poll ++ [.poll t])))))
    (h31 : t3 < t1 + HIST)
    (ht : t3 + HOLD ≤ t) :
    ∃ u h, (runOps s (.burst (H ++ g1) t1 :: (polls1.map .poll ++ .burst (H ++ g2) t2 ::
          (polls2.map .poll ++ .burst (H ++ g3) t3 :: (polls3.map .poll ++ [.poll t]))))).2
        = [(u, .ok (.som h))]
      ∧ h.text = H ∧ h.offsetTime = off ∧ h.parity = 0 ∧ (h.voting = 0 ∨ h.voting = H.length) := by
  obtain ⟨h12, h23, hp1, hp2⟩ := three_bursts_sorted _ _ _ _ _ _ _ _ _ _ hsort
  rcases three_bursts_report_tails s H g1 g2 g3 off t1 t2 t3 t polls1 polls2 polls3 hall hcan
    hfit hd2 hd3 hh hp hprev h12 h23 h31 hp1 hp2 ht with ⟨u, _, _, ho⟩ | ⟨_, u, _, _, ho⟩
  · exact ⟨u, _, ho, rfl, rfl, rfl, Or.inl rfl⟩
  · exact ⟨u, _, ho, rfl, rfl, rfl, Or.inr rfl⟩

/-- **Three intact bursts are reported exactly once**, from the initial state, any poll schedule in
    time order. -/
theorem three_bursts_report_init (H : List Byte) (off t1 t2 t3 t : Nat)
    (polls1 polls2 polls3 : List Nat)
    (hall : ∀ b ∈ H, isAllowed b = true)
    (hcan : checkHeader H = some (off, H.length))
    (hfit : H.length ≤ MAXLEN)
    (hsort : Sorted (.burst H t1 :: (polls1.map .poll ++ .burst H t2 ::
      (polls2.map .poll ++ .burst H t3 :: (polls3.map .poll ++ [.poll t])))))
    (h31 : t3 < t1 + HIST)
    (ht : t3 + HOLD ≤ t) :
    ∃ u h, (runOps {} (.burst H t1 :: (polls1.map .poll ++ .burst H t2 ::
          (polls2.map .poll ++ .burst H t3 :: (polls3.map .poll ++ [.poll t]))))).2
        = [(u, .ok (.som h))]
      ∧ h.text = H ∧ h.offsetTime = off ∧ h.parity = 0 ∧ (h.voting = 0 ∨ h.voting = H.length) := by
  have := three_bursts_report {} H [] [] [] off t1 t2 t3 t polls1 polls2 polls3 hall hcan hfit
    (by rw [estimateLoop_nils2]; intro e he; cases he) (by rw [estimateLoop_nils3]; intro e he; cases he)
    rfl rfl (by intro p hp; cases hp) (by simpa using hsort) h31 ht
  simpa using this

/-! ### the three-burst scenario at the extremes, and F7 at the transport -/

/-- the hypotheses of `three_bursts_report_tails` are satisfiable with garbage tails, early-release
    branch (a poll in `[t2 + HOLD, t3]`); by the general theorem, not by evaluation -/
theorem three_bursts_report_example_early :
    ∃ u ∈ [2000, 2700], 1950 + HOLD ≤ u ∧
      (runOps {} (.burst (shortCallHeader ++ [0x35, 43]) 1000 :: ([1500].map .poll ++
        .burst (shortCallHeader ++ [0x0a, 0xff, 0xff]) 1950 :: ([2000, 2700].map .poll ++
        .burst (shortCallHeader ++ [0xff, 0x80, 0x0a]) 2900 :: ([3000].map .poll ++ [.poll 3600]))))).2
        = [(u, .ok (.som ⟨shortCallHeader, 19, 0, 0⟩))] := by
  have hc := shortCallHeader_canonical
  rcases three_bursts_report_tails {} shortCallHeader [0x35, 43] [0x0a, 0xff, 0xff] [0xff, 0x80, 0x0a]
    19 1000 1950 2900 3600 [1500] [2000, 2700] [3000]
    (fun b hb => List.all_eq_true.mp hc.2.1 b hb) hc.1 (by rw [hc.2.2]; decide)
    (by rw [hc.2.2]; decide +kernel) (by rw [hc.2.2]; decide +kernel) rfl rfl (by intro p hp; cases hp)
    (by decide) (by decide) (by decide) (by decide) (by decide) (by decide) with h | ⟨h, _⟩
  · exact h
  · exact absurd (h 2700 (by simp)) (by decide)

/-- the same with no poll in `[t2 + HOLD, t3]`: the fully voted header -/
theorem three_bursts_report_example_late :
    ∃ u ∈ [3000] ++ [3600], 2900 + HOLD ≤ u ∧
      (runOps {} (.burst (shortCallHeader ++ [0x35, 43]) 1000 :: ([1500].map .poll ++
        .burst (shortCallHeader ++ [0x0a, 0xff, 0xff]) 1950 :: ([2000, 2500].map .poll ++
        .burst (shortCallHeader ++ [0xff, 0x80, 0x0a]) 2900 :: ([3000].map .poll ++ [.poll 3600]))))).2
        = [(u, .ok (.som ⟨shortCallHeader, 19, 0, shortCallHeader.length⟩))] := by
  have hc := shortCallHeader_canonical
  rcases three_bursts_report_tails {} shortCallHeader [0x35, 43] [0x0a, 0xff, 0xff] [0xff, 0x80, 0x0a]
    19 1000 1950 2900 3600 [1500] [2000, 2500] [3000]
    (fun b hb => List.all_eq_true.mp hc.2.1 b hb) hc.1 (by rw [hc.2.2]; decide)
    (by rw [hc.2.2]; decide +kernel) (by rw [hc.2.2]; decide +kernel) rfl rfl (by intro p hp; cases hp)
    (by decide) (by decide) (by decide) (by decide) (by decide) (by decide) with ⟨u, hu, hd, _⟩ | ⟨_, h⟩
  · exfalso
    simp only [List.mem_cons, List.not_mem_nil, or_false] at hu
    rcases hu with rfl | rfl <;> exact absurd hd (by decide)
  · exact h

/-- **F7 at the transport, no early poll.**  The tails of `tail_extension_witness`; bursts one
    second apart, no poll between `t2 + HOLD` and `t3`.  One message is output and its text is
    `H ++ "?-"`, not `H`. -/
theorem tail_extension_reported_wrong :
    (runOps {} [.burst (shortCallHeader ++ [0x35, 45]) 1000,
                .burst (shortCallHeader ++ [0x0a, 0xff, 0xff]) 1950, .poll 2000,
                .burst (shortCallHeader ++ [0xff, 0x80, 0x0a]) 2900, .poll 3600]).2
      = [(3600, .ok (.som ⟨shortCallHeader ++ [63, 45], 19, 16, 39⟩))] := by
  decide +kernel

/-- **F7 at the transport, early poll.**  The same bursts with a poll in `[t2 + HOLD, t3]`: the
    two-burst header `H` is output at that poll, and the three-burst estimate `H ++ "?-"` — a
    different text, so not a duplicate — is output as a second StartOfMessage.  One transmission,
    two reports. -/
theorem tail_extension_reported_twice :
    (runOps {} [.burst (shortCallHeader ++ [0x35, 45]) 1000,
                .burst (shortCallHeader ++ [0x0a, 0xff, 0xff]) 1950, .poll 2700,
                .burst (shortCallHeader ++ [0xff, 0x80, 0x0a]) 2900, .poll 3600]).2
      = [(2700, .ok (.som ⟨shortCallHeader, 19, 0, 0⟩)),
         (3600, .ok (.som ⟨shortCallHeader ++ [63, 45], 19, 16, 39⟩))] := by
  decide +kernel

theorem tail_extension_runs_sorted :
    Sorted [.burst (shortCallHeader ++ [0x35, 45]) 1000,
            .burst (shortCallHeader ++ [0x0a, 0xff, 0xff]) 1950, .poll 2700,
            .burst (shortCallHeader ++ [0xff, 0x80, 0x0a]) 2900, .poll 3600]
    ∧ Sorted [.burst (shortCallHeader ++ [0x35, 45]) 1000,
            .burst (shortCallHeader ++ [0x0a, 0xff, 0xff]) 1950, .poll 2000,
            .burst (shortCallHeader ++ [0xff, 0x80, 0x0a]) 2900, .poll 3600] := by
  unfold Sorted
  decide

end SameVerif.C02
