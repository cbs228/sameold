import SameVerif.Thm.C05seq
import SameVerif.Lemmas.AssemblerPoll
/-
  C02poll — Two of three bursts suffice AT THE TRANSPORT, whichever burst is the corrupted one and
  whatever the poll schedule.

  `C03.combine_two_of_three` is about one call of `combine`; `C02.three_bursts_report` is about
  three bursts that all carry the header.  Here the odd burst `X` is arbitrary (any bytes, any
  length, empty, `NN…`, a truncated or extended copy of the header) and sits in any of the three
  positions, polls are interleaved arbitrarily, and the claim is about everything the assembler
  outputs: exactly one StartOfMessage, with the text `H`.

  For the odd burst in the first or second position the TWO-burst vote `[X, H]` / `[H, X]` is
  taken before the third burst arrives, and it can be output if a poll reaches its hold deadline in
  between.  It reads the common prefix of `H` and `X`; if a proper prefix of `H` is itself a
  complete header (a callsign with `-` inside), that prefix is reported, and `H` is reported after
  it: `prefix_header_reported_twice`.  Hence the hypothesis `NoHeaderPrefix H` for those positions
  (not needed when the odd burst comes last).
  Helper lemmas live in Lemmas/AssemblerPoll.lean.
-/
namespace SameVerif.C02poll
open SameVerif SameVerif.Spec SameVerif.Asm

/-- three bursts ending at `t1`, `t2`, `t3`; polls `p1` between the first two, `p2` between the
    last two, `p3` afterwards, and a last poll at `t` -/
def sched (b1 b2 b3 : List Byte) (t1 t2 t3 t : Nat) (p1 p2 p3 : List Nat) : List AOp :=
  .burst b1 t1 :: (p1.map .poll ++ .burst b2 t2 :: (p2.map .poll ++ .burst b3 t3 ::
    (p3.map .poll ++ [.poll t])))

/-- **A header and any other burst.**  `H` is a canonical header text in the SAME character set,
    no proper prefix of which is itself a complete header.  Whatever the other burst is, and in
    either order, the two-burst vote yields no StartOfMessage other than `H` itself (exactly: it
    yields nothing, an error, or `H` with no byte voted by three). -/
theorem pair_with_header (maxLen : Nat) (H X : List Byte) (off : Nat)
    (hall : ∀ b ∈ H, isAllowed b = true)
    (hcan : checkHeader H = some (off, H.length))
    (hnp : NoHeaderPrefix H) (h : Header)
    (hc : combine maxLen [H, X] = some (.ok (.som h)) ∨ combine maxLen [X, H] = some (.ok (.som h))) :
    h.text = H ∧ h.offsetTime = off ∧ h.voting = 0 := by
  have hpre : ∀ (i : Nat) (hi : i < h.text.length), ∃ (hH : i < H.length), H[i] = h.text[i] := by
    intro i hi
    rcases hc with hc | hc
    · obtain ⟨ha, _, h1, _⟩ := C04.pair_agrees maxLen H X h hc i hi
      refine ⟨ha, ?_⟩
      rw [← h1]
      exact (allowed_mask _ (hall _ (List.getElem_mem ha))).symm
    · obtain ⟨_, hb, _, h2⟩ := C04.pair_agrees maxLen X H h hc i hi
      refine ⟨hb, ?_⟩
      rw [← h2]
      exact (allowed_mask _ (hall _ (List.getElem_mem hb))).symm
  have hv : h.voting = 0 := by
    rcases hc with hc | hc <;> exact combine_pair_voting maxLen _ _ h hc
  have hcanh : checkHeader h.text = some (h.offsetTime, h.text.length) := by
    rcases hc with hc | hc <;> exact combine_som_canonical maxLen _ h hc
  have hlen : h.text.length ≤ H.length := by
    apply Nat.le_of_not_lt
    intro hlt
    obtain ⟨hH, _⟩ := hpre H.length hlt
    omega
  have htake : h.text = H.take h.text.length := by
    apply List.ext_getElem
    · rw [List.length_take]; omega
    · intro i h1 h2
      obtain ⟨hH, e⟩ := hpre i h1
      rw [List.getElem_take, e]
  by_cases hlt : h.text.length < H.length
  · exfalso
    apply hnp _ hlt h.offsetTime
    rw [← htake]
    exact hcanh
  · have hle : h.text.length = H.length := by omega
    have hH : h.text = H := by rw [htake, hle, List.take_length]
    refine ⟨hH, ?_, hv⟩
    rw [hH, hcan] at hcanh
    simp only [Option.some.injEq, Prod.mk.injEq] at hcanh
    exact hcanh.1.symm

/-- **Three non-empty bursts, the first two of which do not vote for a foreign header and all
    three of which vote for `H`.**  Any polls in time order, a last poll at or after `t3 + HOLD`:
    exactly one StartOfMessage is output in the whole run, with the text `H`. -/
theorem three_polls (H b1 b2 b3 : List Byte) (off t1 t2 t3 t : Nat) (polls1 polls2 polls3 : List Nat)
    (hnew : Header) (hne1 : b1.isEmpty = false) (hne2 : b2.isEmpty = false) (hne3 : b3.isEmpty = false)
    (hHN : H ≠ litNNNN)
    (hsort : Sorted (sched b1 b2 b3 t1 t2 t3 t polls1 polls2 polls3))
    (h31 : t3 < t1 + HIST) (ht : t3 + HOLD ≤ t)
    (hgood : GoodEst H off (combine MAXLEN [b1.take MAXLEN, b2.take MAXLEN]))
    (hc3 : combine MAXLEN [b1.take MAXLEN, b2.take MAXLEN, b3.take MAXLEN] = some (.ok (.som hnew)))
    (htext : hnew.text = H) (hoff : hnew.offsetTime = off) :
    ∃ u h, soms (runOps {} (sched b1 b2 b3 t1 t2 t3 t polls1 polls2 polls3)).2 = [(u, h)]
      ∧ h.text = H ∧ h.offsetTime = off := by
  obtain ⟨h12, h23, hp1, hp2⟩ := C02.three_bursts_sorted _ _ _ _ _ _ _ _ _ _ hsort
  have hHIST := HIST_pos
  obtain ⟨S2, out, hrun, hso, hO, hh⟩ := first_two H off b1 b2 t1 t2 polls1 hne1 hne2 hHN h12
    (by omega) hp1 hgood
  obtain ⟨u, h, hs, ht', ho⟩ := finish_third H off t1 S2 b3 t3 polls2 (polls3 ++ [t])
    [⟨b1.take MAXLEN, t1 + HIST⟩, ⟨b2.take MAXLEN, t2 + HIST⟩] hnew hO hne3 hp2
    (by rw [hh]; exact prune_two_fresh _ _ _ (by simp only; omega) (by simp only; omega))
    hc3 htext hoff h31 ⟨t, by simp, ht⟩
  refine ⟨u, h, ?_, ht', ho⟩
  unfold sched
  rw [hrun, soms_append, hso, polls_snoc, hs]
  rfl


/-- **The odd burst comes last** (`H`, `H`, `X`).  Any `X`, any polls in time order, a last poll at
    or after `t3 + HOLD`: exactly one StartOfMessage is output in the whole run, with the text `H`.
    (`NoHeaderPrefix` is not needed: the two-burst vote is over two copies of `H`.) -/
theorem two_of_three_polls_last (H X : List Byte) (off t1 t2 t3 t : Nat)
    (polls1 polls2 polls3 : List Nat) (cH : C05seq.Canon H off)
    (hsort : Sorted (sched H H X t1 t2 t3 t polls1 polls2 polls3))
    (h31 : t3 < t1 + HIST) (ht : t3 + HOLD ≤ t) :
    ∃ u h, soms (runOps {} (sched H H X t1 t2 t3 t polls1 polls2 polls3)).2 = [(u, h)]
      ∧ h.text = H ∧ h.offsetTime = off := by
  obtain ⟨h12, h23, hp1, hp2⟩ := C02.three_bursts_sorted _ _ _ _ _ _ _ _ _ _ hsort
  have hne := cH.nonempty
  have htake : H.take MAXLEN = H := List.take_of_length_le cH.fit
  have hHN := header_ne_trailer H _ cH.parse
  have hHIST := HIST_pos
  unfold sched
  by_cases hX : X.isEmpty = true
  · -- an empty burst is a poll: two header bursts and polls
    obtain ⟨u, hu⟩ := two_equal_polls H off t1 t2 t polls1 (polls2 ++ t3 :: polls3) cH.parse cH.fit
      cH.two (by omega) hp1 (by omega)
    have e := runOps_burst_empty {} (.burst H t1 :: (polls1.map .poll ++ .burst H t2 :: polls2.map .poll))
      (polls3.map .poll ++ [.poll t]) X t3 hX
    simp only [List.map_append, List.map_cons, List.cons_append, List.append_assoc] at e hu
    exact ⟨u, _, by rw [e, hu]; rfl, rfl, rfl⟩
  · refine three_polls H H H X off t1 t2 t3 t polls1 polls2 polls3 _ hne hne (by simpa using hX) hHN
      hsort h31 ht ?_ (by rw [htake]; exact cH.hhx _) rfl rfl
    intro h hc
    rw [htake, cH.two] at hc
    cases hc
    exact ⟨rfl, rfl, rfl⟩

/-- **The odd burst comes first** (`X`, `H`, `H`).  Any `X` — if it begins `NN` it is output as an
    EndOfMessage, which is not a StartOfMessage —, any polls in time order, a last poll at or after
    `t3 + HOLD`; no proper prefix of `H` is itself a header.  Exactly one StartOfMessage is output in
    the whole run, with the text `H`. -/
theorem two_of_three_polls_first (H X : List Byte) (off t1 t2 t3 t : Nat)
    (polls1 polls2 polls3 : List Nat) (cH : C05seq.Canon H off) (hnp : NoHeaderPrefix H)
    (hsort : Sorted (sched X H H t1 t2 t3 t polls1 polls2 polls3))
    (h31 : t3 < t1 + HIST) (ht : t3 + HOLD ≤ t) :
    ∃ u h, soms (runOps {} (sched X H H t1 t2 t3 t polls1 polls2 polls3)).2 = [(u, h)]
      ∧ h.text = H ∧ h.offsetTime = off := by
  obtain ⟨h12, h23, hp1, hp2⟩ := C02.three_bursts_sorted _ _ _ _ _ _ _ _ _ _ hsort
  have hne := cH.nonempty
  have htake : H.take MAXLEN = H := List.take_of_length_le cH.fit
  have hHN := header_ne_trailer H _ cH.parse
  have hHIST := HIST_pos
  unfold sched
  by_cases hX : X.isEmpty = true
  · -- an empty burst is a poll, and polls do nothing to the initial state
    obtain ⟨u, hu⟩ := two_equal_polls H off t2 t3 t polls2 polls3 cH.parse cH.fit cH.two (by omega) hp2 ht
    have e := runOps_burst_empty {} [] (polls1.map .poll ++ .burst H t2 :: (polls2.map .poll ++ .burst H t3 ::
      (polls3.map .poll ++ [.poll t]))) X t1 hX
    have hstill : runOps {} ((t1 :: polls1).map AOp.poll) = ({}, []) :=
      run_polls_still _ {} rfl (by simp) (by intro _ _ e he; cases he)
    rw [List.nil_append] at e
    rw [e]
    show ∃ u h, soms (runOps {} ((t1 :: polls1).map AOp.poll ++ _)).2 = [(u, h)] ∧ _
    rw [runOps_append_snd, hstill, hu]
    exact ⟨u, _, rfl, rfl, rfl⟩
  · refine three_polls H X H H off t1 t2 t3 t polls1 polls2 polls3 _ (by simpa using hX) hne hne hHN
      hsort h31 ht ?_ (by rw [htake]; exact cH.xhh _) rfl rfl
    intro h hc
    rw [htake] at hc
    exact pair_with_header MAXLEN H _ off cH.allowed cH.parse hnp h (Or.inr hc)

/-- **The odd burst comes second** (`H`, `X`, `H`).  Any `X`, any polls in time order, a last poll
    at or after `t3 + HOLD`; no proper prefix of `H` is itself a header.  Exactly one StartOfMessage
    is output in the whole run, with the text `H`. -/
theorem two_of_three_polls_middle (H X : List Byte) (off t1 t2 t3 t : Nat)
    (polls1 polls2 polls3 : List Nat) (cH : C05seq.Canon H off) (hnp : NoHeaderPrefix H)
    (hsort : Sorted (sched H X H t1 t2 t3 t polls1 polls2 polls3))
    (h31 : t3 < t1 + HIST) (ht : t3 + HOLD ≤ t) :
    ∃ u h, soms (runOps {} (sched H X H t1 t2 t3 t polls1 polls2 polls3)).2 = [(u, h)]
      ∧ h.text = H ∧ h.offsetTime = off := by
  obtain ⟨h12, h23, hp1, hp2⟩ := C02.three_bursts_sorted _ _ _ _ _ _ _ _ _ _ hsort
  have hne := cH.nonempty
  have htake : H.take MAXLEN = H := List.take_of_length_le cH.fit
  have hHN := header_ne_trailer H _ cH.parse
  have hHIST := HIST_pos
  unfold sched
  by_cases hX : X.isEmpty = true
  · obtain ⟨u, hu⟩ := two_equal_polls H off t1 t3 t (polls1 ++ t2 :: polls2) polls3 cH.parse cH.fit
      cH.two h31 (by
        intro v hv
        rcases List.mem_append.mp hv with hv | hv
        · exact Nat.le_trans (hp1 v hv) h23
        · rcases List.mem_cons.mp hv with rfl | hv
          · exact h23
          · exact hp2 v hv) ht
    have e := runOps_burst_empty {} (.burst H t1 :: polls1.map .poll) (polls2.map .poll ++ .burst H t3 ::
      (polls3.map .poll ++ [.poll t])) X t2 hX
    simp only [List.map_append, List.map_cons, List.cons_append, List.append_assoc] at e hu
    exact ⟨u, _, by rw [e, hu]; rfl, rfl, rfl⟩
  · refine three_polls H H X H off t1 t2 t3 t polls1 polls2 polls3 _ hne (by simpa using hX) hne hHN
      hsort h31 ht ?_
      (by rw [htake]
          exact C03.combine_two_of_three MAXLEN 1 H (X.take MAXLEN) off cH.allowed cH.parse cH.fit)
      rfl rfl
    intro h hc
    rw [htake] at hc
    exact pair_with_header MAXLEN H _ off cH.allowed cH.parse hnp h (Or.inl hc)

/-- **Two of three bursts suffice at the transport, under arbitrary interleaved polls.**
    `H` is a canonical header text that fits the burst buffer; `X` is anything (any bytes, any
    length, empty, `NN…`, a truncated or extended copy of `H`); the three bursts are `H`, `H` and
    `X` with `X` in position `pos` (0, 1, or last), ending at `t1 ≤ t2 ≤ t3 < t1 + HIST`; polls — any
    number, anywhere, in time order — and a last poll at or after `t3 + HOLD`.  If `X` is not the
    last burst, no proper prefix of `H` may itself be a complete header.  Then, from the initial
    state, exactly one StartOfMessage is output in the whole run, and its text is exactly `H`. -/
theorem two_of_three_polls' (pos : Nat) (H X : List Byte) (off t1 t2 t3 t : Nat)
    (polls1 polls2 polls3 : List Nat)
    (cH : C05seq.Canon H off)
    (hnp : pos < 2 → NoHeaderPrefix H)
    (b1 b2 b3 : List Byte) (harr : arrange pos H X = [b1, b2, b3])
    (hsort : Sorted (.burst b1 t1 :: (polls1.map .poll ++ .burst b2 t2 ::
      (polls2.map .poll ++ .burst b3 t3 :: (polls3.map .poll ++ [.poll t])))))
    (h31 : t3 < t1 + HIST) (ht : t3 + HOLD ≤ t) :
    ∃ u h, soms (runOps {} (.burst b1 t1 :: (polls1.map .poll ++ .burst b2 t2 ::
      (polls2.map .poll ++ .burst b3 t3 :: (polls3.map .poll ++ [.poll t]))))).2 = [(u, h)]
      ∧ h.text = H ∧ h.offsetTime = off := by
  rcases pos with _ | _ | n
  · simp only [arrange, List.cons.injEq, and_true] at harr
    obtain ⟨rfl, rfl, rfl⟩ := harr
    exact two_of_three_polls_first H X off t1 t2 t3 t polls1 polls2 polls3 cH (hnp (by omega)) hsort h31 ht
  · simp only [arrange, List.cons.injEq, and_true] at harr
    obtain ⟨rfl, rfl, rfl⟩ := harr
    exact two_of_three_polls_middle H X off t1 t2 t3 t polls1 polls2 polls3 cH (hnp (by omega)) hsort h31 ht
  · simp only [arrange, List.cons.injEq, and_true] at harr
    obtain ⟨rfl, rfl, rfl⟩ := harr
    exact two_of_three_polls_last H X off t1 t2 t3 t polls1 polls2 polls3 cH hsort h31 ht

theorem two_of_three_polls (pos : Nat) (H X : List Byte) (off t1 t2 t3 t : Nat)
    (polls1 polls2 polls3 : List Nat)
    (cH : C05seq.Canon H off)
    (hnp : NoHeaderPrefix H)
    (b1 b2 b3 : List Byte) (harr : arrange pos H X = [b1, b2, b3])
    (hsort : Sorted (.burst b1 t1 :: (polls1.map .poll ++ .burst b2 t2 ::
      (polls2.map .poll ++ .burst b3 t3 :: (polls3.map .poll ++ [.poll t])))))
    (h31 : t3 < t1 + HIST) (ht : t3 + HOLD ≤ t) :
    ∃ u h, soms (runOps {} (.burst b1 t1 :: (polls1.map .poll ++ .burst b2 t2 ::
      (polls2.map .poll ++ .burst b3 t3 :: (polls3.map .poll ++ [.poll t]))))).2 = [(u, h)]
      ∧ h.text = H ∧ h.offsetTime = off :=
  two_of_three_polls' pos H X off t1 t2 t3 t polls1 polls2 polls3 cH (fun _ => hnp) b1 b2 b3 harr
    hsort h31 ht

theorem two_of_three_polls_each (H X : List Byte) (off t1 t2 t3 t : Nat)
    (polls1 polls2 polls3 : List Nat) (cH : C05seq.Canon H off) (hnp : NoHeaderPrefix H)
    (h31 : t3 < t1 + HIST) (ht : t3 + HOLD ≤ t) :
    (Sorted (sched X H H t1 t2 t3 t polls1 polls2 polls3) →
      ∃ u h, soms (runOps {} (sched X H H t1 t2 t3 t polls1 polls2 polls3)).2 = [(u, h)]
        ∧ h.text = H ∧ h.offsetTime = off)
    ∧ (Sorted (sched H X H t1 t2 t3 t polls1 polls2 polls3) →
      ∃ u h, soms (runOps {} (sched H X H t1 t2 t3 t polls1 polls2 polls3)).2 = [(u, h)]
        ∧ h.text = H ∧ h.offsetTime = off)
    ∧ (Sorted (sched H H X t1 t2 t3 t polls1 polls2 polls3) →
      ∃ u h, soms (runOps {} (sched H H X t1 t2 t3 t polls1 polls2 polls3)).2 = [(u, h)]
        ∧ h.text = H ∧ h.offsetTime = off) :=
  ⟨fun hs => two_of_three_polls 0 H X off t1 t2 t3 t polls1 polls2 polls3 cH hnp X H H rfl hs h31 ht,
   fun hs => two_of_three_polls 1 H X off t1 t2 t3 t polls1 polls2 polls3 cH hnp H X H rfl hs h31 ht,
   fun hs => two_of_three_polls 2 H X off t1 t2 t3 t polls1 polls2 polls3 cH hnp H H X rfl hs h31 ht⟩

/-! ### why `NoHeaderPrefix` is needed: a header whose callsign holds a `-` -/

/-- "ZCZC-WXR-RWT-012345+0030-1231200-KLO-XYZ-" (41 bytes; the callsign is `KLO-XYZ`) -/
def dashCallHeader : List Byte :=
  [90, 67, 90, 67, 45, 87, 88, 82, 45, 82, 87, 84, 45, 48, 49, 50, 51, 52, 53, 43, 48, 48, 51, 48, 45,
   49, 50, 51, 49, 50, 48, 48, 45, 75, 76, 79, 45, 88, 89, 90, 45]

/-- "ZCZC-WXR-RWT-012345+0030-1231200-KLO-": the first 37 bytes of `dashCallHeader` — that header cut
    short after the `-` inside its callsign; itself a complete header (callsign `KLO`) -/
def dashCallPrefix : List Byte :=
  [90, 67, 90, 67, 45, 87, 88, 82, 45, 82, 87, 84, 45, 48, 49, 50, 51, 52, 53, 43, 48, 48, 51, 48, 45,
   49, 50, 51, 49, 50, 48, 48, 45, 75, 76, 79, 45]

theorem dashCallHeader_canonical :
    checkHeader dashCallHeader = some (19, dashCallHeader.length)
      ∧ dashCallHeader.all isAllowed = true ∧ dashCallHeader.length = 41 := by
  decide +kernel

theorem canon_dashCall : C05seq.Canon dashCallHeader 19 := by
  have hc := dashCallHeader_canonical
  exact ⟨fun b hb => List.all_eq_true.mp hc.2.1 b hb, hc.1, by rw [hc.2.2]; decide⟩

/-- the burst cut short is a proper prefix of the header, and is itself a complete header -/
theorem dashCallPrefix_is_header :
    dashCallPrefix = dashCallHeader.take 37
      ∧ checkHeader dashCallPrefix = some (19, dashCallPrefix.length) := by
  decide +kernel

theorem dashCallHeader_has_header_prefix : ¬ NoHeaderPrefix dashCallHeader := by
  intro h
  exact h 37 (by decide) 19 (by decide +kernel)

/-- **Counterexample: without `NoHeaderPrefix`, one transmission is reported twice.**  The header
    `…-KLO-XYZ-` is received intact in the first and third burst; the second burst is the same
    header cut short after `…-KLO-` (nothing else is wrong with it).  The two-burst vote reads the
    common prefix, which is a complete header with the callsign `KLO`; a poll between the second
    and third burst at or after `t2 + HOLD` outputs it; the three-burst vote then gives the full
    header, a different text, so not a duplicate: a second StartOfMessage.  Every hypothesis of
    `two_of_three_polls` other than `NoHeaderPrefix` holds (`prefix_header_run_hypotheses`). -/
theorem prefix_header_reported_twice :
    (runOps {} (sched dashCallHeader dashCallPrefix dashCallHeader 1000 1700 2400 3100 [] [2390] [])).2
      = [(2390, .ok (.som ⟨dashCallPrefix, 19, 0, 0⟩)),
         (3100, .ok (.som ⟨dashCallHeader, 19, 0, 37⟩))] := by
  decide +kernel

/-- the same with the truncated burst first (`X`, `H`, `H`) -/
theorem prefix_header_reported_twice_first :
    (runOps {} (sched dashCallPrefix dashCallHeader dashCallHeader 1000 1700 2400 3100 [] [2390] [])).2
      = [(2390, .ok (.som ⟨dashCallPrefix, 19, 0, 0⟩)),
         (3100, .ok (.som ⟨dashCallHeader, 19, 0, 37⟩))] := by
  decide +kernel

/-- in terms of the conclusion of `two_of_three_polls`: two StartOfMessage outputs, not one -/
theorem prefix_header_two_soms :
    soms (runOps {} (sched dashCallHeader dashCallPrefix dashCallHeader 1000 1700 2400 3100 [] [2390] [])).2
      = [(2390, ⟨dashCallPrefix, 19, 0, 0⟩), (3100, ⟨dashCallHeader, 19, 0, 37⟩)] := by
  rw [prefix_header_reported_twice]
  rfl

/-- the run of the counterexample satisfies every other hypothesis of `two_of_three_polls` -/
theorem prefix_header_run_hypotheses :
    C05seq.Canon dashCallHeader 19
      ∧ arrange 1 dashCallHeader dashCallPrefix = [dashCallHeader, dashCallPrefix, dashCallHeader]
      ∧ Sorted (sched dashCallHeader dashCallPrefix dashCallHeader 1000 1700 2400 3100 [] [2390] [])
      ∧ Sorted (sched dashCallPrefix dashCallHeader dashCallHeader 1000 1700 2400 3100 [] [2390] [])
      ∧ 2400 < 1000 + HIST ∧ 2400 + HOLD ≤ 3100 := by
  refine ⟨canon_dashCall, rfl, ?_, ?_, by decide, by decide⟩ <;> (unfold Sorted sched; decide)

/-- with the truncated burst LAST the theorem applies (no `NoHeaderPrefix` needed): one report -/
theorem prefix_header_last_once :
    ∃ u h, soms (runOps {} (sched dashCallHeader dashCallHeader dashCallPrefix 1000 1700 2400 3100
        [] [2390] [])).2 = [(u, h)] ∧ h.text = dashCallHeader ∧ h.offsetTime = 19 :=
  two_of_three_polls_last dashCallHeader dashCallPrefix 19 1000 1700 2400 3100 [] [2390] []
    canon_dashCall (by unfold Sorted sched; decide) (by decide) (by decide)

/-! ### `NoHeaderPrefix` in practice, and non-vacuity -/

/-- **A callsign without `-` is enough.**  The closing `-` of a proper prefix that is a header
    would have to lie inside the callsign of `H`. -/
theorem noHeaderPrefix_of_dashfree_callsign (H : List Byte) (off : Nat) (cH : C05seq.Canon H off)
    (hd : ∀ b ∈ (H.drop (off + 14)).dropLast, b ≠ 45) : NoHeaderPrefix H :=
  noHeaderPrefix_of_dashfree_call H off cH.parse hd

theorem canon_example : C05seq.Canon C02.exampleHeader 19 := by
  have hc := C02.exampleHeader_canonical
  exact ⟨fun b hb => List.all_eq_true.mp hc.2.1 b hb, hc.1, by rw [hc.2.2]; decide⟩

/-- the example header `…-KLOX-` has no header prefix: by the callsign criterion … -/
theorem exampleHeader_noHeaderPrefix : NoHeaderPrefix C02.exampleHeader :=
  noHeaderPrefix_of_dashfree_callsign _ 19 canon_example (by decide)

/-- … and by running the checker -/
theorem exampleHeader_noHeaderPrefix' : NoHeaderPrefix C02.exampleHeader :=
  noHeaderPrefix_of_check _ (by decide +kernel)

/-- a corrupted copy of the example header: `RWT` received as `RWC`, the callsign as `KLOY`, an
    eighth bit set in the originator, and two bytes of garbage appended -/
def corruptedExample : List Byte :=
  [90, 67, 90, 67, 45, 87, 0xd8, 82, 45, 82, 87, 67, 45, 48, 49, 50, 51, 52, 53, 43, 48, 48, 51, 48, 45,
   49, 50, 51, 49, 50, 48, 48, 45, 75, 76, 79, 89, 45, 0x0a, 0xff]

/-- **Non-vacuity.**  The hypotheses of `two_of_three_polls` are satisfiable — the example header,
    the corrupted copy in the middle, bursts 700 ticks apart, polls before, between (one of them
    after the two-burst hold deadline `1700 + HOLD = 2382`) and after the bursts; by the general
    theorem, not by evaluation. -/
theorem two_of_three_polls_example :
    ∃ u h, soms (runOps {} (.burst C02.exampleHeader 1000 :: ([1200, 1650].map .poll ++
        .burst corruptedExample 1700 :: ([1800, 2390].map .poll ++
        .burst C02.exampleHeader 2400 :: ([2500, 3000].map .poll ++ [.poll 3100]))))).2 = [(u, h)]
      ∧ h.text = C02.exampleHeader ∧ h.offsetTime = 19 :=
  two_of_three_polls 1 C02.exampleHeader corruptedExample 19 1000 1700 2400 3100 [1200, 1650]
    [1800, 2390] [2500, 3000] canon_example exampleHeader_noHeaderPrefix _ _ _ rfl
    (by unfold Sorted; decide) (by decide) (by decide)

/-- the same with the corrupted burst first, and with an empty burst, and with a burst `NNNN` -/
theorem two_of_three_polls_example_first :
    ∃ u h, soms (runOps {} (sched corruptedExample C02.exampleHeader C02.exampleHeader
        1000 1700 2400 3100 [1200, 1650] [1800, 2390] [2500, 3000])).2 = [(u, h)]
      ∧ h.text = C02.exampleHeader ∧ h.offsetTime = 19 :=
  (two_of_three_polls_each C02.exampleHeader corruptedExample 19 1000 1700 2400 3100 [1200, 1650]
    [1800, 2390] [2500, 3000] canon_example exampleHeader_noHeaderPrefix (by decide) (by decide)).1
    (by unfold Sorted sched; decide)

theorem two_of_three_polls_example_empty :
    ∃ u h, soms (runOps {} (sched C02.exampleHeader [] C02.exampleHeader
        1000 1700 2400 3100 [1200, 1650] [1800, 2390] [2500, 3000])).2 = [(u, h)]
      ∧ h.text = C02.exampleHeader ∧ h.offsetTime = 19 :=
  (two_of_three_polls_each C02.exampleHeader [] 19 1000 1700 2400 3100 [1200, 1650]
    [1800, 2390] [2500, 3000] canon_example exampleHeader_noHeaderPrefix (by decide) (by decide)).2.1
    (by unfold Sorted sched; decide)

theorem two_of_three_polls_example_trailer :
    ∃ u h, soms (runOps {} (sched litNNNN C02.exampleHeader C02.exampleHeader
        1000 1700 2400 3100 [1200, 1650] [1800, 2390] [2500, 3000])).2 = [(u, h)]
      ∧ h.text = C02.exampleHeader ∧ h.offsetTime = 19 :=
  (two_of_three_polls_each C02.exampleHeader litNNNN 19 1000 1700 2400 3100 [1200, 1650]
    [1800, 2390] [2500, 3000] canon_example exampleHeader_noHeaderPrefix (by decide) (by decide)).1
    (by unfold Sorted sched; decide)

/-- the odd burst may also be the header itself followed by garbage (then the two-burst vote already
    yields `H`, which the poll at 2390 outputs; the third burst is suppressed as a duplicate) -/
theorem two_of_three_polls_example_extended :
    ∃ u h, soms (runOps {} (sched C02.exampleHeader (C02.exampleHeader ++ [0x35, 45, 0xff])
        C02.exampleHeader 1000 1700 2400 3100 [1200, 1650] [1800, 2390] [2500, 3000])).2 = [(u, h)]
      ∧ h.text = C02.exampleHeader ∧ h.offsetTime = 19 :=
  (two_of_three_polls_each C02.exampleHeader (C02.exampleHeader ++ [0x35, 45, 0xff]) 19 1000 1700 2400
    3100 [1200, 1650] [1800, 2390] [2500, 3000] canon_example exampleHeader_noHeaderPrefix (by decide)
    (by decide)).2.1 (by unfold Sorted sched; decide)

/-- what those runs output, by evaluation: the corrupted burst in the middle makes the two-burst
    vote an error, which the poll at 2390 outputs (not a StartOfMessage); the header follows once.
    A leading `NNNN` is output as EndOfMessage at its own tick. -/
theorem two_of_three_polls_example_eval :
    (runOps {} (sched C02.exampleHeader corruptedExample C02.exampleHeader
        1000 1700 2400 3100 [1200, 1650] [1800, 2390] [2500, 3000])).2
      = [(2390, .error .malformed), (3100, .ok (.som ⟨C02.exampleHeader, 19, 6, 38⟩))]
    ∧ (runOps {} (sched litNNNN C02.exampleHeader C02.exampleHeader
        1000 1700 2400 3100 [1200, 1650] [1800, 2390] [2500, 3000])).2
      = [(1000, .ok .eom), (3100, .ok (.som ⟨C02.exampleHeader, 19, 10, 4⟩))] := by
  decide +kernel

end SameVerif.C02poll
