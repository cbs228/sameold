import SameVerif.Lemmas.Bits
import SameVerif.Spec.Vote
import SameVerif.Lemmas.CombineTails
/-
  C03 — Bit voting: one bad burst cannot change the decoded header.
  The two vote functions bit by bit (Lemmas/Estimate.lean; `vote_detect_spec` is proved here), and
  `combine` on two header bursts and one arbitrary burst (Lemmas/CombineTails.lean).
-/
namespace SameVerif.C03
open SameVerif SameVerif.Spec

/-- every bit of the 2-of-3 vote is the majority of the three input bits — all 2^24 triples -/
theorem vote_correct_majority (b0 b1 b2 : Byte) (i : Nat) (hi : i < 8) :
    bitOf (voteCorrect b0 b1 b2).1 i = majorityBit b0 b1 b2 i :=
  voteCorrect_bit b0 b1 b2 i hi

/-- the error count of the 2-of-3 vote is the number of bit positions on which the three
    bytes are not unanimous -/
theorem vote_correct_errors (b0 b1 b2 : Byte) :
    (voteCorrect b0 b1 b2).2 = disputes3 b0 b1 b2 :=
  voteCorrect_errs b0 b1 b2

/-- the 2-of-2 "vote": the byte if both agree, zero otherwise; the count is the number of
    differing bit positions -/
theorem vote_detect_spec (b0 b1 : Byte) :
    voteDetect b0 b1 = (if b0 = b1 then b0 else 0, disputes2 b0 b1) := by
  apply Prod.ext
  · by_cases h : b0 = b1
    · subst h; simp [voteDetect_same]
    · simp [h, voteDetect_ne b0 b1 h]
  · show popcount8 (b0 ^^^ b1) = disputes2 b0 b1
    unfold popcount8 disputes2
    apply countP_range8_congr
    intro i _
    simp [bitOf_xor]

/-- **Two of three.**  For every header text `H` that is in the SAME character set, is its own
    canonical parse and fits a burst buffer, for every third burst `X` (any bytes, any length) and
    each of the three arrival orders, `combine` returns exactly `H`, with
    `voting = min |H| |X|` and `parity` = the number of disagreeing bit positions (plus one per
    byte of `X` with its eighth bit set) inside the reported text. -/
theorem combine_two_of_three (maxLen pos : Nat) (H X : List Byte) (off : Nat)
    (hall : ∀ b ∈ H, isAllowed b = true)
    (hcan : checkHeader H = some (off, H.length))
    (hfit : H.length ≤ maxLen) :
    combine maxLen (arrange pos H X)
      = some (.ok (.som ⟨H, off, specParity H X, specVoting H X⟩)) := by
  have := combine_two_tails_third maxLen pos H [] [] X off hall hcan hfit
    (fun e he h2 => by have := estimateLoop_tail_single pos _ _ e he; omega)
  rwa [List.append_nil, ← arrange_eq] at this

end SameVerif.C03
