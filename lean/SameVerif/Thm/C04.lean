import SameVerif.Lemmas.Evidence
import SameVerif.Lemmas.AsmEvidence
/-
  C04 — Every reported message is justified by the bursts received just before it.
  The lemmas are in Lemmas/Evidence.lean (the combiner) and Lemmas/AsmEvidence.lean (the assembler
  invariant); section 5 restates the step facts the invariant rests on in terms of `idle` and
  `assemble`.  The declarative vocabulary (`m7`, `column`, `SupportsByte`, `IsRun`) is in
  Spec/Evidence.lean.
-/
namespace SameVerif.C04
open SameVerif SameVerif.Spec

/-! ## 1. A StartOfMessage is backed, byte for byte, by two bursts or a majority of three -/

/-- **Every reported byte is supported.**  If `combine` yields a StartOfMessage then it looked at
    two or three bursts, and at every position of the reported text either exactly two of them
    reach that position and both hold the reported byte (eighth bit ignored), or all three do and
    the reported byte is their bit-by-bit majority. -/
theorem combine_supported (maxLen : Nat) (bursts : List (List Byte)) (h : Header)
    (hc : combine maxLen bursts = some (.ok (.som h))) :
    2 ≤ (bursts.take 3).length ∧
      ∀ (i : Nat) (hi : i < h.text.length), SupportsByte (bursts.take 3) i h.text[i] := by
  have hall : ∀ (i : Nat) (hi : i < h.text.length), SupportsByte (bursts.take 3) i h.text[i] := by
    intro i hi
    obtain ⟨e, he, hb, h2⟩ := combine_som_entries maxLen bursts h hc i hi
    rw [← hb]
    exact estimateLoop_supported maxLen _ i e he h2
  refine ⟨?_, hall⟩
  have h0 := hall 0 (combine_som_text_pos maxLen bursts h hc)
  have hle := column_length_le (bursts.take 3) 0
  have := supportsByte_length _ _ _ h0
  omega

theorem combine_supported_getD (maxLen : Nat) (bursts : List (List Byte)) (h : Header)
    (hc : combine maxLen bursts = some (.ok (.som h))) (i : Nat) (hi : i < h.text.length) :
    SupportsByte (bursts.take 3) i (h.text.getD i 0) := by
  have := (combine_supported maxLen bursts h hc).2 i hi
  simpa [List.getD, hi] using this

/-! ## 2. One burst is never enough -/

theorem combine_nil (maxLen : Nat) : combine maxLen [] = none := by
  cases maxLen <;> simp [combine, estimateMessage, estimateLoop, voteAt]

/-- **A header heard in a single burst is never decoded.** -/
theorem single_never (maxLen : Nat) (b : List Byte) (h : Header) :
    combine maxLen [b] ≠ some (.ok (.som h)) := by
  intro hc
  have := (combine_supported maxLen [b] h hc).1
  simp at this

/-- **Every reported position is covered twice.**  At least two of the first three bursts are at
    least as long as the reported text. -/
theorem combine_needs_two (maxLen : Nat) (bursts : List (List Byte)) (h : Header)
    (hc : combine maxLen bursts = some (.ok (.som h))) :
    2 ≤ ((bursts.take 3).filter (fun b => h.text.length ≤ b.length)).length := by
  have hpos := combine_som_text_pos maxLen bursts h hc
  have hs := (combine_supported maxLen bursts h hc).2 (h.text.length - 1) (by omega)
  have hlen := column_length (bursts.take 3) (h.text.length - 1)
  have hf : (bursts.take 3).filter (fun b => h.text.length - 1 < b.length)
      = (bursts.take 3).filter (fun b => h.text.length ≤ b.length) := by
    apply List.filter_congr
    intro b _
    simp only [decide_eq_decide]
    omega
  rw [hf] at hlen
  rw [← hlen]
  exact supportsByte_length _ _ _ hs

/-! ## 3. Two bursts must agree -/

/-- **With two bursts, a header is made only of bytes on which both agree.** -/
theorem pair_agrees (maxLen : Nat) (a b : List Byte) (h : Header)
    (hc : combine maxLen [a, b] = some (.ok (.som h))) (i : Nat) (hi : i < h.text.length) :
    ∃ (ha : i < a.length) (hb : i < b.length), m7 a[i] = h.text[i] ∧ m7 b[i] = h.text[i] := by
  have hs := (combine_supported maxLen [a, b] h hc).2 i hi
  obtain ⟨h1, h2⟩ := supportsByte_pair a b i _ hs
  have ha : i < a.length := by
    cases hx : a[i]? with
    | none => simp [hx] at h1
    | some x => exact (List.getElem?_eq_some_iff.mp hx).1
  have hb : i < b.length := by
    cases hx : b[i]? with
    | none => simp [hx] at h2
    | some x => exact (List.getElem?_eq_some_iff.mp hx).1
  refine ⟨ha, hb, ?_, ?_⟩
  · simpa [ha] using h1
  · simpa [hb] using h2

/-- the reported text stops before the first position on which the two bursts differ -/
theorem pair_agree_prefix (maxLen : Nat) (a b : List Byte) (h : Header)
    (hc : combine maxLen [a, b] = some (.ok (.som h))) (i : Nat)
    (hd : (a[i]?).map m7 ≠ (b[i]?).map m7) : h.text.length ≤ i := by
  apply Nat.le_of_not_lt
  intro hi
  obtain ⟨ha, hb, h1, h2⟩ := pair_agrees maxLen a b h hc i hi
  apply hd
  simp [ha, hb, h1, h2]

/-- **Two bursts that disagree on their first byte produce no StartOfMessage.** -/
theorem disagreeing_pair (maxLen : Nat) (a b : List Byte) (h : Header)
    (hd : (a[0]?).map m7 ≠ (b[0]?).map m7) :
    combine maxLen [a, b] ≠ some (.ok (.som h)) := by
  intro hc
  have := pair_agree_prefix maxLen a b h hc 0 hd
  have := combine_som_text_pos maxLen [a, b] h hc
  omega

/-! ## 4. An EndOfMessage is backed by a vote that reads `NN` -/

/-- **Every EndOfMessage rests on `NN`.**  The estimate over the first three bursts starts with
    two entries reading `N` (78), and each of them is the lone byte of a single burst, the common
    byte of two, or the bitwise majority of three. -/
theorem eom_supported (maxLen : Nat) (bursts : List (List Byte))
    (hc : combine maxLen bursts = some (.ok .eom)) :
    (∃ e0 e1 rest, estimateMessage maxLen bursts = e0 :: e1 :: rest ∧ e0.byte = 78 ∧ e1.byte = 78) ∧
      WeaklySupportsByte (bursts.take 3) 0 78 ∧ WeaklySupportsByte (bursts.take 3) 1 78 := by
  obtain ⟨rest, hr⟩ := combine_eom_parse maxLen bursts hc
  match hest : estimateMessage maxLen bursts, hr with
  | e0 :: e1 :: tl, hr =>
    simp only [List.map_cons, List.cons.injEq] at hr
    obtain ⟨h0, h1, _⟩ := hr
    refine ⟨⟨e0, e1, tl, rfl, h0, h1⟩, ?_, ?_⟩
    · have := estimateLoop_weakly_supported maxLen (bursts.take 3) 0 e0 (by
        have : estimateLoop maxLen (bursts.take 3) = e0 :: e1 :: tl := hest
        rw [this]; rfl)
      rwa [h0] at this
    · have := estimateLoop_weakly_supported maxLen (bursts.take 3) 1 e1 (by
        have : estimateLoop maxLen (bursts.take 3) = e0 :: e1 :: tl := hest
        rw [this]; rfl)
      rwa [h1] at this
  | [], hr => simp at hr
  | [_], hr => simp at hr

/-- a trailer decoded from a single burst: that burst begins with `NN` (eighth bits ignored) -/
theorem eom_single (maxLen : Nat) (b : List Byte) (hc : combine maxLen [b] = some (.ok .eom)) :
    (b[0]?).map m7 = some 78 ∧ (b[1]?).map m7 = some 78 := by
  obtain ⟨_, h0, h1⟩ := eom_supported maxLen [b] hc
  have key : ∀ i, WeaklySupportsByte [b] i 78 → (b[i]?).map m7 = some 78 := by
    intro i hw
    unfold WeaklySupportsByte SupportsByte column at hw
    cases hb : b[i]? <;> simp [hb] at hw ⊢
    exact hw
  exact ⟨key 0 h0, key 1 h1⟩

/-! ## 5. The assembler reports only such combinations -/

/-- the two entry points of the assembler, with the tick count of the call -/
inductive Call where
  | idle (now : Nat)
  | assemble (burst : List Byte) (now : Nat)

/-- states reachable from the initial one by calls with non-decreasing tick counts, together with
    the log of non-empty bursts received (clipped to the burst buffer, oldest first) and the tick
    count of the latest call -/
inductive Reach : List (List Byte) → Nat → AState → Prop where
  | init : Reach [] 0 {}
  | idle {log T s} (now : Nat) : Reach log T s → T ≤ now → Reach log now (aIdle s now).1
  | assemble {log T s} (burst : List Byte) (now : Nat) : Reach log T s → T ≤ now →
      burst.isEmpty = false → Reach (log ++ [burst.take MAXLEN]) now (aAssemble s burst now).1

/-- an empty burst is not a burst: `assemble` then is `idle`, and the log does not grow -/
theorem assemble_empty (s : AState) (now : Nat) : aAssemble s [] now = aIdle s now := by
  simp [aAssemble]

/-- a message comes out of `idle` only from a pending entry that is due -/
theorem message_from_pending (s : AState) (now : Nat) (r : MsgResult)
    (h : (aIdle s now).2 = .message r) :
    ∃ t, s.pending = some t ∧ t.data = r ∧ t.deadline ≤ now := by
  obtain ⟨t, h1, h2, h3, _⟩ := Asm.idle_out s now r h
  exact ⟨t, h1, h2, h3⟩

/-- the pending entry after a burst is the old one, or the fresh estimate -/
theorem pending_from_estimate (s : AState) (burst : List Byte) (now : Nat) :
    pendingAfter s burst now = s.pending ∨
      ∃ r, estimateOf s burst now = some r ∧ pendingAfter s burst now = some (acceptNew r now) :=
  Asm.pendingAfter_cases s burst now

/-- the fresh estimate is `combine` of the (at most three) bursts of the history -/
theorem estimate_from_history (s : AState) (burst : List Byte) (now : Nat) (r : MsgResult)
    (h : estimateOf s burst now = some r) :
    combine MAXLEN ((historyAfter s burst now).map (·.data)) = some r ∧
      (historyAfter s burst now).length ≤ 3 :=
  ⟨Asm.estimateOf_some s burst now r h, historyAfter_length_le s burst now⟩

theorem pruneHistory_length_le (h : List (Timed (List Byte))) (now : Nat) :
    (pruneHistory h now).length ≤ 2 := Asm.pruneHistory_length_le h now

theorem reach_inv (log : List (List Byte)) (T : Nat) (s : AState) (h : Reach log T s) :
    Inv log T s := by
  induction h with
  | init => exact inv_init
  | idle now _ hT ih => exact inv_idle _ _ now _ hT ih
  | assemble burst now _ hT hb ih => exact inv_assemble _ _ now _ burst hT hb ih

/-- **Whatever `idle` reports is `combine` of a run of at most three consecutive bursts.** -/
theorem idle_reports_combine (log : List (List Byte)) (T now : Nat) (s : AState) (res : MsgResult)
    (h : Reach log T s) (hm : (aIdle s now).2 = .message res) :
    ∃ r, IsRun r log ∧ combine MAXLEN r = some res :=
  idle_message_evidence log T now s res (reach_inv log T s h) hm

/-- **Whatever `assemble` reports is `combine` of such a run** (the new burst included). -/
theorem assemble_reports_combine (log : List (List Byte)) (T now : Nat) (s : AState)
    (burst : List Byte) (res : MsgResult) (h : Reach log T s) (hT : T ≤ now)
    (hb : burst.isEmpty = false) (hm : (aAssemble s burst now).2 = .message res) :
    ∃ r, IsRun r (log ++ [burst.take MAXLEN]) ∧ combine MAXLEN r = some res :=
  assemble_message_evidence log T now s burst res hT hb (reach_inv log T s h) hm

theorem run_supports (r : List (List Byte)) (h : Header) (hlen : r.length ≤ 3)
    (hc : combine MAXLEN r = some (.ok (.som h))) :
    2 ≤ r.length ∧ ∀ (i : Nat) (hi : i < h.text.length), SupportsByte r i h.text[i] := by
  have := combine_supported MAXLEN r h hc
  rwa [List.take_of_length_le hlen] at this

/-- **Every StartOfMessage is justified (idle).**  In any reachable state, a StartOfMessage
    reported by `idle` comes with a run of two or three consecutive received bursts that supports
    every byte of the reported header. -/
theorem som_has_evidence_idle (log : List (List Byte)) (T now : Nat) (s : AState) (h : Header)
    (hr : Reach log T s) (hm : (aIdle s now).2 = .message (.ok (.som h))) :
    ∃ r, IsRun r log ∧ 2 ≤ r.length ∧ combine MAXLEN r = some (.ok (.som h)) ∧
      ∀ (i : Nat) (hi : i < h.text.length), SupportsByte r i h.text[i] := by
  obtain ⟨r, hrun, hc⟩ := idle_reports_combine log T now s _ hr hm
  obtain ⟨h2, hs⟩ := run_supports r h hrun.2 hc
  exact ⟨r, hrun, h2, hc, hs⟩

/-- **Every StartOfMessage is justified (assemble).** -/
theorem som_has_evidence (log : List (List Byte)) (T now : Nat) (s : AState)
    (burst : List Byte) (h : Header) (hr : Reach log T s) (hT : T ≤ now)
    (hb : burst.isEmpty = false) (hm : (aAssemble s burst now).2 = .message (.ok (.som h))) :
    ∃ r, IsRun r (log ++ [burst.take MAXLEN]) ∧ 2 ≤ r.length ∧
      combine MAXLEN r = some (.ok (.som h)) ∧
      ∀ (i : Nat) (hi : i < h.text.length), SupportsByte r i h.text[i] := by
  obtain ⟨r, hrun, hc⟩ := assemble_reports_combine log T now s burst _ hr hT hb hm
  obtain ⟨h2, hs⟩ := run_supports r h hrun.2 hc
  exact ⟨r, hrun, h2, hc, hs⟩

/-- **Every EndOfMessage is justified.**  An EndOfMessage reported by `assemble` comes with a run
    of at most three consecutive received bursts whose vote reads `NN`. -/
theorem eom_has_evidence (log : List (List Byte)) (T now : Nat) (s : AState)
    (burst : List Byte) (hr : Reach log T s) (hT : T ≤ now)
    (hb : burst.isEmpty = false) (hm : (aAssemble s burst now).2 = .message (.ok .eom)) :
    ∃ r, IsRun r (log ++ [burst.take MAXLEN]) ∧ combine MAXLEN r = some (.ok .eom) ∧
      WeaklySupportsByte r 0 78 ∧ WeaklySupportsByte r 1 78 := by
  obtain ⟨r, hrun, hc⟩ := assemble_reports_combine log T now s burst _ hr hT hb hm
  have := (eom_supported MAXLEN r hc).2
  rw [List.take_of_length_le hrun.2] at this
  exact ⟨r, hrun, hc, this⟩

theorem eom_has_evidence_idle (log : List (List Byte)) (T now : Nat) (s : AState)
    (hr : Reach log T s) (hm : (aIdle s now).2 = .message (.ok .eom)) :
    ∃ r, IsRun r log ∧ combine MAXLEN r = some (.ok .eom) ∧
      WeaklySupportsByte r 0 78 ∧ WeaklySupportsByte r 1 78 := by
  obtain ⟨r, hrun, hc⟩ := idle_reports_combine log T now s _ hr hm
  have := (eom_supported MAXLEN r hc).2
  rw [List.take_of_length_le hrun.2] at this
  exact ⟨r, hrun, hc, this⟩

/-- after either call the history holds at most two bursts, so the next estimate sees at most three -/
theorem history_length_le_two (s : AState) (burst : List Byte) (now : Nat) :
    (aIdle s now).1.history.length ≤ 2 ∧ (aAssemble s burst now).1.history.length ≤ 2 := by
  refine ⟨by rw [Asm.idle_history]; exact Asm.pruneHistory_length_le _ _, ?_⟩
  unfold aAssemble
  split <;> (rw [Asm.idle_history]; exact Asm.pruneHistory_length_le _ _)

/-- in every reachable state the history is the last (at most two) bursts of the log -/
theorem reach_history (log : List (List Byte)) (T : Nat) (s : AState) (h : Reach log T s) :
    s.history.map (·.data) <:+ log ∧ s.history.length ≤ 2 := by
  refine ⟨(reach_inv log T s h).hist_suffix, ?_⟩
  induction h with
  | init => simp
  | idle now _ _ _ => exact (history_length_le_two _ [] now).1
  | assemble burst now _ _ _ _ => exact (history_length_le_two _ burst now).2

/-! ## 6. Non-vacuity -/
section NonVacuity

local instance decEqExcept {ε α} [DecidableEq ε] [DecidableEq α] : DecidableEq (Except ε α)
  | .ok a, .ok b => if h : a = b then isTrue (by rw [h]) else isFalse (by intro e; cases e; exact h rfl)
  | .error a, .error b => if h : a = b then isTrue (by rw [h]) else isFalse (by intro e; cases e; exact h rfl)
  | .ok _, .error _ => isFalse (by intro e; cases e)
  | .error _, .ok _ => isFalse (by intro e; cases e)

/-- `ZCZC-WXR-RWT-012345+0030-1231200-KLOX-` -/
private def hdr : List Byte :=
  [90, 67, 90, 67, 45, 87, 88, 82, 45, 82, 87, 84, 45, 48, 49, 50, 51, 52, 53, 43, 48, 48, 51, 48,
   45, 49, 50, 51, 49, 50, 48, 48, 45, 75, 76, 79, 88, 45]
/-- the same with the event code `RWC`, `RWE`, `RWF`, `RWG` -/
private def hdrC : List Byte := hdr.set 11 67
private def hdrE : List Byte := hdr.set 11 69
private def hdrF : List Byte := hdr.set 11 70
private def hdrG : List Byte := hdr.set 11 71

/-- two equal bursts give the header, and both hold `T` at position 11 -/
example : combine MAXLEN [hdr, hdr] = some (.ok (.som ⟨hdr, 19, 0, 0⟩)) := by decide +kernel
example : SupportsByte [hdr, hdr] 11 84 := Or.inl ⟨84, 84, by decide +kernel, rfl, rfl⟩

/-- three bursts reading `RWC`, `RWE`, `RWF` are reported as `RWG`: the byte `G` is in none of the
    three bursts, it is only their bit-by-bit majority — which is all `SupportsByte` promises -/
example : combine MAXLEN [hdrC, hdrE, hdrF] = some (.ok (.som ⟨hdrG, 19, 3, 38⟩)) := by decide +kernel
example : SupportsByte [hdrC, hdrE, hdrF] 11 71 := Or.inr ⟨67, 69, 70, by decide +kernel, by decide⟩

/-- two bursts that differ in one byte give no header; one burst gives nothing at all -/
example : combine MAXLEN [hdrC, hdrE] = some (.error .malformed) := by decide +kernel
example : combine MAXLEN [hdr] = none := by decide +kernel

/-- a lone `NNNN` burst is an EndOfMessage -/
example : combine MAXLEN [[78, 78, 78, 78]] = some (.ok .eom) := by decide +kernel
example : WeaklySupportsByte [[78, 78, 78, 78]] 1 78 := Or.inl (by decide +kernel)

/-- the assembler: two header bursts one second apart, then the hold time runs out -/
private def reported : Transport → Option MsgResult
  | .message r => some r
  | _ => none
private def s2 : AState := (aAssemble (aAssemble {} hdr 0).1 hdr 521).1

example : Reach [hdr, hdr] 521 s2 :=
  Reach.assemble hdr 521 (Reach.assemble hdr 0 Reach.init (Nat.le_refl _) rfl) (by decide) rfl
example : reported (aIdle s2 (521 + HOLD)).2 = some (.ok (.som ⟨hdr, 19, 0, 0⟩)) := by decide +kernel

end NonVacuity

end SameVerif.C04
