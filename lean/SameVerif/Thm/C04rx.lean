import SameVerif.Lemmas.RxProv
import SameVerif.Thm.C05
/-
  C04 at receiver level — provenance of every EndOfMessage event: it is reported for a decoded
  trailer (the assembler returned it for a burst) or it is the forced one, strictly later than
  135 s after a StartOfMessage EVENT that no EndOfMessage has closed.  In particular the forced
  timer is armed by StartOfMessage outputs only (a decode error never arms it).
-/
namespace SameVerif.RxProv
open SameVerif SameVerif.C08 SameVerif.C09 SameVerif.C14

/-- For ANY state: a tick emits an EndOfMessage event exactly when the reported transport
    state is not already EndOfMessage and the tick is (decoded) a burst for which the assembler
    answers EndOfMessage, (polled) a NoCarrier tick, timer not firing, on which the poll answers
    EndOfMessage, or (forced) a NoCarrier tick with the timer armed at some `T < sample`. -/
theorem eom_event_tick (rate : Nat) (s : RState) (sample sym : Nat) (ls : LinkSt) (smp : Nat) :
    Event.transport smp (.message (.ok .eom)) ∈ (rTick rate s sample sym ls).2
      ↔ smp = sample ∧ s.transportState ≠ .message (.ok .eom) ∧
        ((∃ b, ls = .burst b ∧ (aAssemble s.asm b sym).2 = .message (.ok .eom))
         ∨ (ls = .noCarrier ∧ ¬ Forced s sample ls ∧ (aIdle s.asm sym).2 = .message (.ok .eom))
         ∨ (ls = .noCarrier ∧ ∃ T, s.forceEomAt = some T ∧ T < sample)) := by
  rw [mem_tick_transport, tl_out_eq]
  constructor
  · rintro ⟨h1, h2, h3⟩
    refine ⟨h1, fun h => h3 h.symm, ?_⟩
    rcases tlCore_cases s sample sym ls with ⟨hc, _⟩ | ⟨hf, _⟩ | ⟨hnf, ⟨hl, hc⟩ | ⟨b, hl, hc⟩⟩
    · rw [hc] at h2; cases h2
    · right; right; exact ⟨hf.1, hf.2⟩
    · right; left
      rw [hc] at h2
      simp only [Option.some.injEq] at h2
      exact ⟨hl, hnf, h2⟩
    · left
      rw [hc] at h2
      simp only [Option.some.injEq] at h2
      exact ⟨b, hl, h2⟩
  · rintro ⟨h1, h2, h3⟩
    refine ⟨h1, ?_, fun h => h2 h.symm⟩
    rcases h3 with ⟨b, rfl, hb⟩ | ⟨rfl, hnf, hp⟩ | ⟨rfl, T, hT, hlt⟩
    · simp only [tlCore]; rw [hb]
    · rw [tlCore_poll s sample sym hnf, hp]
    · rw [tlCore_forced s sample sym T hT hlt]

/-- Under `NoEomPending` (part of `RInv`; holds along every run from `{}`) the polled case
    cannot occur: an EndOfMessage event is decoded from a burst, or forced by the timer. -/
theorem eom_event_tick_inv (rate : Nat) (s : RState) (sample sym : Nat) (ls : LinkSt) (smp : Nat)
    (hne : NoEomPending s.asm)
    (hev : Event.transport smp (.message (.ok .eom)) ∈ (rTick rate s sample sym ls).2) :
    smp = sample ∧ s.transportState ≠ .message (.ok .eom) ∧
      ((∃ b, ls = .burst b ∧ (aAssemble s.asm b sym).2 = .message (.ok .eom))
       ∨ (ls = .noCarrier ∧ ∃ T, s.forceEomAt = some T ∧ T < sample)) := by
  obtain ⟨h1, h2, h3⟩ := (eom_event_tick rate s sample sym ls smp).1 hev
  refine ⟨h1, h2, ?_⟩
  rcases h3 with h | ⟨_, _, hp⟩ | h
  · exact Or.inl h
  · exact absurd hp (C05.poll_never_eom s.asm sym hne)
  · exact Or.inr h

/-- "Decoded" spelled out.  Under `NoEomPending`, an assembler call on a burst answers
    EndOfMessage only if the burst is non-empty and the (de-duplicated) combiner estimate over the
    history including this burst is EndOfMessage: the trailer was decoded by this very call. -/
theorem decoded_is_estimate (a : AState) (b : List Byte) (now : Nat) (hne : NoEomPending a)
    (hout : (aAssemble a b now).2 = .message (.ok .eom)) :
    b.isEmpty = false ∧ estimateOf a b now = some (.ok .eom) := by
  have hstep : aAssemble a b now = aIdle (Asm.preIdle a (.burst b now)) now :=
    Asm.stepOp_eq a (.burst b now)
  rw [hstep] at hout
  obtain ⟨t, hp, _, hdat, _⟩ := Asm.idle_out_ok _ _ _ hout
  obtain ⟨b', now', hop, hb, hest, _⟩ := C08.preIdle_eom_pending a _ hne t hp hdat
  cases hop
  exact ⟨hb, hest⟩

/-! ### The timer is armed only by a StartOfMessage output -/

/-- Any start state.  A timer reading `some T` after a run was armed at the start and left alone
    by every output, or was armed by a StartOfMessage output at sample `T − 135·rate` and left
    alone by every later output. -/
theorem timer_provenance_gen (rate : Nat) (ticks : List RTick) : ∀ (s : RState) (T : Nat),
    (rRun rate s ticks).1.forceEomAt = some T →
    (s.forceEomAt = some T ∧ ∀ o ∈ outs rate s ticks, TimerQuiet o.2)
    ∨ ∃ pre smp0 sym0 ls0 post h,
        ticks = pre ++ (smp0, sym0, ls0) :: post
        ∧ T = smp0 + Gen.MAX_MESSAGE_DURATION_SECS * rate
        ∧ (transportLayer rate (rRun rate s pre).1 smp0 sym0 ls0).2 = some (.message (.ok (.som h)))
        ∧ ∀ o ∈ outs rate (rTick rate (rRun rate s pre).1 smp0 sym0 ls0).1 post, TimerQuiet o.2 := by
  induction ticks with
  | nil => intro s T h; left; exact ⟨h, fun o ho => by cases ho⟩
  | cons x xs ih =>
    obtain ⟨smp, sy, ls⟩ := x
    intro s T hT
    rw [rRun_cons] at hT
    rcases ih _ T hT with ⟨h1, h2⟩ | ⟨pre, smp0, sym0, ls0, post, h, rfl, hTeq, hout, hq⟩
    · rw [tick_force] at h1
      rcases forceAfter_cases rate smp s.forceEomAt (transportLayer rate s smp sy ls).2
        with ⟨h, ho, hf⟩ | ⟨ho, hf⟩ | ⟨hq, hf⟩
      · right
        rw [hf] at h1
        cases h1
        exact ⟨[], smp, sy, ls, xs, h, rfl, rfl, ho, h2⟩
      · rw [hf] at h1; cases h1
      · left
        rw [hf] at h1
        refine ⟨h1, ?_⟩
        intro o ho
        rw [outs_cons] at ho
        rcases List.mem_cons.1 ho with rfl | ho
        · exact hq
        · exact h2 o ho
    · right
      exact ⟨(smp, sy, ls) :: pre, smp0, sym0, ls0, post, h, rfl, hTeq, hout, hq⟩

/-- From a state with the timer off (e.g. `{}`): an armed timer was armed by a StartOfMessage
    output of the run, 135 s before its deadline, with no EndOfMessage (nor another
    StartOfMessage) output since. -/
theorem timer_provenance (rate : Nat) (s : RState) (ticks : List RTick) (T : Nat)
    (h0 : s.forceEomAt = none) (hT : (rRun rate s ticks).1.forceEomAt = some T) :
    ∃ pre smp0 sym0 ls0 post h,
      ticks = pre ++ (smp0, sym0, ls0) :: post
      ∧ T = smp0 + Gen.MAX_MESSAGE_DURATION_SECS * rate
      ∧ (transportLayer rate (rRun rate s pre).1 smp0 sym0 ls0).2 = some (.message (.ok (.som h)))
      ∧ outs rate s ticks
          = outs rate s pre ++ (smp0, some (.message (.ok (.som h))))
              :: outs rate (rTick rate (rRun rate s pre).1 smp0 sym0 ls0).1 post
      ∧ ∀ o ∈ outs rate (rTick rate (rRun rate s pre).1 smp0 sym0 ls0).1 post, TimerQuiet o.2 := by
  rcases timer_provenance_gen rate ticks s T hT with ⟨h1, _⟩ | ⟨pre, smp0, sym0, ls0, post, h, rfl, h2, h3, h4⟩
  · rw [h0] at h1; cases h1
  · refine ⟨pre, smp0, sym0, ls0, post, h, rfl, h2, h3, ?_, h4⟩
    rw [outs_append, outs_cons, h3]

/-- Converse.  A StartOfMessage output at sample `smp0`, followed only by outputs that are
    neither StartOfMessage nor EndOfMessage, leaves the timer at `smp0 + 135·rate`. -/
theorem timer_armed_run (rate : Nat) (s : RState) (pre post : List RTick) (smp0 sym0 : Nat) (ls0 : LinkSt)
    (h : Header)
    (hout : (transportLayer rate (rRun rate s pre).1 smp0 sym0 ls0).2 = some (.message (.ok (.som h))))
    (hq : ∀ o ∈ outs rate (rTick rate (rRun rate s pre).1 smp0 sym0 ls0).1 post, TimerQuiet o.2) :
    (rRun rate s (pre ++ (smp0, sym0, ls0) :: post)).1.forceEomAt
      = some (smp0 + Gen.MAX_MESSAGE_DURATION_SECS * rate) := by
  rw [rRun_append, rRun_cons]
  simp only
  rw [quiet_run_timer rate post _ hq, tick_force, hout]
  rfl

/-! ### Every EndOfMessage event is a decoded trailer or closes an open StartOfMessage event -/

theorem quiet_run_not_closes (rate : Nat) (s : RState) (ticks : List RTick)
    (hq : ∀ o ∈ outs rate s ticks, TimerQuiet o.2) : ∀ e ∈ (rRun rate s ticks).2, ¬ Closes e := by
  intro e he hc
  obtain ⟨sm, rfl | ⟨hh, rfl⟩⟩ := hc
  · exact (hq _ (event_mem_outs rate ticks s sm _ he)).1 rfl
  · exact (hq _ (event_mem_outs rate ticks s sm _ he)).2 hh rfl

/-- Any start state satisfying the invariant.  The EndOfMessage event at a given position
    of the event list was emitted by a definite tick `(smp, sym, ls)`; it is the last event of
    that tick, preceded by the tick's link event.  That tick is a burst decoded as a trailer, or a
    NoCarrier tick forced by the timer — armed by a StartOfMessage EVENT more than 135 s earlier
    that no later StartOfMessage / EndOfMessage event has closed, or armed in the start state
    with no such event since the start. -/
theorem eom_event_provenance_gen (rate : Nat) (s : RState) (hinv : RInv s) (ticks : List RTick)
    (pre post : List Event) (smp : Nat)
    (hev : (rRun rate s ticks).2 = pre ++ Event.transport smp (.message (.ok .eom)) :: post) :
    ∃ tpre sym ls tpost,
      ticks = tpre ++ (smp, sym, ls) :: tpost
      ∧ pre = (rRun rate s tpre).2 ++ linkEv (rRun rate s tpre).1 smp ls
      ∧ post = (rRun rate (rTick rate (rRun rate s tpre).1 smp sym ls).1 tpost).2
      ∧ ((∃ b, ls = .burst b ∧ (aAssemble (rRun rate s tpre).1.asm b sym).2 = .message (.ok .eom))
         ∨ (ls = .noCarrier ∧ ∃ pre1 smp0 h pre2,
              pre = pre1 ++ Event.transport smp0 (.message (.ok (.som h))) :: pre2
              ∧ (∀ e ∈ pre2, ¬ Closes e)
              ∧ smp0 + Gen.MAX_MESSAGE_DURATION_SECS * rate < smp
              ∧ (rRun rate s tpre).1.forceEomAt = some (smp0 + Gen.MAX_MESSAGE_DURATION_SECS * rate))
         ∨ (ls = .noCarrier ∧ ∃ T, s.forceEomAt = some T ∧ T < smp
              ∧ (rRun rate s tpre).1.forceEomAt = some T ∧ ∀ e ∈ pre, ¬ Closes e)) := by
  obtain ⟨tpre, sample, sym, ls, tpost, epre, epost, rfl, h2, h3, h4⟩ :=
    run_event_split rate ticks s pre _ post hev
  have hinv1 : RInv (rRun rate s tpre).1 := rInv_run rate s tpre hinv
  have hmem : Event.transport smp (.message (.ok .eom))
      ∈ (rTick rate (rRun rate s tpre).1 sample sym ls).2 := by rw [h2]; simp
  obtain ⟨rfl, _, hkind⟩ := eom_event_tick_inv rate _ sample sym ls smp hinv1.2.2 hmem
  rw [rTick_events] at h2
  obtain ⟨rfl, rfl⟩ := tick_transport_split _ _ _ _ _ _ _ _ h2
  rw [List.nil_append] at h4
  refine ⟨tpre, sym, ls, tpost, rfl, h3, h4, ?_⟩
  rcases hkind with hdec | ⟨hls, T, hT, hlt⟩
  · exact Or.inl hdec
  · right
    rcases timer_provenance_gen rate tpre s T hT with ⟨h1, hq⟩ | ⟨p1, smp0, sym0, ls0, p2, h, rfl, hTeq, hout, hq⟩
    · right
      refine ⟨hls, T, h1, hlt, hT, ?_⟩
      intro e he
      rw [h3] at he
      rcases List.mem_append.1 he with he | he
      · exact quiet_run_not_closes rate s tpre hq e he
      · exact not_closes_linkEv _ _ _ e he
    · left
      subst hTeq
      have hinv2 : RInv (rRun rate s p1).1 := rInv_run rate s p1 hinv
      have hsom := som_out_event rate _ smp0 sym0 ls0 h hinv2.2.1 hout
      refine ⟨hls, (rRun rate s p1).2 ++ linkEv (rRun rate s p1).1 smp0 ls0, smp0, h,
        (rRun rate (rTick rate (rRun rate s p1).1 smp0 sym0 ls0).1 p2).2
          ++ linkEv (rRun rate s (p1 ++ (smp0, sym0, ls0) :: p2)).1 smp ls, ?_, ?_, hlt, hT⟩
      · rw [h3, rRun_append, rRun_cons]
        simp only
        rw [hsom]
        simp only [List.append_assoc, List.cons_append, List.nil_append]
      · intro e he
        rcases List.mem_append.1 he with he | he
        · exact quiet_run_not_closes rate _ p2 hq e he
        · exact not_closes_linkEv _ _ _ e he

/-- Every run from the initial state.  An EndOfMessage event is the last event of a definite
    tick of the run: a burst for which the assembler answered EndOfMessage (decoded trailer), or
    a NoCarrier tick more than 135 s after a StartOfMessage event that no EndOfMessage or newer
    StartOfMessage event has closed (forced). -/
theorem eom_event_provenance (rate : Nat) (ticks : List RTick) (pre post : List Event) (smp : Nat)
    (hev : (rRun rate {} ticks).2 = pre ++ Event.transport smp (.message (.ok .eom)) :: post) :
    ∃ tpre sym ls tpost,
      ticks = tpre ++ (smp, sym, ls) :: tpost
      ∧ pre = (rRun rate {} tpre).2 ++ linkEv (rRun rate {} tpre).1 smp ls
      ∧ post = (rRun rate (rTick rate (rRun rate {} tpre).1 smp sym ls).1 tpost).2
      ∧ ((∃ b, ls = .burst b ∧ (aAssemble (rRun rate {} tpre).1.asm b sym).2 = .message (.ok .eom))
         ∨ (ls = .noCarrier ∧ ∃ pre1 smp0 h pre2,
              pre = pre1 ++ Event.transport smp0 (.message (.ok (.som h))) :: pre2
              ∧ (∀ e ∈ pre2, ∀ smp', e ≠ Event.transport smp' (.message (.ok .eom)))
              ∧ (∀ e ∈ pre2, ∀ smp' h', e ≠ Event.transport smp' (.message (.ok (.som h'))))
              ∧ smp0 + Gen.MAX_MESSAGE_DURATION_SECS * rate < smp
              ∧ (rRun rate {} tpre).1.forceEomAt = some (smp0 + Gen.MAX_MESSAGE_DURATION_SECS * rate))) := by
  obtain ⟨tpre, sym, ls, tpost, h1, h2, h3, h4⟩ :=
    eom_event_provenance_gen rate {} rInv_init ticks pre post smp hev
  refine ⟨tpre, sym, ls, tpost, h1, h2, h3, ?_⟩
  rcases h4 with h | ⟨hls, pre1, smp0, h, pre2, hp, hc, hlt, hf⟩ | ⟨_, T, hT, _⟩
  · exact Or.inl h
  · right
    refine ⟨hls, pre1, smp0, h, pre2, hp, ?_, ?_, hlt, hf⟩
    · intro e he smp' heq; exact hc e he ⟨smp', Or.inl heq⟩
    · intro e he smp' h' heq; exact hc e he ⟨smp', Or.inr ⟨h', heq⟩⟩
  · cases hT

/-- The same without the tick bookkeeping. -/
theorem eom_event_decoded_or_forced (rate : Nat) (ticks : List RTick) (pre post : List Event) (smp : Nat)
    (hev : (rRun rate {} ticks).2 = pre ++ Event.transport smp (.message (.ok .eom)) :: post) :
    (∃ tpre sym b tpost, ticks = tpre ++ (smp, sym, .burst b) :: tpost
        ∧ (aAssemble (rRun rate {} tpre).1.asm b sym).2 = .message (.ok .eom))
    ∨ (∃ pre1 smp0 h pre2,
        pre = pre1 ++ Event.transport smp0 (.message (.ok (.som h))) :: pre2
        ∧ (∀ e ∈ pre2, ∀ smp', e ≠ Event.transport smp' (.message (.ok .eom)))
        ∧ smp0 + Gen.MAX_MESSAGE_DURATION_SECS * rate < smp) := by
  obtain ⟨tpre, sym, ls, tpost, h1, _, _, h4⟩ := eom_event_provenance rate ticks pre post smp hev
  rcases h4 with ⟨b, rfl, hb⟩ | ⟨_, pre1, smp0, h, pre2, hp, hc, _, hlt, _⟩
  · exact Or.inl ⟨tpre, sym, b, tpost, h1, hb⟩
  · exact Or.inr ⟨pre1, smp0, h, pre2, hp, hc, hlt⟩

/-! ### No StartOfMessage, no forced EndOfMessage -/

/-- Event form.  If the run reports no StartOfMessage event, every EndOfMessage event is a
    decoded trailer: a forced one needs a StartOfMessage event before it. -/
theorem no_som_event_no_forced (rate : Nat) (ticks : List RTick)
    (hno : ∀ e ∈ (rRun rate {} ticks).2, ∀ smp0 h, e ≠ Event.transport smp0 (.message (.ok (.som h))))
    (pre post : List Event) (smp : Nat)
    (hev : (rRun rate {} ticks).2 = pre ++ Event.transport smp (.message (.ok .eom)) :: post) :
    ∃ tpre sym b tpost, ticks = tpre ++ (smp, sym, .burst b) :: tpost
      ∧ (aAssemble (rRun rate {} tpre).1.asm b sym).2 = .message (.ok .eom) := by
  rcases eom_event_decoded_or_forced rate ticks pre post smp hev with h | ⟨pre1, smp0, h, pre2, hp, _, _⟩
  · exact h
  · exfalso
    exact hno _ (by rw [hev, hp]; simp) smp0 h rfl

/-- Output form.  A run (from `{}`) in which no tick's `transportLayer` output is a StartOfMessage never
    emits a forced EndOfMessage: every EndOfMessage event is a decoded trailer (events are outputs). -/
theorem no_som_output_no_forced (rate : Nat) (ticks : List RTick)
    (hno : ∀ o ∈ outs rate {} ticks, ∀ h, o.2 ≠ some (.message (.ok (.som h))))
    (pre post : List Event) (smp : Nat)
    (hev : (rRun rate {} ticks).2 = pre ++ Event.transport smp (.message (.ok .eom)) :: post) :
    ∃ tpre sym b tpost, ticks = tpre ++ (smp, sym, .burst b) :: tpost
      ∧ (aAssemble (rRun rate {} tpre).1.asm b sym).2 = .message (.ok .eom) :=
  no_som_event_no_forced rate ticks
    (fun _ he smp0 h heq => hno _ (event_mem_outs rate ticks {} smp0 _ (heq ▸ he)) h rfl) pre post smp hev

theorem no_som_output_timer_off (rate : Nat) (ticks : List RTick)
    (hno : ∀ o ∈ outs rate {} ticks, ∀ h, o.2 ≠ some (.message (.ok (.som h)))) :
    (rRun rate {} ticks).1.forceEomAt = none := by
  cases hT : (rRun rate {} ticks).1.forceEomAt with
  | none => rfl
  | some T =>
    obtain ⟨pre, smp0, sym0, ls0, post, h, _, _, _, houts, _⟩ := timer_provenance rate {} ticks T rfl hT
    exact absurd rfl (hno (smp0, some (.message (.ok (.som h)))) (by rw [houts]; simp) h)

/-! ### Non-vacuity -/

/-- decoded case: one burst `NNNN` from the initial state is reported as EndOfMessage at once -/
example : (rRun 8000 {} [(100, 50, .burst litNNNN)]).2
    = [Event.link 100 (.burst litNNNN), Event.transport 100 (.message (.ok .eom))] := by
  rfl

example : (aAssemble ({} : RState).asm litNNNN 50).2 = .message (.ok .eom) := by rfl

-- the two `decide +kernel` examples below compare event lists
deriving instance DecidableEq for Transport, Event

/-- `ZCZC-WXR-RWT-012345+0030-1231200-KLOX-` -/
def hdrBytes : List Byte :=
  [90, 67, 90, 67, 45, 87, 88, 82, 45, 82, 87, 84, 45, 48, 49, 50, 51, 52, 53, 43, 48, 48, 51, 48, 45,
   49, 50, 51, 49, 50, 48, 48, 45, 75, 76, 79, 88, 45]

/-- forced case, from the initial state (rate 1 sample/s): two header bursts, the StartOfMessage is
    released at sample 30 (timer: 165), the NoCarrier tick at sample 166 is the forced EndOfMessage -/
example : (rRun 1 {} [(10, 1000, .burst hdrBytes), (20, 2900, .burst hdrBytes),
      (30, 3600, .noCarrier), (166, 3601, .noCarrier)]).2
    = [Event.link 10 (.burst hdrBytes), Event.transport 10 .assembling,
       Event.link 30 .noCarrier, Event.transport 30 (.message (.ok (.som ⟨hdrBytes, 19, 0, 0⟩))),
       Event.transport 166 (.message (.ok .eom))] := by
  decide +kernel

/-- … and one sample earlier nothing is forced (the bound `smp0 + 135·rate < smp` is strict) -/
example : (rRun 1 {} [(10, 1000, .burst hdrBytes), (20, 2900, .burst hdrBytes),
      (30, 3600, .noCarrier), (165, 3601, .noCarrier)]).2
    = [Event.link 10 (.burst hdrBytes), Event.transport 10 .assembling,
       Event.link 30 .noCarrier, Event.transport 30 (.message (.ok (.som ⟨hdrBytes, 19, 0, 0⟩))),
       Event.transport 165 .assembling] := by
  decide +kernel

/-- `NoEomPending` is needed in `eom_event_tick_inv`: with an EndOfMessage sitting in the slot (unreachable), a
    plain poll reports it -/
example : (rTick 1 { asm := { pending := some ⟨.ok .eom, 0⟩ } } 7 0 .noCarrier).2
    = [Event.transport 7 (.message (.ok .eom))] := by
  rfl

end SameVerif.RxProv
