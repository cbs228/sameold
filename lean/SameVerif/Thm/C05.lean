import SameVerif.Lemmas.AssemblerInv
import SameVerif.Thm.C08
/-
  C05 — Duplicate suppression: an identical message is reported once per window.
  Property theorems about the assembler model (ticks = symbol-synchronizer outputs);
  helper lemmas live in Lemmas/AssemblerSteps.lean and Lemmas/AssemblerInv.lean.
-/
namespace SameVerif.C05
open SameVerif SameVerif.C08 SameVerif.Asm

/-- every history entry is due no later than `T + HIST` -/
def HistBound (s : AState) (T : Nat) : Prop := ∀ e ∈ s.history, e.deadline ≤ T + HIST

theorem histBound_init (T : Nat) : HistBound {} T := by
  intro e he; simp at he

/-- **History bounded.**  After any operation the history holds at most two bursts, none of them
    expired, and (if this was so at an earlier time `T`) none due later than `now + HIST`. -/
theorem history_bounded (s : AState) (op : AOp) :
    (stepOp s op).1.history.length ≤ 2
      ∧ (∀ e ∈ (stepOp s op).1.history, op.time < e.deadline)
      ∧ (∀ T, T ≤ op.time → HistBound s T → HistBound (stepOp s op).1 op.time) := by
  simp only [stepOp_eq, idle_history]
  refine ⟨pruneHistory_length_le _ _, fun e he => (mem_pruneHistory _ _ _ he).2, ?_⟩
  intro T hT hs e he
  rw [idle_history] at he
  have he' := (mem_pruneHistory _ _ _ he).1
  have hold : e ∈ s.history → e.deadline ≤ op.time + HIST := fun h => by
    have := hs e h; omega
  cases op with
  | poll t => exact hold he'
  | burst b now =>
    by_cases hb : b.isEmpty = true
    · rw [preIdle_burst_empty _ _ _ hb] at he'; exact hold he'
    · rw [preIdle_burst _ _ _ (by simpa using hb)] at he'
      simp only [historyAfter, List.mem_append, List.mem_singleton] at he'
      rcases he' with h | h
      · exact hold (mem_pruneHistory _ _ _ h).1
      · subst h; simp [AOp.time]

/-- over a whole run: the final history holds at most two bursts -/
theorem history_bounded_run (ops : List AOp) :
    ∀ s : AState, s.history.length ≤ 2 → (runOps s ops).1.history.length ≤ 2 := by
  induction ops with
  | nil => intro s h; exact h
  | cons op ops ih =>
    intro s _
    exact ih _ (history_bounded s op).1

/-- the time of the last operation (`T` if there is none) -/
def endTime (T : Nat) : List AOp → Nat
  | [] => T
  | op :: ops => endTime op.time ops

/-- over a whole run with non-decreasing times: at the end every stored burst is due within
    `HIST` ticks of the last operation -/
theorem history_window_run (ops : List AOp) :
    ∀ (s : AState) (T : Nat), Sorted ops → (∀ op ∈ ops, T ≤ op.time) → HistBound s T →
      HistBound (runOps s ops).1 (endTime T ops) := by
  induction ops with
  | nil => intro s T _ _ h; exact h
  | cons op ops ih =>
    intro s T hsort hT h
    have hp := List.pairwise_cons.mp hsort
    exact ih (stepOp s op).1 op.time hp.2 hp.1
      ((history_bounded s op).2.2 T (hT op (by simp)) h)

/-! ### the duplicate-suppression invariant and the window -/

theorem dedupInv_init : DedupInv {} := by
  intro t h p hp; simp at hp

theorem dedupInv_aIdle (s : AState) (now : Nat) (h : DedupInv s) : DedupInv (aIdle s now).1 :=
  dedupInv_idle s now h

theorem dedupInv_step (s : AState) (op : AOp) (h : DedupInv s) : DedupInv (stepOp s op).1 := by
  rw [stepOp_eq]
  exact dedupInv_idle _ _ (dedupInv_preIdle s op h)

theorem dedupInv_aAssemble (s : AState) (burst : List Byte) (now : Nat) (h : DedupInv s) :
    DedupInv (aAssemble s burst now).1 :=
  dedupInv_step s (.burst burst now) h

/-- **The window is respected.**  In a state satisfying the invariants, an operation at time `now`
    that outputs a decoded message with the same text as the previously reported one does so only
    when that entry's deadline has passed. -/
theorem dedup_window (s : AState) (op : AOp) (m : Msg) (p : Timed Msg)
    (hinv : DedupInv s) (hne : NoEomPending s)
    (hout : (stepOp s op).2 = .message (.ok m))
    (hprev : s.previous = some p) (htext : p.data.text = m.text) :
    p.deadline ≤ op.time := by
  rw [stepOp_eq] at hout
  obtain ⟨t, hp, hd, hdat, _⟩ := idle_out_ok _ _ _ hout
  cases m with
  | eom =>
    obtain ⟨b, now, rfl, _, hest, _⟩ := preIdle_eom_pending s op hne t hp hdat
    simp only [AOp.time]
    unfold estimateOf at hest
    rcases prunePrevious_cases s.previous now with ⟨_, hx⟩ | ⟨hk, _⟩
    · exact hx p hprev
    · rw [hk] at hest
      exact absurd htext (dedup_ok_text _ _ _ hest p hprev)
  | som h =>
    -- the invariant travels through `preIdle`; `previous` there is `s.previous` or pruned
    have hinv' := dedupInv_preIdle s op hinv
    rcases preIdle_previous s op p hprev with hpre | hpre
    · have := hinv' t h p hp hdat hpre htext
      omega
    · exact hpre

/-- **The window is measured from the report and is exactly `HIST` ticks.** -/
theorem previous_deadline (s : AState) (op : AOp) (m : Msg)
    (hout : (stepOp s op).2 = .message (.ok m)) :
    (stepOp s op).1.previous = some ⟨m, op.time + HIST⟩ := by
  rw [stepOp_eq] at hout ⊢
  obtain ⟨_, _, _, _, he⟩ := idle_out_ok _ _ _ hout
  rw [he]

/-- what a run remembers about its latest decoded report `(t1, m1)`: either it is still in
    `previous` with deadline `t1 + HIST`, or that deadline has passed -/
def LastInv (s : AState) (last : Option (Nat × Msg)) (T : Nat) : Prop :=
  ∀ a, last = some a → s.previous = some ⟨a.2, a.1 + HIST⟩ ∨ a.1 + HIST ≤ T

/-- the run theorem, for any start state satisfying the invariants -/
theorem run_spaced (ops : List AOp) :
    ∀ (s : AState) (T : Nat) (last : Option (Nat × Msg)), Sorted ops → (∀ op ∈ ops, T ≤ op.time) →
      DedupInv s → NoEomPending s → LastInv s last T →
      Spaced (last.toList ++ okOutputs (runOps s ops).2) := by
  induction ops with
  | nil =>
    intro s T last _ _ _ _ _
    cases last <;> simp [runOps, okOutputs, Spaced]
  | cons op ops ih =>
    intro s T last hsort hT hinv hne hlast
    have hsort' : Sorted ops := (List.pairwise_cons.mp hsort).2
    have hle : ∀ op' ∈ ops, op.time ≤ op'.time := (List.pairwise_cons.mp hsort).1
    have hTop : T ≤ op.time := hT op (by simp)
    have hinv' := dedupInv_step s op hinv
    have hne' := noEomPending_step s op hne
    simp only [runOps]
    by_cases hm : ∃ m, (stepOp s op).2 = .message (.ok m)
    · obtain ⟨m, htr⟩ := hm
      have hprev' := previous_deadline s op m htr
      have hlast' : LastInv (stepOp s op).1 (some (op.time, m)) op.time := by
        intro a ha; cases ha; left; exact hprev'
      have hrest := ih (stepOp s op).1 op.time (some (op.time, m)) hsort' hle hinv' hne' hlast'
      rw [htr]
      simp only [outOf, List.cons_append, List.nil_append, okOutputs]
      cases last with
      | none => exact hrest
      | some a =>
        refine ⟨?_, hrest⟩
        intro b hb htext
        have hb : (op.time, m) = b := by simpa using hb
        subst hb
        rcases hlast a rfl with hp | hp
        · exact dedup_window s op m _ hinv hne htr hp htext
        · simp only; omega
    · -- no decoded message: `previous` is kept or has expired, and the output adds nothing
      have hq : ∀ m, (stepOp s op).2 ≠ .message (.ok m) := fun m h => hm ⟨m, h⟩
      have hlast' : LastInv (stepOp s op).1 last op.time := by
        intro a ha
        rcases hlast a ha with hp | hp
        · exact previous_step_quiet s op hq _ hp
        · right; omega
      have hrest := ih (stepOp s op).1 op.time last hsort' hle hinv' hne' hlast'
      have hnone : okOutputs (outOf op.time (stepOp s op).2 ++ (runOps (stepOp s op).1 ops).2)
          = okOutputs (runOps (stepOp s op).1 ops).2 := by
        cases htr : (stepOp s op).2 with
        | message r =>
          cases r with
          | ok m => exact absurd htr (hq m)
          | error e => rfl
        | idle => rfl
        | assembling => rfl
      rw [hnone]
      exact hrest

/-- **Once per window, over whole runs.**  Run any operations with non-decreasing times from the
    initial state.  If two consecutive decoded reports (no other decoded message between them)
    carry the same text, the second comes at least `HIST` ticks after the first. -/
theorem dedup_window_run (ops : List AOp) (hsort : Sorted ops)
    (pre post : List (Nat × Msg)) (t1 t2 : Nat) (m1 m2 : Msg)
    (hout : okOutputs (runOps {} ops).2 = pre ++ (t1, m1) :: (t2, m2) :: post)
    (htext : m1.text = m2.text) : t1 + HIST ≤ t2 := by
  have h : Spaced (okOutputs (runOps {} ops).2) := by
    simpa using run_spaced ops {} 0 none hsort (fun _ _ => Nat.zero_le _) dedupInv_init
      noEomPending_init (by intro a ha; cases ha)
  rw [hout] at h
  exact spaced_append pre post (t1, m1) (t2, m2) h htext

/-! ### after the window the same message is accepted again -/

/-- **Re-report.**  Nothing pending, the previous report absent or expired, and the bursts in the
    history (with the new one) combine to a message: an EndOfMessage is output by this very call,
    a StartOfMessage is pending with deadline `now + HOLD`. -/
theorem rereport (s : AState) (burst : List Byte) (now : Nat) (m : Msg)
    (hb : burst.isEmpty = false) (hp : s.pending = none)
    (hprev : ∀ p, s.previous = some p → p.deadline ≤ now)
    (hc : combine MAXLEN ((historyAfter s burst now).map (·.data)) = some (.ok m)) :
    (m = .eom ∧ (aAssemble s burst now).2 = .message (.ok .eom)
        ∧ (aAssemble s burst now).1.previous = some ⟨.eom, now + HIST⟩)
      ∨ ((∃ h, m = .som h) ∧ (aAssemble s burst now).1.pending = some ⟨.ok m, now + HOLD⟩
        ∧ ∀ r, (aAssemble s burst now).2 ≠ .message r) := by
  have hest := estimateOf_expired s burst now m hc hprev
  have hfree : ∀ old, s.pending = some old → acceptReplaces old.data (.ok m) = true := by
    intro old ho; rw [hp] at ho; cases ho
  cases m with
  | eom =>
    left
    have hs : stepOp s (.burst burst now) = _ := burst_eom s burst now hb hest hfree
    exact ⟨rfl, by rw [← stepOp, hs], by rw [← stepOp, hs]⟩
  | som h =>
    right
    obtain ⟨hs, hq⟩ := burst_held s burst now _ hb hest (by simp) hfree
    exact ⟨⟨h, rfl⟩, by rw [← stepOp, hs], hq⟩

/-! ### F5: one trailer can be reported twice -/

/-- **Counterexample (F5).**  Three identical trailer bursts 705 ticks apart, then the burst
    `ZC` at 6215: EndOfMessage is output twice, at 100 and at 6215.  The duplicate filter is timed
    from the report (burst 1) and has run out (`100 + HIST ≤ 6215`), yet bursts 2 and 3 stay in the
    history until `805 + HIST` and `1510 + HIST`, both later than 6215, and outvote the new burst. -/
theorem eom_twice_counterexample :
    (runOps {} [.burst litNNNN 100, .burst litNNNN 805, .burst litNNNN 1510, .burst [90, 67] 6215]).2
      = [(100, .ok .eom), (6215, .ok .eom)] := by
  decide +kernel

/-- the operations of the counterexample are in time order (and only 6115 ticks ≈ 11.7 s long) -/
theorem eom_twice_counterexample_sorted :
    Sorted [.burst litNNNN 100, .burst litNNNN 805, .burst litNNNN 1510, .burst [90, 67] 6215] := by
  unfold Sorted
  decide

/-- **What does hold.**  Let the previous report be an EndOfMessage with deadline `d`, and let every
    burst in the history be due by `D`.  A burst that ends outside `[d, D)` makes the assembler
    output EndOfMessage only if `D ≤ now` and that burst *alone* reads as an EndOfMessage — it
    belongs to a new transmission. -/
theorem eom_once_partial (s : AState) (burst : List Byte) (now d D : Nat)
    (hne : NoEomPending s)
    (hprev : s.previous = some ⟨.eom, d⟩) (hhist : ∀ e ∈ s.history, e.deadline ≤ D)
    (hgap : now < d ∨ D ≤ now)
    (hout : (aAssemble s burst now).2 = .message (.ok .eom)) :
    D ≤ now ∧ combine MAXLEN [burst.take MAXLEN] = some (.ok .eom) := by
  have hstep : aAssemble s burst now = aIdle (preIdle s (.burst burst now)) now :=
    stepOp_eq s (.burst burst now)
  rw [hstep] at hout
  obtain ⟨t, hp, _, hdat, _⟩ := idle_out_ok _ _ _ hout
  obtain ⟨b, now', hop, _, hest, _⟩ := preIdle_eom_pending s _ hne t hp hdat
  cases hop
  unfold estimateOf at hest
  rcases prunePrevious_cases s.previous now with ⟨_, hx⟩ | ⟨hk, _⟩
  · have hd : d ≤ now := hx _ hprev
    have hD : D ≤ now := by omega
    refine ⟨hD, ?_⟩
    have := dedup_some _ _ _ hest
    rw [historyAfter, pruneHistory_expired _ _ (fun e he => by have := hhist e he; omega)] at this
    simpa using this
  · rw [hk] at hest
    exact absurd rfl (dedup_ok_text _ _ _ hest _ hprev)

/-- a poll never outputs an EndOfMessage (trailers are output by the call that accepts them) -/
theorem poll_never_eom (s : AState) (now : Nat) (hne : NoEomPending s) :
    (aIdle s now).2 ≠ .message (.ok .eom) := by
  intro h
  obtain ⟨t, hp, _, hdat, _⟩ := idle_out_ok _ _ _ h
  exact hne t hp hdat

end SameVerif.C05
