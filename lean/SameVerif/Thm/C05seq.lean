import SameVerif.Thm.C02
import SameVerif.Thm.C05
import SameVerif.Thm.C04
import SameVerif.Lemmas.AssemblerSeq
/-
  C05 for sequences of transmissions: two different headers are each reported once and in
  the order transmitted; a repeat of the same header inside the window is suppressed, after the
  window it is reported again; reports follow the burst log.
  Helper lemmas live in Lemmas/AssemblerSeq.lean.
-/
namespace SameVerif.C05seq
open SameVerif SameVerif.Spec SameVerif.Asm

/-- `H` is a canonical header text in the SAME character set that fits the burst buffer -/
structure Canon (H : List Byte) (off : Nat) : Prop where
  allowed : ∀ b ∈ H, isAllowed b = true
  parse : checkHeader H = some (off, H.length)
  fit : H.length ≤ MAXLEN

/-- one transmission heard as three bursts `H` ending at `t1`, `t2`, `t3`; polls `p1` between the
    first two bursts, `p2` between the last two, `p3` afterwards, and a last poll at `t` -/
def tx3 (H : List Byte) (t1 t2 t3 t : Nat) (p1 p2 p3 : List Nat) : List AOp :=
  .burst H t1 :: (p1.map .poll ++ .burst H t2 :: (p2.map .poll ++ .burst H t3 ::
    (p3.map .poll ++ [.poll t])))

/-- one transmission heard as two bursts `H` ending at `t1`, `t2` (one burst was lost) -/
def tx2 (H : List Byte) (t1 t2 t : Nat) (p1 p2 : List Nat) : List AOp :=
  .burst H t1 :: (p1.map .poll ++ .burst H t2 :: (p2.map .poll ++ [.poll t]))

theorem Canon.nonempty {H : List Byte} {off : Nat} (c : Canon H off) : H.isEmpty = false := by
  have := isEmpty_of_checkHeader H [] _ c.parse
  rwa [List.append_nil] at this

theorem Canon.one {H : List Byte} {off : Nat} (c : Canon H off) : combine MAXLEN [H] = none :=
  combine_single_header _ _ _ c.parse

theorem Canon.two {H : List Byte} {off : Nat} (c : Canon H off) :
    combine MAXLEN [H, H] = some (.ok (.som ⟨H, off, 0, 0⟩)) :=
  C02.combine_pair_equal MAXLEN H off c.allowed c.parse c.fit

theorem Canon.three {H : List Byte} {off : Nat} (c : Canon H off) :
    combine MAXLEN [H, H, H] = some (.ok (.som ⟨H, off, 0, H.length⟩)) := by
  have := C02.combine_with_tails' MAXLEN H [] [] [] off c.allowed c.parse c.fit
    (by rw [estimateLoop_nils3]; intro e he; cases he)
  simpa using this

/-- two bursts `H` and one burst `X`, in either of the orders met below -/
theorem Canon.hhx {H : List Byte} {off : Nat} (c : Canon H off) (X : List Byte) :
    combine MAXLEN [H, H, X] = some (.ok (.som ⟨H, off, specParity H X, specVoting H X⟩)) :=
  C03.combine_two_of_three MAXLEN 2 H X off c.allowed c.parse c.fit

theorem Canon.xhh {H : List Byte} {off : Nat} (c : Canon H off) (X : List Byte) :
    combine MAXLEN [X, H, H] = some (.ok (.som ⟨H, off, specParity H X, specVoting H X⟩)) :=
  C03.combine_two_of_three MAXLEN 0 H X off c.allowed c.parse c.fit

theorem sorted_tx3 (H : List Byte) (t1 t2 t3 t : Nat) (p1 p2 p3 : List Nat)
    (h : Sorted (tx3 H t1 t2 t3 t p1 p2 p3)) :
    t1 ≤ t2 ∧ t2 ≤ t3 ∧ (∀ u ∈ p1, u ≤ t2) ∧ (∀ u ∈ p2, u ≤ t3) ∧ (∀ u ∈ p3, u ≤ t) := by
  obtain ⟨h1, h2, h3, h4, h5⟩ := sorted_three _ _ _ _ _ _ _ _ _ h
  exact ⟨h1, h2, h3, h4, sorted_polls_last p3 t h5⟩

theorem sorted_tx2 (H : List Byte) (t1 t2 t : Nat) (p1 p2 : List Nat)
    (h : Sorted (tx2 H t1 t2 t p1 p2)) :
    t1 ≤ t2 ∧ (∀ u ∈ p1, u ≤ t2) ∧ (∀ u ∈ p2, u ≤ t) := by
  obtain ⟨h1, h2, h3⟩ := sorted_two _ _ _ _ _ _ h
  exact ⟨h1, h2, sorted_polls_last p2 t (List.pairwise_cons.mp h3).2⟩

/-! ### the first transmission, with what it leaves behind -/

theorem first3 (A : List Byte) (offA a1 a2 a3 t T : Nat) (p1 p2 p3 : List Nat) (cA : Canon A offA)
    (hsort : Sorted (tx3 A a1 a2 a3 t p1 p2 p3)) (h31 : a3 < a1 + HIST) (ht : a3 + HOLD ≤ t)
    (htT : t ≤ T) :
    ∃ u hA, hA.text = A ∧ hA.offsetTime = offA ∧ hA.parity = 0 ∧ a2 + HOLD ≤ u ∧ u ≤ T
      ∧ (runOps {} (tx3 A a1 a2 a3 t p1 p2 p3)).2 = [(u, .ok (.som hA))]
      ∧ LeftBy (runOps {} (tx3 A a1 a2 a3 t p1 p2 p3)).1 (.som hA) (u + HIST)
          [⟨A, a2 + HIST⟩, ⟨A, a3 + HIST⟩] T := by
  obtain ⟨h12, h23, hp1, hp2, hp3⟩ := sorted_tx3 _ _ _ _ _ _ _ _ hsort
  have htake : A.take MAXLEN = A := List.take_of_length_le cA.fit
  obtain ⟨u, h, hh, hu1, hout, hL⟩ := transmission3_st {} A A A a1 a2 a3 t ⟨A, offA, 0, 0⟩
    ⟨A, offA, 0, A.length⟩ p1 p2 p3 cA.nonempty cA.nonempty cA.nonempty (by rw [htake]; exact cA.one)
    (by rw [htake]; exact cA.two) (by rw [htake]; exact cA.three) (Nat.zero_le _) rfl rfl rfl
    (by intro p hp; cases hp) h12 h23 h31 hp1 hp2 ht
  have hT := polls_snoc_le p3 t T (fun v hv => Nat.le_trans (hp3 v hv) htT) htT
  have hL' := hL T hT
  rw [htake] at hL'
  have huT : u ≤ T := by
    rcases hh with ⟨_, hm⟩ | ⟨_, hm, _⟩
    · have := hp2 u hm; omega
    · exact hT u hm
  refine ⟨u, h, ?_, ?_, ?_, hu1, huT, hout, hL'⟩ <;> rcases hh with ⟨rfl, _⟩ | ⟨rfl, _⟩ <;> rfl

theorem first2 (A : List Byte) (offA a1 a2 t T : Nat) (p1 p2 : List Nat) (cA : Canon A offA)
    (hsort : Sorted (tx2 A a1 a2 t p1 p2)) (h21 : a2 < a1 + HIST) (ht : a2 + HOLD ≤ t)
    (htT : t ≤ T) :
    ∃ u, a2 + HOLD ≤ u ∧ u ≤ T
      ∧ (runOps {} (tx2 A a1 a2 t p1 p2)).2 = [(u, .ok (.som ⟨A, offA, 0, 0⟩))]
      ∧ LeftBy (runOps {} (tx2 A a1 a2 t p1 p2)).1 (.som ⟨A, offA, 0, 0⟩) (u + HIST)
          [⟨A, a1 + HIST⟩, ⟨A, a2 + HIST⟩] T := by
  obtain ⟨_, hp1, hp2⟩ := sorted_tx2 _ _ _ _ _ _ hsort
  have htake : A.take MAXLEN = A := List.take_of_length_le cA.fit
  obtain ⟨u, hu, hd, hout, hL⟩ := transmission2_st {} A A a1 a2 t ⟨A, offA, 0, 0⟩ p1 p2 cA.nonempty
    cA.nonempty (by rw [htake]; exact cA.one) (by rw [htake]; exact cA.two) rfl rfl
    (by intro p hp; cases hp) h21 hp1 ht
  have hT := polls_snoc_le p2 t T (fun v hv => Nat.le_trans (hp2 v hv) htT) htT
  have hL' := hL T hT
  rw [htake] at hL'
  exact ⟨u, hd, hT u hu, hout, hL'⟩

/-! ### the second transmission: its first two bursts -/

theorem leftovers_expired {S : AState} {m : Msg} {d d2 d3 T now : Nat} {A : List Byte}
    (hL : LeftBy S m d [⟨A, d2⟩, ⟨A, d3⟩] T) (hT : T ≤ now) (h2 : d2 ≤ now) (h3 : d3 ≤ now) :
    pruneHistory S.history now = [] := by
  rw [hL.hist now hT]
  apply pruneHistory_expired
  intro e he
  simp only [List.mem_cons, List.not_mem_nil, or_false] at he
  rcases he with rfl | rfl <;> assumption

/-- the two headers the second burst `B` can leave held (voted with a leftover `A`, or with the
    first `B` alone) both read `B` -/
theorem held_reads {A B : List Byte} {offB : Nat} {hB : Header}
    (h : hB = ⟨B, offB, specParity B A, specVoting B A⟩ ∨ hB = ⟨B, offB, 0, 0⟩) :
    hB.text = B ∧ hB.offsetTime = offB ∧ hB.voting ≤ B.length := by
  rcases h with rfl | rfl
  · exact ⟨rfl, rfl, by simp only [specVoting]; omega⟩
  · exact ⟨rfl, rfl, Nat.zero_le _⟩

/-- **The first two bursts of the next, different, transmission.**  The previous transmission left
    two bursts `A` (due at `d2 ≤ d3`) and its report, remembered until `d ≥ d2`.  If the first burst
    `B` ends while both `A` bursts are alive (`b1 < d2`) or when both have expired (`d3 ≤ b1`), the
    run up to the second burst `B` is silent and ends with both `B` bursts stored and a header with
    text `B` held until `b2 + HOLD`. -/
theorem second_held (S : AState) (A B : List Byte) (offA offB : Nat) (hA : Header)
    (d d2 d3 b1 b2 : Nat) (pb1 : List Nat)
    (cA : Canon A offA) (cB : Canon B offB) (hAB : A ≠ B) (hAt : hA.text = A)
    (hL : LeftBy S (.som hA) d [⟨A, d2⟩, ⟨A, d3⟩] b1)
    (hd23 : d2 ≤ d3) (hdd : d2 ≤ d) (hgap : b1 < d2 ∨ d3 ≤ b1)
    (h21 : b2 < b1 + HIST) (hp1 : ∀ u ∈ pb1, u ≤ b2) :
    ∃ (S2 : AState) (hB : Header), hB.text = B ∧ hB.offsetTime = offB ∧ hB.voting ≤ B.length ∧
      (∀ rest, runOps S (.burst B b1 :: (pb1.map .poll ++ .burst B b2 :: rest)) = runOps S2 rest)
      ∧ Held S2 ⟨B, b1 + HIST⟩ ⟨B, b2 + HIST⟩ hB (b2 + HOLD) := by
  have hmt : (Msg.som hA).text ≠ B := by rw [show (Msg.som hA).text = A from hAt]; exact hAB
  rcases hgap with hnear | hfar
  · obtain ⟨S2, hB, hBc, hrun, hS2⟩ := second_near_held S A B (.som hA) d d2 d3 b1 b1 b2
      ⟨A, offA, specParity A B, specVoting A B⟩ ⟨B, offB, specParity B A, specVoting B A⟩
      ⟨B, offB, 0, 0⟩ pb1 cB.nonempty cB.fit hL (Nat.le_refl _) (by omega) hnear hd23
      (cA.hhx B) hAt (cB.xhh A) cB.two hmt hmt h21 hp1
    obtain ⟨h1, h2, h3⟩ := held_reads hBc
    exact ⟨S2, hB, h1, h2, h3, hrun, hS2⟩
  · have hx := leftovers_expired hL (Nat.le_refl _) (Nat.le_trans hd23 hfar) hfar
    have htake : B.take MAXLEN = B := List.take_of_length_le cB.fit
    obtain ⟨S2, hrun, hS2⟩ := two_bursts_held S B B b1 b2 ⟨B, offB, 0, 0⟩ pb1 cB.nonempty cB.nonempty
      (by rw [htake]; exact cB.one) (by rw [htake]; exact cB.two) hx hL.pending
      (by intro p hp _; rw [hL.previous] at hp; cases hp; exact hmt) h21 hp1
    rw [htake] at hS2
    exact ⟨S2, ⟨B, offB, 0, 0⟩, rfl, rfl, Nat.zero_le _, hrun, hS2⟩

/-! ### the second transmission: the rest of it -/

/-- two bursts `B` stored, a header with text `B` held: polls, the third burst, polls, a poll at or
    after `b3 + HOLD` — exactly one report, text `B`, not before `b2 + HOLD` -/
theorem finish3 (S2 : AState) (B : List Byte) (offB : Nat) (hB2 : Header) (b1 b2 b3 t' : Nat)
    (pb2 pb3 : List Nat) (cB : Canon B offB)
    (hBt : hB2.text = B) (hBo : hB2.offsetTime = offB) (hBv : hB2.voting ≤ B.length)
    (hS : Held S2 ⟨B, b1 + HIST⟩ ⟨B, b2 + HIST⟩ hB2 (b2 + HOLD))
    (h12 : b1 ≤ b2) (h23 : b2 ≤ b3) (h31 : b3 < b1 + HIST) (hp2 : ∀ u ∈ pb2, u ≤ b3)
    (ht : b3 + HOLD ≤ t') :
    ∃ v hB, hB.text = B ∧ hB.offsetTime = offB ∧ b2 + HOLD ≤ v
      ∧ (runOps S2 (pb2.map .poll ++ .burst B b3 :: (pb3.map .poll ++ [.poll t']))).2
          = [(v, .ok (.som hB))] := by
  rw [polls_snoc]
  rcases held_then_third S2 B _ _ b2 b3 hB2 ⟨B, offB, 0, B.length⟩ pb2 (pb3 ++ [t']) cB.nonempty hS
    (by simp only; omega) (by simp only; omega) hp2
    (by rw [List.take_of_length_le cB.fit]; exact cB.three) hBv hBt (by omega) ⟨t', by simp, ht⟩
    with ⟨v, _, hv, ho, _⟩ | ⟨_, v, _, hv, ho, _⟩
  · exact ⟨v, hB2, hBt, hBo, hv, ho⟩
  · exact ⟨v, _, rfl, rfl, by omega, ho⟩

/-- **The next transmission, three bursts `B`,** met by what the previous one (`A`) left: exactly
    one report, text `B`, not before `b2 + HOLD`. -/
theorem second3 (S : AState) (A B : List Byte) (offA offB : Nat) (hA : Header)
    (d d2 d3 b1 b2 b3 t' : Nat) (pb1 pb2 pb3 : List Nat)
    (cA : Canon A offA) (cB : Canon B offB) (hAB : A ≠ B) (hAt : hA.text = A)
    (hL : LeftBy S (.som hA) d [⟨A, d2⟩, ⟨A, d3⟩] b1)
    (hd23 : d2 ≤ d3) (hdd : d2 ≤ d) (hgap : b1 < d2 ∨ d3 ≤ b1)
    (hsort : Sorted (tx3 B b1 b2 b3 t' pb1 pb2 pb3)) (hb31 : b3 < b1 + HIST) (htb : b3 + HOLD ≤ t') :
    ∃ v hB, hB.text = B ∧ hB.offsetTime = offB ∧ b2 + HOLD ≤ v
      ∧ (runOps S (tx3 B b1 b2 b3 t' pb1 pb2 pb3)).2 = [(v, .ok (.som hB))] := by
  obtain ⟨hb12, hb23, hpb1, hpb2, _⟩ := sorted_tx3 _ _ _ _ _ _ _ _ hsort
  obtain ⟨S2, hB2, hBt, hBo, hBv, hrun, hS2⟩ := second_held S A B offA offB hA d d2 d3 b1 b2 pb1 cA cB
    hAB hAt hL hd23 hdd hgap (by omega) hpb1
  unfold tx3
  rw [hrun]
  exact finish3 S2 B offB hB2 b1 b2 b3 t' pb2 pb3 cB hBt hBo hBv hS2 hb12 hb23 hb31 hpb2 htb

/-- **The next transmission, two bursts `B`** (one was lost). -/
theorem second2 (S : AState) (A B : List Byte) (offA offB : Nat) (hA : Header)
    (d d2 d3 b1 b2 t' : Nat) (pb1 pb2 : List Nat)
    (cA : Canon A offA) (cB : Canon B offB) (hAB : A ≠ B) (hAt : hA.text = A)
    (hL : LeftBy S (.som hA) d [⟨A, d2⟩, ⟨A, d3⟩] b1)
    (hd23 : d2 ≤ d3) (hdd : d2 ≤ d) (hgap : b1 < d2 ∨ d3 ≤ b1)
    (hsort : Sorted (tx2 B b1 b2 t' pb1 pb2)) (hb21 : b2 < b1 + HIST) (htb : b2 + HOLD ≤ t') :
    ∃ v hB, hB.text = B ∧ hB.offsetTime = offB ∧ b2 + HOLD ≤ v
      ∧ (runOps S (tx2 B b1 b2 t' pb1 pb2)).2 = [(v, .ok (.som hB))] := by
  obtain ⟨_, hpb1, _⟩ := sorted_tx2 _ _ _ _ _ _ hsort
  obtain ⟨S2, hB2, hBt, hBo, _, hrun, hS2⟩ := second_held S A B offA offB hA d d2 d3 b1 b2 pb1 cA cB
    hAB hAt hL hd23 hdd hgap hb21 hpb1
  unfold tx2
  rw [hrun, polls_snoc]
  obtain ⟨v, _, hv, ho, _⟩ := held_release S2 _ _ _ _ (pb2 ++ [t']) hS2 ⟨t', by simp, htb⟩
  exact ⟨v, hB2, hBt, hBo, hv, ho⟩

/-! ### two different transmissions are each reported once, in the order transmitted -/

theorem tx3_mem_last (H : List Byte) (t1 t2 t3 t : Nat) (p1 p2 p3 : List Nat) :
    AOp.poll t ∈ tx3 H t1 t2 t3 t p1 p2 p3 := by simp [tx3]

theorem tx2_mem_last (H : List Byte) (t1 t2 t : Nat) (p1 p2 : List Nat) :
    AOp.poll t ∈ tx2 H t1 t2 t p1 p2 := by simp [tx2]

theorem tx3_mem_first (H : List Byte) (t1 t2 t3 t : Nat) (p1 p2 p3 : List Nat) :
    AOp.burst H t1 ∈ tx3 H t1 t2 t3 t p1 p2 p3 := by simp [tx3]

theorem tx2_mem_first (H : List Byte) (t1 t2 t : Nat) (p1 p2 : List Nat) :
    AOp.burst H t1 ∈ tx2 H t1 t2 t p1 p2 := by simp [tx2]

/-- **Two transmissions, three bursts each.**  Canonical header texts `A ≠ B`.  From the
    initial state: three bursts `A` (`a3 < a1 + HIST`), any polls in time order, the last of them at
    `t ≥ a3 + HOLD` (so `A` has been released before `B` starts); then three bursts `B`
    (`b3 < b1 + HIST`), any polls, a last poll at `t' ≥ b3 + HOLD`.  Gap condition: the first burst
    `B` ends while the last two bursts `A` are both still stored (`b1 < a2 + HIST`: it is voted
    `A A B`, which reads `A` again and is suppressed as a duplicate) or after both have expired
    (`a3 + HIST ≤ b1`).  Then the run outputs exactly two messages, `A` then `B`, each once. -/
theorem two_transmissions_in_order (A B : List Byte) (offA offB a1 a2 a3 t b1 b2 b3 t' : Nat)
    (pa1 pa2 pa3 pb1 pb2 pb3 : List Nat)
    (cA : Canon A offA) (cB : Canon B offB) (hAB : A ≠ B)
    (hsort : Sorted (tx3 A a1 a2 a3 t pa1 pa2 pa3 ++ tx3 B b1 b2 b3 t' pb1 pb2 pb3))
    (ha31 : a3 < a1 + HIST) (hta : a3 + HOLD ≤ t)
    (hb31 : b3 < b1 + HIST) (htb : b3 + HOLD ≤ t')
    (hgap : b1 < a2 + HIST ∨ a3 + HIST ≤ b1) :
    ∃ u v hA hB,
      (runOps {} (tx3 A a1 a2 a3 t pa1 pa2 pa3 ++ tx3 B b1 b2 b3 t' pb1 pb2 pb3)).2
        = [(u, .ok (.som hA)), (v, .ok (.som hB))]
      ∧ hA.text = A ∧ hA.offsetTime = offA ∧ hB.text = B ∧ hB.offsetTime = offB
      ∧ u < v ∧ a2 + HOLD ≤ u ∧ u ≤ b1 ∧ b2 + HOLD ≤ v := by
  obtain ⟨hsA, hsB, hx⟩ := Asm.sorted_append _ _ hsort
  have htb1 : t ≤ b1 := hx _ (tx3_mem_last ..) _ (tx3_mem_first ..)
  obtain ⟨ha12, ha23, _⟩ := sorted_tx3 _ _ _ _ _ _ _ _ hsA
  obtain ⟨u, hA, hAt, hAo, _, hu1, hu2, houtA, hL⟩ :=
    first3 A offA a1 a2 a3 t b1 pa1 pa2 pa3 cA hsA ha31 hta htb1
  have hb12 := (sorted_tx3 _ _ _ _ _ _ _ _ hsB).1
  obtain ⟨v, hB, hBt, hBo, hv, houtB⟩ := second3 _ A B offA offB hA (u + HIST) (a2 + HIST) (a3 + HIST)
    b1 b2 b3 t' pb1 pb2 pb3 cA cB hAB hAt hL (by omega) (by omega) hgap hsB hb31 htb
  exact ⟨u, v, hA, hB, by rw [runOps_append_snd, houtA, houtB]; rfl, hAt, hAo, hBt, hBo,
    by have := HOLD_pos; omega, hu1, hu2, hv⟩

/-- **One burst of each transmission lost** (whichever: the model sees two bursts, at
    `a1 ≤ a2 < a1 + HIST`).  Gap condition: `b1 < a1 + HIST` or `a2 + HIST ≤ b1`. -/
theorem two_transmissions_two_bursts_each (A B : List Byte) (offA offB a1 a2 t b1 b2 t' : Nat)
    (pa1 pa2 pb1 pb2 : List Nat)
    (cA : Canon A offA) (cB : Canon B offB) (hAB : A ≠ B)
    (hsort : Sorted (tx2 A a1 a2 t pa1 pa2 ++ tx2 B b1 b2 t' pb1 pb2))
    (ha21 : a2 < a1 + HIST) (hta : a2 + HOLD ≤ t)
    (hb21 : b2 < b1 + HIST) (htb : b2 + HOLD ≤ t')
    (hgap : b1 < a1 + HIST ∨ a2 + HIST ≤ b1) :
    ∃ u v hB,
      (runOps {} (tx2 A a1 a2 t pa1 pa2 ++ tx2 B b1 b2 t' pb1 pb2)).2
        = [(u, .ok (.som ⟨A, offA, 0, 0⟩)), (v, .ok (.som hB))]
      ∧ hB.text = B ∧ hB.offsetTime = offB
      ∧ u < v ∧ a2 + HOLD ≤ u ∧ u ≤ b1 ∧ b2 + HOLD ≤ v := by
  obtain ⟨hsA, hsB, hx⟩ := Asm.sorted_append _ _ hsort
  have htb1 : t ≤ b1 := hx _ (tx2_mem_last ..) _ (tx2_mem_first ..)
  obtain ⟨ha12, _⟩ := sorted_tx2 _ _ _ _ _ _ hsA
  obtain ⟨u, hu1, hu2, houtA, hL⟩ := first2 A offA a1 a2 t b1 pa1 pa2 cA hsA ha21 hta htb1
  have hb12 := (sorted_tx2 _ _ _ _ _ _ hsB).1
  obtain ⟨v, hB, hBt, hBo, hv, houtB⟩ := second2 _ A B offA offB ⟨A, offA, 0, 0⟩ (u + HIST)
    (a1 + HIST) (a2 + HIST) b1 b2 t' pb1 pb2 cA cB hAB rfl hL (by omega) (by omega) hgap hsB hb21 htb
  exact ⟨u, v, hB, by rw [runOps_append_snd, houtA, houtB]; rfl, hBt, hBo,
    by have := HOLD_pos; omega, hu1, hu2, hv⟩

/-- the first transmission complete, one burst of the second lost -/
theorem two_transmissions_three_two (A B : List Byte) (offA offB a1 a2 a3 t b1 b2 t' : Nat)
    (pa1 pa2 pa3 pb1 pb2 : List Nat)
    (cA : Canon A offA) (cB : Canon B offB) (hAB : A ≠ B)
    (hsort : Sorted (tx3 A a1 a2 a3 t pa1 pa2 pa3 ++ tx2 B b1 b2 t' pb1 pb2))
    (ha31 : a3 < a1 + HIST) (hta : a3 + HOLD ≤ t)
    (hb21 : b2 < b1 + HIST) (htb : b2 + HOLD ≤ t')
    (hgap : b1 < a2 + HIST ∨ a3 + HIST ≤ b1) :
    ∃ u v hA hB,
      (runOps {} (tx3 A a1 a2 a3 t pa1 pa2 pa3 ++ tx2 B b1 b2 t' pb1 pb2)).2
        = [(u, .ok (.som hA)), (v, .ok (.som hB))]
      ∧ hA.text = A ∧ hA.offsetTime = offA ∧ hB.text = B ∧ hB.offsetTime = offB
      ∧ u < v ∧ a2 + HOLD ≤ u ∧ u ≤ b1 ∧ b2 + HOLD ≤ v := by
  obtain ⟨hsA, hsB, hx⟩ := Asm.sorted_append _ _ hsort
  have htb1 : t ≤ b1 := hx _ (tx3_mem_last ..) _ (tx2_mem_first ..)
  obtain ⟨ha12, ha23, _⟩ := sorted_tx3 _ _ _ _ _ _ _ _ hsA
  obtain ⟨u, hA, hAt, hAo, _, hu1, hu2, houtA, hL⟩ :=
    first3 A offA a1 a2 a3 t b1 pa1 pa2 pa3 cA hsA ha31 hta htb1
  have hb12 := (sorted_tx2 _ _ _ _ _ _ hsB).1
  obtain ⟨v, hB, hBt, hBo, hv, houtB⟩ := second2 _ A B offA offB hA (u + HIST) (a2 + HIST) (a3 + HIST)
    b1 b2 t' pb1 pb2 cA cB hAB hAt hL (by omega) (by omega) hgap hsB hb21 htb
  exact ⟨u, v, hA, hB, by rw [runOps_append_snd, houtA, houtB]; rfl, hAt, hAo, hBt, hBo,
    by have := HOLD_pos; omega, hu1, hu2, hv⟩

/-- one burst of the first transmission lost, the second complete -/
theorem two_transmissions_two_three (A B : List Byte) (offA offB a1 a2 t b1 b2 b3 t' : Nat)
    (pa1 pa2 pb1 pb2 pb3 : List Nat)
    (cA : Canon A offA) (cB : Canon B offB) (hAB : A ≠ B)
    (hsort : Sorted (tx2 A a1 a2 t pa1 pa2 ++ tx3 B b1 b2 b3 t' pb1 pb2 pb3))
    (ha21 : a2 < a1 + HIST) (hta : a2 + HOLD ≤ t)
    (hb31 : b3 < b1 + HIST) (htb : b3 + HOLD ≤ t')
    (hgap : b1 < a1 + HIST ∨ a2 + HIST ≤ b1) :
    ∃ u v hB,
      (runOps {} (tx2 A a1 a2 t pa1 pa2 ++ tx3 B b1 b2 b3 t' pb1 pb2 pb3)).2
        = [(u, .ok (.som ⟨A, offA, 0, 0⟩)), (v, .ok (.som hB))]
      ∧ hB.text = B ∧ hB.offsetTime = offB
      ∧ u < v ∧ a2 + HOLD ≤ u ∧ u ≤ b1 ∧ b2 + HOLD ≤ v := by
  obtain ⟨hsA, hsB, hx⟩ := Asm.sorted_append _ _ hsort
  have htb1 : t ≤ b1 := hx _ (tx2_mem_last ..) _ (tx3_mem_first ..)
  obtain ⟨ha12, _⟩ := sorted_tx2 _ _ _ _ _ _ hsA
  obtain ⟨u, hu1, hu2, houtA, hL⟩ := first2 A offA a1 a2 t b1 pa1 pa2 cA hsA ha21 hta htb1
  have hb12 := (sorted_tx3 _ _ _ _ _ _ _ _ hsB).1
  obtain ⟨v, hB, hBt, hBo, hv, houtB⟩ := second3 _ A B offA offB ⟨A, offA, 0, 0⟩ (u + HIST)
    (a1 + HIST) (a2 + HIST) b1 b2 b3 t' pb1 pb2 pb3 cA cB hAB rfl hL (by omega) (by omega) hgap hsB
    hb31 htb
  exact ⟨u, v, hB, by rw [runOps_append_snd, houtA, houtB]; rfl, hBt, hBo,
    by have := HOLD_pos; omega, hu1, hu2, hv⟩

/-! ### the gap zone: exactly one burst of the first transmission still stored -/

/-- **The gap zone — the closest true statement.**  As `two_transmissions_in_order`, but the
    first burst `B` ends in `[a2 + HIST, a3 + HIST)`: exactly one burst `A` is still stored, and the
    two-burst vote over `A B` is an error (`hE`; for headers that differ before the end of the
    shorter one this is the usual case, see `gap_error_counterexample`).  The two messages are
    still each reported once and in order, but an *error* report comes between them if (and only
    if) a poll between the first two bursts `B` reaches `b1 + HOLD`. -/
theorem two_transmissions_gap_zone (A B : List Byte) (offA offB a1 a2 a3 t b1 b2 b3 t' : Nat)
    (pa1 pa2 pa3 pb1 pb2 pb3 : List Nat) (err : DecodeErr)
    (cA : Canon A offA) (cB : Canon B offB) (hAB : A ≠ B)
    (hE : combine MAXLEN [A, B] = some (.error err))
    (hsort : Sorted (tx3 A a1 a2 a3 t pa1 pa2 pa3 ++ tx3 B b1 b2 b3 t' pb1 pb2 pb3))
    (ha31 : a3 < a1 + HIST) (hta : a3 + HOLD ≤ t)
    (hb31 : b3 < b1 + HIST) (htb : b3 + HOLD ≤ t')
    (hz1 : a2 + HIST ≤ b1) (hz2 : b1 < a3 + HIST) :
    ∃ u v hA hB errs,
      (runOps {} (tx3 A a1 a2 a3 t pa1 pa2 pa3 ++ tx3 B b1 b2 b3 t' pb1 pb2 pb3)).2
        = (u, .ok (.som hA)) :: (errs ++ [(v, .ok (.som hB))])
      ∧ ((errs = [] ∧ ∀ p ∈ pb1, p < b1 + HOLD)
          ∨ ∃ p ∈ pb1, b1 + HOLD ≤ p ∧ errs = [(p, .error err)])
      ∧ hA.text = A ∧ hA.offsetTime = offA ∧ hB.text = B ∧ hB.offsetTime = offB
      ∧ u < v ∧ a2 + HOLD ≤ u ∧ u ≤ b1 ∧ b2 + HOLD ≤ v := by
  obtain ⟨hsA, hsB, hx⟩ := Asm.sorted_append _ _ hsort
  have htb1 : t ≤ b1 := hx _ (tx3_mem_last ..) _ (tx3_mem_first ..)
  obtain ⟨ha12, ha23, _, _, _⟩ := sorted_tx3 _ _ _ _ _ _ _ _ hsA
  obtain ⟨hb12, hb23, hpb1, hpb2, _⟩ := sorted_tx3 _ _ _ _ _ _ _ _ hsB
  obtain ⟨u, hA, hAt, hAo, _, hu1, hu2, houtA, hL⟩ :=
    first3 A offA a1 a2 a3 t b1 pa1 pa2 pa3 cA hsA ha31 hta htb1
  have hmt : (Msg.som hA).text = A := hAt
  obtain ⟨S2, hB2, errs, hBc, herrs, hrun, hS2⟩ := second_mid_held _ A B (.som hA)
    (u + HIST) (a2 + HIST) (a3 + HIST) b1 b1 b2 err ⟨B, offB, specParity B A, specVoting B A⟩
    ⟨B, offB, 0, 0⟩ pb1 cB.nonempty cB.fit hL (Nat.le_refl _) hz1 hz2 hE (cB.xhh A) cB.two
    (by rw [hmt]; exact hAB) (by rw [hmt]; exact hAB) (by omega) hpb1
  obtain ⟨hBt, hBo, hBv⟩ := held_reads hBc
  obtain ⟨v, hB, hBt', hBo', hv, houtB⟩ := finish3 S2 B offB hB2 b1 b2 b3 t' pb2 pb3 cB hBt hBo hBv
    hS2 hb12 hb23 hb31 hpb2 htb
  refine ⟨u, v, hA, hB, errs, ?_, herrs, hAt, hAo, hBt', hBo', ?_, hu1, hu2, hv⟩
  · rw [runOps_append_snd, houtA]
    unfold tx3 at hrun ⊢
    rw [hrun]
    simp only
    rw [houtB]
    rfl
  · have := HOLD_pos; omega

/-- in the gap zone the *decoded* outputs are still exactly `A` then `B` -/
theorem two_transmissions_gap_zone_decoded (A B : List Byte) (offA offB a1 a2 a3 t b1 b2 b3 t' : Nat)
    (pa1 pa2 pa3 pb1 pb2 pb3 : List Nat) (err : DecodeErr)
    (cA : Canon A offA) (cB : Canon B offB) (hAB : A ≠ B)
    (hE : combine MAXLEN [A, B] = some (.error err))
    (hsort : Sorted (tx3 A a1 a2 a3 t pa1 pa2 pa3 ++ tx3 B b1 b2 b3 t' pb1 pb2 pb3))
    (ha31 : a3 < a1 + HIST) (hta : a3 + HOLD ≤ t)
    (hb31 : b3 < b1 + HIST) (htb : b3 + HOLD ≤ t')
    (hz1 : a2 + HIST ≤ b1) (hz2 : b1 < a3 + HIST) :
    ∃ u v hA hB,
      okOutputs (runOps {} (tx3 A a1 a2 a3 t pa1 pa2 pa3 ++ tx3 B b1 b2 b3 t' pb1 pb2 pb3)).2
        = [(u, .som hA), (v, .som hB)]
      ∧ hA.text = A ∧ hB.text = B ∧ u < v := by
  obtain ⟨u, v, hA, hB, errs, hout, herrs, hAt, _, hBt, _, huv, _⟩ :=
    two_transmissions_gap_zone A B offA offB a1 a2 a3 t b1 b2 b3 t' pa1 pa2 pa3 pb1 pb2 pb3 err
      cA cB hAB hE hsort ha31 hta hb31 htb hz1 hz2
  refine ⟨u, v, hA, hB, ?_, hAt, hBt, huv⟩
  rw [hout]
  rcases herrs with ⟨rfl, _⟩ | ⟨p, _, _, rfl⟩ <;> rfl

/-! ### the same header again — inside the window, after the window -/

theorem tx3_bursts (H : List Byte) (t1 t2 t3 t : Nat) (p1 p2 p3 : List Nat) (op : AOp)
    (hop : op ∈ tx3 H t1 t2 t3 t p1 p2 p3) (b : List Byte) (τ : Nat) (hb : op = .burst b τ) :
    b = H ∧ (τ = t1 ∨ τ = t2 ∨ τ = t3) := by
  subst hb
  simp only [tx3, List.mem_cons, List.mem_append, List.mem_map, AOp.burst.injEq, reduceCtorEq,
    and_false, exists_false, false_or, List.not_mem_nil, or_false] at hop
  rcases hop with ⟨rfl, rfl⟩ | ⟨rfl, rfl⟩ | ⟨rfl, rfl⟩ <;> simp

/-- after a transmission `A` has been reported and is remembered until `d`: polls and further bursts
    `A` ending before `d`, in any number and order, output nothing -/
theorem repeats_suppressed (S : AState) (A : List Byte) (offA : Nat) (hA : Header) (d d2 d3 T : Nat)
    (cA : Canon A offA) (hAt : hA.text = A) (hL : LeftBy S (.som hA) d [⟨A, d2⟩, ⟨A, d3⟩] T)
    (ops : List AOp) (hops : ∀ op ∈ ops, ∀ b τ, op = .burst b τ → b = A ∧ τ < d) :
    (runOps S ops).2 = [] := by
  refine (run_all_suppressed A (.som hA) d ⟨A, offA, 0, 0⟩ ⟨A, offA, 0, A.length⟩ cA.nonempty cA.fit
    cA.one cA.two cA.three hAt hAt ops S hops hL.pending hL.previous ?_).1
  intro e he
  have := hL.sub e he
  simp only [List.mem_cons, List.not_mem_nil, or_false] at this
  rcases this with rfl | rfl <;> rfl

/-- **Repeats inside the window are suppressed.**  Three bursts `A` from the
    initial state are reported once, at some tick `u`.  Whatever follows — polls at any times and
    any number of further bursts `A`, each ending before `u + HIST`, in any order — adds nothing:
    the run still outputs exactly that one StartOfMessage. -/
theorem repeats_in_window_suppressed (A : List Byte) (offA a1 a2 a3 t : Nat) (pa1 pa2 pa3 : List Nat)
    (cA : Canon A offA) (hsort : Sorted (tx3 A a1 a2 a3 t pa1 pa2 pa3))
    (ha31 : a3 < a1 + HIST) (hta : a3 + HOLD ≤ t) :
    ∃ u hA, hA.text = A ∧ hA.offsetTime = offA ∧ a2 + HOLD ≤ u ∧ u ≤ t
      ∧ (runOps {} (tx3 A a1 a2 a3 t pa1 pa2 pa3)).2 = [(u, .ok (.som hA))]
      ∧ ∀ ops : List AOp, (∀ op ∈ ops, ∀ b τ, op = .burst b τ → b = A ∧ τ < u + HIST) →
          (runOps {} (tx3 A a1 a2 a3 t pa1 pa2 pa3 ++ ops)).2 = [(u, .ok (.som hA))] := by
  obtain ⟨u, hA, hAt, hAo, _, hu1, hu2, houtA, hL⟩ :=
    first3 A offA a1 a2 a3 t t pa1 pa2 pa3 cA hsort ha31 hta (Nat.le_refl _)
  refine ⟨u, hA, hAt, hAo, hu1, hu2, houtA, ?_⟩
  intro ops hops
  rw [runOps_append_snd, houtA, repeats_suppressed _ A offA hA _ _ _ _ cA hAt hL ops hops]
  rfl

/-- **The same header transmitted twice, three bursts each.**  `u` is the tick of the first
    report (`a2 + HOLD ≤ u ≤ t ≤ b1`); the duplicate record lives until `u + HIST`.
    (a) If the last burst of the second transmission ends before the record expires
        (`b3 < u + HIST`), the run outputs exactly one StartOfMessage.
    (b) If the first burst of the second transmission ends after the record has expired
        (`u + HIST ≤ b1`) and after the stored bursts of the first transmission have
        (`a3 + HIST ≤ b1`), the run outputs exactly two StartOfMessages with text `A`. -/
theorem same_header_twice (A : List Byte) (offA a1 a2 a3 t b1 b2 b3 t' : Nat)
    (pa1 pa2 pa3 pb1 pb2 pb3 : List Nat) (cA : Canon A offA)
    (hsort : Sorted (tx3 A a1 a2 a3 t pa1 pa2 pa3 ++ tx3 A b1 b2 b3 t' pb1 pb2 pb3))
    (ha31 : a3 < a1 + HIST) (hta : a3 + HOLD ≤ t)
    (hb31 : b3 < b1 + HIST) (htb : b3 + HOLD ≤ t') :
    ∃ u hA, hA.text = A ∧ hA.offsetTime = offA ∧ a2 + HOLD ≤ u ∧ u ≤ b1
      ∧ (runOps {} (tx3 A a1 a2 a3 t pa1 pa2 pa3)).2 = [(u, .ok (.som hA))]
      ∧ (b3 < u + HIST →
          (runOps {} (tx3 A a1 a2 a3 t pa1 pa2 pa3 ++ tx3 A b1 b2 b3 t' pb1 pb2 pb3)).2
            = [(u, .ok (.som hA))])
      ∧ (u + HIST ≤ b1 → a3 + HIST ≤ b1 → ∃ v hA',
          (runOps {} (tx3 A a1 a2 a3 t pa1 pa2 pa3 ++ tx3 A b1 b2 b3 t' pb1 pb2 pb3)).2
            = [(u, .ok (.som hA)), (v, .ok (.som hA'))]
          ∧ hA'.text = A ∧ hA'.offsetTime = offA ∧ b2 + HOLD ≤ v) := by
  obtain ⟨hsA, hsB, hx⟩ := Asm.sorted_append _ _ hsort
  have htb1 : t ≤ b1 := hx _ (tx3_mem_last ..) _ (tx3_mem_first ..)
  obtain ⟨hb12, hb23, hpb1, hpb2, _⟩ := sorted_tx3 _ _ _ _ _ _ _ _ hsB
  obtain ⟨u, hA, hAt, hAo, _, hu1, hu2, houtA, hL⟩ :=
    first3 A offA a1 a2 a3 t b1 pa1 pa2 pa3 cA hsA ha31 hta htb1
  have hmt : (Msg.som hA).text = A := hAt
  refine ⟨u, hA, hAt, hAo, hu1, hu2, houtA, ?_, ?_⟩
  · intro hin
    rw [runOps_append_snd, houtA, repeats_suppressed _ A offA hA _ _ _ _ cA hAt hL
      (tx3 A b1 b2 b3 t' pb1 pb2 pb3)
      (by
        intro op hop b τ hb
        obtain ⟨h1, h2⟩ := tx3_bursts _ _ _ _ _ _ _ _ op hop b τ hb
        refine ⟨h1, ?_⟩
        rcases h2 with rfl | rfl | rfl <;> omega)]
    rfl
  · intro hrec hbur
    obtain ⟨ha12, ha23, _⟩ := sorted_tx3 _ _ _ _ _ _ _ _ hsA
    rw [runOps_append_snd, houtA]
    generalize (runOps {} (tx3 A a1 a2 a3 t pa1 pa2 pa3)).1 = S at hL
    have hexp := leftovers_expired hL (Nat.le_refl _) (by omega) hbur
    have htake : A.take MAXLEN = A := List.take_of_length_le cA.fit
    obtain ⟨v, h, hh, hv, ho, _⟩ := transmission3_st S A A A b1 b2 b3 t' ⟨A, offA, 0, 0⟩
      ⟨A, offA, 0, A.length⟩ pb1 pb2 pb3 cA.nonempty cA.nonempty cA.nonempty
      (by rw [htake]; exact cA.one) (by rw [htake]; exact cA.two) (by rw [htake]; exact cA.three)
      (Nat.zero_le _) rfl hexp hL.pending
      (by intro p hp hlt; rw [hL.previous] at hp; cases hp; simp only at hlt; omega)
      hb12 hb23 hb31 hpb1 hpb2 htb
    have ho' : (runOps S (tx3 A b1 b2 b3 t' pb1 pb2 pb3)).2 = [(v, .ok (.som h))] := ho
    refine ⟨v, h, by rw [ho']; rfl, ?_, ?_, hv⟩ <;> rcases hh with ⟨rfl, _⟩ | ⟨rfl, _⟩ <;> rfl

/-! ### reports follow the burst log -/

section FollowLog
open SameVerif.AsmPos

/-- **The output ticks never decrease.** -/
theorem output_times_nondecreasing (ops : List AOp) (hsort : Sorted ops) :
    ((runOps {} ops).2.map (·.1)).Pairwise (· ≤ ·) := by
  have h : (ops.map AOp.time).Pairwise (· ≤ ·) := List.pairwise_map.mpr hsort
  exact h.sublist (out_times_sublist ops {})

/-- **Reports follow the burst log.**  Run any operations in time order from the initial state;
    `burstLog ops` lists the non-empty bursts received (clipped to the burst buffer).  The outputs
    can be matched, one by one and in order, with positions `e₁ < e₂ < …` of the burst log such that
    the `i`-th output is `combine` of a run of at most three consecutive bursts ending with burst
    number `eᵢ`.  The positions are *strictly* increasing: no two reports rest on runs with the same
    last burst, and a later report never rests on an earlier-ending run. -/
theorem reports_follow_burst_log (ops : List AOp) (hsort : Sorted ops) :
    ∃ ends : List Nat, Matches (burstLog ops) (runOps {} ops).2 ends ∧ ends.Pairwise (· < ·) := by
  obtain ⟨ends, hm, hpw, _⟩ := run_matches ops {} [] 0 0 hsort (fun _ _ => Nat.zero_le _) inv_init
    (pendPos_of_none _ _ _ rfl) (Nat.le_refl _)
  rw [List.nil_append] at hm
  exact ⟨ends, hm, hpw⟩

/-- the number of outputs never exceeds the number of bursts received -/
theorem outputs_le_bursts (ops : List AOp) (hsort : Sorted ops) :
    (runOps {} ops).2.length ≤ (burstLog ops).length := by
  obtain ⟨ends, hm, hpw, hpos⟩ := run_matches ops {} [] 0 0 hsort (fun _ _ => Nat.zero_le _) inv_init
    (pendPos_of_none _ _ _ rfl) (Nat.le_refl _)
  rw [List.nil_append] at hm
  -- strictly increasing positive positions, each at most the log length
  have hlen : ∀ (outs : List (Nat × MsgResult)) (ends : List Nat),
      Matches (burstLog ops) outs ends → outs.length = ends.length ∧ ∀ e ∈ ends, e ≤ (burstLog ops).length := by
    intro outs ends h
    induction h with
    | nil => exact ⟨rfl, by simp⟩
    | cons h1 _ ih =>
      obtain ⟨r, hr, _⟩ := h1
      refine ⟨by simp [ih.1], ?_⟩
      intro e he
      rcases List.mem_cons.mp he with rfl | he
      · exact hr.le
      · exact ih.2 e he
  have hinc : ∀ (ends : List Nat) (k : Nat), ends.Pairwise (· < ·) → (∀ e ∈ ends, k < e) →
      ∀ n, (∀ e ∈ ends, e ≤ n) → ends.length ≤ n - k := by
    intro ends
    induction ends with
    | nil => intro k _ _ n _; simp
    | cons a l ih =>
      intro k hp hk n hn
      have hp' := List.pairwise_cons.mp hp
      have := ih a hp'.2 hp'.1 n (fun e he => hn e (by simp [he]))
      have := hk a (by simp)
      have := hn a (by simp)
      simp only [List.length_cons]
      omega
  obtain ⟨h1, h2⟩ := hlen _ _ hm
  have := hinc ends 0 hpw hpos _ h2
  omega

/-- **Any two reports.**  If the output `(v, oB)` comes after the output `(u, oA)`, then
    `u ≤ v`, and there are runs `rA`, `rB` of at most three consecutive bursts of the burst log with
    `combine rA = oA`, `combine rB = oB` such that `rB` ends strictly later in the log than `rA`. -/
theorem reports_in_log_order (ops : List AOp) (hsort : Sorted ops)
    (pre mid post : List (Nat × MsgResult)) (u v : Nat) (oA oB : MsgResult)
    (hout : (runOps {} ops).2 = pre ++ (u, oA) :: (mid ++ (v, oB) :: post)) :
    u ≤ v ∧ ∃ rA rB eA eB, RunEndsAt rA (burstLog ops) eA ∧ RunEndsAt rB (burstLog ops) eB
      ∧ combine MAXLEN rA = some oA ∧ combine MAXLEN rB = some oB ∧ eA < eB := by
  constructor
  · have h := output_times_nondecreasing ops hsort
    rw [hout] at h
    simp only [List.map_append, List.map_cons] at h
    have h2 := (List.pairwise_cons.mp (List.pairwise_append.mp h).2.1).1
    exact h2 v (by simp)
  · obtain ⟨ends, hm, hpw⟩ := reports_follow_burst_log ops hsort
    rw [hout] at hm
    obtain ⟨e1, eA, e2, rfl, _, hm2, rA, hrA, hcA⟩ := matches_split _ _ _ _ _ hm
    obtain ⟨e3, eB, e4, rfl, _, _, rB, hrB, hcB⟩ := matches_split _ _ _ _ _ hm2
    refine ⟨rA, rB, eA, eB, hrA, hrB, hcA, hcB, ?_⟩
    have h2 := (List.pairwise_cons.mp (List.pairwise_append.mp hpw).2.1).1
    exact h2 eB (by simp)

/-- **Any two StartOfMessages**, with the evidence of C04: each run holds two or three bursts
    and supports every byte of its header; the run supporting the later report ends strictly later
    in the burst log. -/
theorem som_reports_in_log_order (ops : List AOp) (hsort : Sorted ops)
    (pre mid post : List (Nat × MsgResult)) (u v : Nat) (hA hB : Header)
    (hout : (runOps {} ops).2 = pre ++ (u, .ok (.som hA)) :: (mid ++ (v, .ok (.som hB)) :: post)) :
    u ≤ v ∧ ∃ rA rB eA eB, RunEndsAt rA (burstLog ops) eA ∧ RunEndsAt rB (burstLog ops) eB
      ∧ IsRun rA (burstLog ops) ∧ IsRun rB (burstLog ops)
      ∧ combine MAXLEN rA = some (.ok (.som hA)) ∧ combine MAXLEN rB = some (.ok (.som hB))
      ∧ 2 ≤ rA.length ∧ 2 ≤ rB.length
      ∧ (∀ (i : Nat) (hi : i < hA.text.length), SupportsByte rA i hA.text[i])
      ∧ (∀ (i : Nat) (hi : i < hB.text.length), SupportsByte rB i hB.text[i])
      ∧ eA < eB := by
  obtain ⟨huv, rA, rB, eA, eB, hrA, hrB, hcA, hcB, hlt⟩ :=
    reports_in_log_order ops hsort pre mid post u v _ _ hout
  obtain ⟨a1, a2⟩ := C04.run_supports rA hA hrA.1 hcA
  obtain ⟨b1, b2⟩ := C04.run_supports rB hB hrB.1 hcB
  exact ⟨huv, rA, rB, eA, eB, hrA, hrB, hrA.isRun, hrB.isRun, hcA, hcB, a1, b1, a2, b2, hlt⟩

end FollowLog

/-! ### what is false: the gap hypotheses matter -/

/-- "ZCZC-WXR-RWE-012345+0030-1231200-sz2-": `C02.shortCallHeader` with the event code `RWE` -/
def shortCallHeaderE : List Byte :=
  [90, 67, 90, 67, 45, 87, 88, 82, 45, 82, 87, 69, 45, 48, 49, 50, 51, 52, 53, 43, 48, 48, 51, 48, 45,
   49, 50, 51, 49, 50, 48, 48, 45, 115, 122, 50, 45]

theorem shortCallHeaderE_canonical :
    checkHeader shortCallHeaderE = some (19, shortCallHeaderE.length)
      ∧ shortCallHeaderE.all isAllowed = true ∧ shortCallHeaderE.length = 37
      ∧ C02.shortCallHeader ≠ shortCallHeaderE := by
  decide +kernel

theorem canon_short : Canon C02.shortCallHeader 19 := by
  have hc := C02.shortCallHeader_canonical
  exact ⟨fun b hb => List.all_eq_true.mp hc.2.1 b hb, hc.1, by rw [hc.2.2]; decide⟩

theorem canon_shortE : Canon shortCallHeaderE 19 := by
  have hc := shortCallHeaderE_canonical
  exact ⟨fun b hb => List.all_eq_true.mp hc.2.1 b hb, hc.1, by rw [hc.2.2.1]; decide⟩

/-- **Counterexample (gap zone): an error report between the two messages.**  Transmission `A`
    (bursts ending at 1000, 1950, 2900) is released at 3600.  The first burst of `B` ends at 8000:
    `a2 + HIST = 7602 ≤ 8000 < 8552 = a3 + HIST`, so exactly one burst `A` is still stored.  The
    vote over `A B` stops at the first differing byte and the remaining prefix does not parse: an
    *error* is held, and a poll at `8700 ≥ b1 + HOLD` — before the second burst `B` — outputs it.
    Outputs: `A`, `Err(malformed)`, `B`. -/
theorem gap_error_counterexample :
    (runOps {} (tx3 C02.shortCallHeader 1000 1950 2900 3600 [] [] []
        ++ tx3 shortCallHeaderE 8000 8950 9900 10600 [8700] [] [])).2
      = [(3600, .ok (.som ⟨C02.shortCallHeader, 19, 0, 37⟩)), (8700, .error .malformed),
         (10600, .ok (.som ⟨shortCallHeaderE, 19, 0, 37⟩))]
    ∧ Sorted (tx3 C02.shortCallHeader 1000 1950 2900 3600 [] [] []
        ++ tx3 shortCallHeaderE 8000 8950 9900 10600 [8700] [] [])
    ∧ 2900 + HOLD ≤ 3600 ∧ 1950 + HIST ≤ 8000 ∧ 8000 < 2900 + HIST := by
  unfold Sorted
  decide +kernel

/-- `shortCallHeader` followed by `?` `-` and by a slash and `-`: two canonical headers whose common
    prefix (callsign `sz2`) is itself a canonical header (the callsign field is matched greedily,
    cf. F7) -/
def phantomA : List Byte := C02.shortCallHeader ++ [63, 45]
def phantomB : List Byte := C02.shortCallHeader ++ [47, 45]

/-- **Counterexample (gap zone): a header that was never transmitted.**  Same schedule; the vote
    over `A B` is the common prefix, which parses: the 37-byte header "…-sz2-" is reported between
    `A` and `B` although no transmission carried it. -/
theorem gap_phantom_counterexample :
    (checkHeader phantomA = some (19, phantomA.length) ∧ phantomA.all isAllowed = true)
    ∧ (checkHeader phantomB = some (19, phantomB.length) ∧ phantomB.all isAllowed = true)
    ∧ (runOps {} (tx3 phantomA 1000 1950 2900 3600 [] [] []
        ++ tx3 phantomB 8000 8950 9900 10600 [8700] [] [])).2
      = [(3600, .ok (.som ⟨phantomA, 19, 0, 39⟩)), (8700, .ok (.som ⟨C02.shortCallHeader, 19, 0, 0⟩)),
         (10600, .ok (.som ⟨phantomB, 19, 0, 39⟩))] := by
  decide +kernel

/-- **Counterexample (no poll before the next transmission): the first message is lost.**
    `a3 + HOLD = 3582 ≤ 3700 = b1`, but no call polls the assembler in between.  The vote `A A B`
    reads `A` with as many voted bytes as the held `A` and *replaces* it (new deadline
    `b1 + HOLD`); the vote `A B B` then replaces that by `B` (F8).  Only `B` is ever output. -/
theorem no_poll_first_lost_counterexample :
    (runOps {} [.burst C02.shortCallHeader 1000, .burst C02.shortCallHeader 1950,
                .burst C02.shortCallHeader 2900,
                .burst shortCallHeaderE 3700, .poll 3800, .burst shortCallHeaderE 4650,
                .burst shortCallHeaderE 5600, .poll 6400]).2
      = [(6400, .ok (.som ⟨shortCallHeaderE, 19, 0, 37⟩))]
    ∧ 2900 + HOLD ≤ 3700 := by
  decide +kernel

/-- **The window condition of `repeats_in_window_suppressed` is sharp.**  `A` is reported at `u = 3600`; the record lives
    until `u + HIST = 9252`.  The repeat's first two bursts (7400, 8350) are suppressed, its third
    ends at `9300 ≥ 9252`: the record is gone, the vote over the three new bursts passes, and `A`
    is reported again. -/
theorem repeat_straddling_window_reported :
    (runOps {} (tx3 C02.shortCallHeader 1000 1950 2900 3600 [] [] []
        ++ tx3 C02.shortCallHeader 7400 8350 9300 10000 [] [] [])).2
      = [(3600, .ok (.som ⟨C02.shortCallHeader, 19, 0, 37⟩)),
         (10000, .ok (.som ⟨C02.shortCallHeader, 19, 0, 37⟩))]
    ∧ 3600 + HIST ≤ 9300 ∧ 8350 < 3600 + HIST := by
  decide +kernel

/-! ### the hypotheses are satisfiable -/

/-- `two_transmissions_in_order` on two concrete headers, the second transmission one second after
    the first was released (`b1 = 3700 < a2 + HIST`): by the general theorem -/
theorem two_transmissions_example_near :
    ∃ u v hA hB,
      (runOps {} (tx3 C02.shortCallHeader 1000 1950 2900 3600 [1500] [2000] [3000]
        ++ tx3 shortCallHeaderE 3700 4650 5600 6400 [3800] [4700, 5400] [5700])).2
        = [(u, .ok (.som hA)), (v, .ok (.som hB))]
      ∧ hA.text = C02.shortCallHeader ∧ hA.offsetTime = 19
      ∧ hB.text = shortCallHeaderE ∧ hB.offsetTime = 19
      ∧ u < v ∧ 1950 + HOLD ≤ u ∧ u ≤ 3700 ∧ 4650 + HOLD ≤ v :=
  two_transmissions_in_order C02.shortCallHeader shortCallHeaderE 19 19 1000 1950 2900 3600
    3700 4650 5600 6400 [1500] [2000] [3000] [3800] [4700, 5400] [5700] canon_short canon_shortE
    shortCallHeaderE_canonical.2.2.2 (by unfold Sorted; decide +kernel) (by decide) (by decide)
    (by decide) (by decide) (Or.inl (by decide))

/-- the same run evaluated: `A` at 3600 (fully voted), `B` at 5400 — the poll at
    `5400 ≥ b2 + HOLD` releases the two-of-three vote `A B B` (two disputed bits) before the third
    burst `B` arrives, which is then suppressed -/
theorem two_transmissions_example_near_eval :
    (runOps {} (tx3 C02.shortCallHeader 1000 1950 2900 3600 [1500] [2000] [3000]
        ++ tx3 shortCallHeaderE 3700 4650 5600 6400 [3800] [4700, 5400] [5700])).2
      = [(3600, .ok (.som ⟨C02.shortCallHeader, 19, 0, 37⟩)),
         (5400, .ok (.som ⟨shortCallHeaderE, 19, 2, 37⟩))] := by
  decide +kernel

/-- `two_transmissions_in_order` with the second transmission after the stored bursts have expired
    (`a3 + HIST ≤ b1`) -/
theorem two_transmissions_example_far :
    ∃ u v hA hB,
      (runOps {} (tx3 C02.shortCallHeader 1000 1950 2900 3600 [] [] []
        ++ tx3 shortCallHeaderE 9000 9950 10900 11600 [] [] [])).2
        = [(u, .ok (.som hA)), (v, .ok (.som hB))]
      ∧ hA.text = C02.shortCallHeader ∧ hA.offsetTime = 19
      ∧ hB.text = shortCallHeaderE ∧ hB.offsetTime = 19
      ∧ u < v ∧ 1950 + HOLD ≤ u ∧ u ≤ 9000 ∧ 9950 + HOLD ≤ v :=
  two_transmissions_in_order C02.shortCallHeader shortCallHeaderE 19 19 1000 1950 2900 3600
    9000 9950 10900 11600 [] [] [] [] [] [] canon_short canon_shortE
    shortCallHeaderE_canonical.2.2.2 (by unfold Sorted; decide +kernel) (by decide) (by decide)
    (by decide) (by decide) (Or.inr (by decide))

/-- the hypotheses of `same_header_twice` are satisfiable -/
theorem same_header_twice_instance :
    ∃ u hA, hA.text = C02.shortCallHeader ∧ hA.offsetTime = 19 ∧ 1950 + HOLD ≤ u ∧ u ≤ 9300
      ∧ (runOps {} (tx3 C02.shortCallHeader 1000 1950 2900 3600 [] [] [])).2 = [(u, .ok (.som hA))]
      ∧ (11200 < u + HIST →
          (runOps {} (tx3 C02.shortCallHeader 1000 1950 2900 3600 [] [] []
            ++ tx3 C02.shortCallHeader 9300 10250 11200 11900 [] [] [])).2 = [(u, .ok (.som hA))])
      ∧ (u + HIST ≤ 9300 → 2900 + HIST ≤ 9300 → ∃ v hA',
          (runOps {} (tx3 C02.shortCallHeader 1000 1950 2900 3600 [] [] []
            ++ tx3 C02.shortCallHeader 9300 10250 11200 11900 [] [] [])).2
            = [(u, .ok (.som hA)), (v, .ok (.som hA'))]
          ∧ hA'.text = C02.shortCallHeader ∧ hA'.offsetTime = 19 ∧ 10250 + HOLD ≤ v) :=
  same_header_twice C02.shortCallHeader 19 1000 1950 2900 3600 9300 10250 11200 11900
    [] [] [] [] [] [] canon_short (by unfold Sorted; decide +kernel) (by decide) (by decide)
    (by decide) (by decide)

/-- the gap-zone theorem on the schedule of `gap_error_counterexample`, by the general theorem -/
theorem two_transmissions_gap_zone_example :
    ∃ u v hA hB errs,
      (runOps {} (tx3 C02.shortCallHeader 1000 1950 2900 3600 [] [] []
        ++ tx3 shortCallHeaderE 8000 8950 9900 10600 [8700] [] [])).2
        = (u, .ok (.som hA)) :: (errs ++ [(v, .ok (.som hB))])
      ∧ ((errs = [] ∧ ∀ p ∈ [8700], p < 8000 + HOLD)
          ∨ ∃ p ∈ [8700], 8000 + HOLD ≤ p ∧ errs = [(p, .error .malformed)])
      ∧ hA.text = C02.shortCallHeader ∧ hA.offsetTime = 19
      ∧ hB.text = shortCallHeaderE ∧ hB.offsetTime = 19
      ∧ u < v ∧ 1950 + HOLD ≤ u ∧ u ≤ 8000 ∧ 8950 + HOLD ≤ v :=
  two_transmissions_gap_zone C02.shortCallHeader shortCallHeaderE 19 19 1000 1950 2900 3600
    8000 8950 9900 10600 [] [] [] [8700] [] [] .malformed canon_short canon_shortE
    shortCallHeaderE_canonical.2.2.2 (by decide +kernel) (by unfold Sorted; decide +kernel)
    (by decide) (by decide) (by decide) (by decide) (by decide) (by decide)

/-- `same_header_twice` on a concrete header: both branches are reachable -/
theorem same_header_twice_example :
    (runOps {} (tx3 C02.shortCallHeader 1000 1950 2900 3600 [] [] []
        ++ tx3 C02.shortCallHeader 5000 5950 6900 7600 [] [] [])).2
      = [(3600, .ok (.som ⟨C02.shortCallHeader, 19, 0, 37⟩))]
    ∧ (runOps {} (tx3 C02.shortCallHeader 1000 1950 2900 3600 [] [] []
        ++ tx3 C02.shortCallHeader 9300 10250 11200 11900 [] [] [])).2
      = [(3600, .ok (.som ⟨C02.shortCallHeader, 19, 0, 37⟩)),
         (11900, .ok (.som ⟨C02.shortCallHeader, 19, 0, 37⟩))]
    ∧ 6900 < 3600 + HIST ∧ 3600 + HIST ≤ 9300 ∧ 2900 + HIST ≤ 9300 := by
  decide +kernel

end SameVerif.C05seq
