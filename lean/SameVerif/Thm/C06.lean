import SameVerif.Lemmas.HeaderFields
import SameVerif.Lemmas.HeaderAccessors
import SameVerif.Model.Message
import SameVerif.Lemmas.HeaderSem
import SameVerif.Thm.C16
/-
  C06 — Header parsing accepts exactly the SAME grammar and exposes fields faithfully:
  acceptance and error kinds, the stored text, the plain accessors, re-parsing, the dispatch of
  `TryFrom`, the interpreting accessors.  The work is in Lemmas/HeaderParse, HeaderFields,
  HeaderAccessors, HeaderSem; here `new_cases` and `canonical_of_parse` put it in the shape the
  property theorems use.
-/
namespace SameVerif.C06
open SameVerif

/-- `MessageHeader::new` by cases: not ASCII; ASCII without a match; ASCII and matched as `f`, whose
    rendering is stored with the position of `+` -/
theorem new_cases (s : List Byte) :
    (s.all isAsciiByte = false ∧ Header.new s = .error .notAscii)
      ∨ (s.all isAsciiByte = true ∧ parseFields s = none ∧ Header.new s = .error .malformed)
      ∨ (s.all isAsciiByte = true ∧ ∃ f, parseFields s = some f ∧ f.WF ∧ s = f.render ++ f.rest
          ∧ Header.new s = .ok ⟨f.render, 12 + 7 * f.locs.length, 0, 0⟩) := by
  unfold Header.new checkHeader
  cases s.all isAsciiByte with
  | false => exact Or.inl ⟨rfl, rfl⟩
  | true =>
    cases hp : parseFields s with
    | none => exact Or.inr (Or.inl ⟨rfl, rfl, rfl⟩)
    | some f =>
      obtain ⟨hw, hs⟩ := parseFields_sound s f hp
      refine Or.inr (Or.inr ⟨rfl, f, rfl, hw, hs, ?_⟩)
      -- `check_header`'s end of match is the length of the rendering
      have htake : s.take (12 + 7 * f.locs.length + 14 + f.call.length + 1) = f.render := by
        conv => lhs; rw [hs]
        exact List.take_left' (by rw [fields_render_length f hw]; omega)
      simp only [Bool.not_true, Bool.false_eq_true, if_false, htake]

/-- **Accepted exactly the SAME grammar.**  A text is accepted iff it is ASCII and begins with
    `ZCZC-ORG-EEE(-PSSCCC)+ +TTTT-JJJHHMM-CALLSIGN-` (3 letters, 3 letters, 6-digit locations,
    4 and 7 digits, 3..8 characters other than LF). -/
theorem accepts_iff (s : List Byte) :
    (∃ h, Header.new s = .ok h) ↔
      (s.all isAsciiByte = true ∧ ∃ f rest, Fields.WF f ∧ s = f.render ++ rest) := by
  constructor
  · rintro ⟨h, hn⟩
    rcases new_cases s with ⟨_, e⟩ | ⟨_, _, e⟩ | ⟨ha, f, _, hw, hs, _⟩
    · rw [e] at hn; cases hn
    · rw [e] at hn; cases hn
    · exact ⟨ha, f, f.rest, hw, hs⟩
  · rintro ⟨ha, f, rest, hw, hs⟩
    obtain ⟨call', rest', hp⟩ := parseFields_complete f rest hw
    rw [← hs] at hp
    rcases new_cases s with ⟨ha', _⟩ | ⟨_, hp', _⟩ | ⟨_, _, _, _, _, e⟩
    · rw [ha] at ha'; cases ha'
    · rw [hp] at hp'; cases hp'
    · exact ⟨_, e⟩

/-- error kinds, in the code's order: non-ASCII first, then Malformed; never anything else -/
theorem rejects (s : List Byte) :
    (Header.new s = .error .notAscii ↔ s.all isAsciiByte = false) ∧
    (Header.new s = .error .malformed ↔
      (s.all isAsciiByte = true ∧ ¬ ∃ f rest, Fields.WF f ∧ s = f.render ++ rest)) ∧
    Header.new s ≠ .error .unrecognizedPrefix := by
  rcases new_cases s with ⟨ha, e⟩ | ⟨ha, _, e⟩ | ⟨ha, f, _, hw, hs, e⟩ <;> rw [e, ha]
  · exact ⟨⟨fun _ => rfl, fun _ => rfl⟩, ⟨fun h => (by cases h), fun h => (by cases h.1)⟩,
      fun h => (by cases h)⟩
  · refine ⟨⟨fun h => (by cases h), fun h => (by cases h)⟩, ⟨fun _ => ⟨rfl, fun hex => ?_⟩, fun _ => rfl⟩,
      fun h => (by cases h)⟩
    obtain ⟨h, hn⟩ := (accepts_iff s).2 ⟨ha, hex⟩
    rw [e] at hn; cases hn
  · exact ⟨⟨fun h => (by cases h), fun h => (by cases h)⟩,
      ⟨fun h => (by cases h), fun h => absurd ⟨f, f.rest, hw, hs⟩ h.2⟩, fun h => (by cases h)⟩

/-- **The stored text is exactly the matched prefix**, its time offset is the position of `+`,
    and the counters start at zero. -/
theorem text_canonical (s : List Byte) (h : Header) (hn : Header.new s = .ok h) :
    ∃ f, Fields.WF f ∧ parseFields s = some f ∧ h.text = f.render ∧ s = h.text ++ f.rest
      ∧ h.offsetTime = 12 + 7 * f.locs.length ∧ h.parity = 0 ∧ h.voting = 0 := by
  rcases new_cases s with ⟨_, e⟩ | ⟨_, _, e⟩ | ⟨_, f, hp, hw, hs, e⟩ <;> rw [e] at hn
  · cases hn
  · cases hn
  · injection hn with hn
    subst hn
    exact ⟨f, hw, hp, rfl, hs, rfl, rfl, rfl⟩

/-- **Longest match.**  No header-shaped prefix of the input is longer than the stored text. -/
theorem text_longest (s : List Byte) (h : Header) (hn : Header.new s = .ok h)
    (g : Fields) (r : List Byte) (hg : Fields.WF g) (hs : s = g.render ++ r) :
    g.render.length ≤ h.text.length := by
  obtain ⟨f, hw, hp, ht, hsf, _, _, _⟩ := text_canonical s h hn
  obtain ⟨call', rest', hp'⟩ := parseFields_complete g r hg
  -- the matcher's callsign came from `callsignOf` on what follows the issue time
  have hcs : callsignOf (f.call ++ 45 :: f.rest) = some (f.call, f.rest) := (parseFields_sound' s f hp).2.2
  have e : f.render ++ f.rest = g.render ++ r := by rw [← ht, ← hsf, ← hs]
  -- f agrees with g on everything before the callsign, so both callsigns split the same remainder;
  -- f.call is the greedy choice
  rw [← hs, hp] at hp'
  injection hp' with hp'
  subst hp'
  simp only [Fields.render, List.append_assoc, List.cons_append, List.append_cancel_left_eq,
    List.cons.injEq, true_and] at e
  have := callsignOf_greedy _ call' rest' g.call r hcs e hg.call
  rw [ht, fields_render_length _ hw, fields_render_length g hg]
  exact Nat.add_le_add_left this _

/-! ## Accessors, re-parsing, line feeds, dispatch -/

/-- the facts of `text_canonical`, for the fields `f` the matcher found -/
theorem canonical_of_parse (s : List Byte) (h : Header) (hn : Header.new s = .ok h)
    (f : Fields) (hp : parseFields s = some f) :
    Fields.WF f ∧ h.text = f.render ∧ s = h.text ++ f.rest
      ∧ h.offsetTime = 12 + 7 * f.locs.length ∧ h.parity = 0 ∧ h.voting = 0 := by
  obtain ⟨f', hw, hp', ht, hs, ho, hpa, hv⟩ := text_canonical s h hn
  rw [hp] at hp'
  simp only [Option.some.injEq] at hp'
  subst hp'
  exact ⟨hw, ht, hs, ho, hpa, hv⟩

section accessors
variable (s : List Byte) (h : Header) (hn : Header.new s = .ok h)
  (f : Fields) (hp : parseFields s = some f)
include hn hp

/-- **Accessors are faithful.**  Every accessor of an accepted header returns exactly the field the
    matcher found. -/
theorem accessors :
    h.originatorStr = .ok f.org ∧ h.eventStr = .ok f.evt ∧ h.callsign = .ok f.call
    ∧ h.locationStr = .ok ([45].intercalate f.locs) ∧ h.locations = .ok f.locs
    ∧ h.validDurationFields = .ok (digitsVal (f.purge.take 2), digitsVal (f.purge.drop 2))
    ∧ h.issueDaytimeFields = .ok (digitsVal (f.issue.take 3), digitsVal ((f.issue.drop 3).take 2),
        digitsVal (f.issue.drop 5)) := by
  obtain ⟨hw, ht, _, ho, _, _⟩ := canonical_of_parse s h hn f hp
  refine ⟨originatorStr_render h f hw ht, eventStr_render h f hw ht, callsign_render h f hw ht ho, ?_,
    locations_render h f hw ht ho, validDurationFields_render h f hw ht ho,
    issueDaytimeFields_render h f hw ht ho⟩
  rw [← locText_eq_intercalate]
  exact locationStr_render h f hw ht ho

end accessors

/-- **No accessor can panic** on an accepted header: no slice is out of bounds, every numeric parse
    succeeds. -/
theorem accessors_total (s : List Byte) (h : Header) (hn : Header.new s = .ok h) :
    (∃ v, h.originatorStr = .ok v) ∧ (∃ v, h.eventStr = .ok v) ∧ (∃ v, h.callsign = .ok v)
    ∧ (∃ v, h.locationStr = .ok v) ∧ (∃ v, h.locations = .ok v)
    ∧ (∃ v, h.validDurationFields = .ok v) ∧ (∃ v, h.issueDaytimeFields = .ok v) := by
  obtain ⟨f, _, hp, _⟩ := text_canonical s h hn
  obtain ⟨h1, h2, h3, h4, h5, h6, h7⟩ := accessors s h hn f hp
  exact ⟨⟨_, h1⟩, ⟨_, h2⟩, ⟨_, h3⟩, ⟨_, h4⟩, ⟨_, h5⟩, ⟨_, h6⟩, ⟨_, h7⟩⟩

/-- **Re-parsing is the identity.**  The stored text of an accepted header is itself accepted and
    yields an equal header (same text, same time offset, zero counters). -/
theorem reparse (s : List Byte) (h : Header) (hn : Header.new s = .ok h) :
    Header.new h.text = .ok h := by
  obtain ⟨f, hw, hp, ht, hs, ho, hpa, hv⟩ := text_canonical s h hn
  have hascii : s.all isAsciiByte = true := ((accepts_iff s).mp ⟨h, hn⟩).1
  have ha : h.text.all isAsciiByte = true := by
    rw [hs, List.all_append, Bool.and_eq_true] at hascii
    exact hascii.1
  have hpr := parseFields_render f hw
  have hlen := fields_render_length f hw
  obtain ⟨text, off, par, vot⟩ := h
  simp only at ht ho hpa hv ha
  subst ht ho hpa hv
  simp only [Header.new, ha, Bool.not_true, Bool.false_eq_true, ↓reduceIte, checkHeader, hpr]
  rw [List.take_of_length_le (by omega)]

/-- **No line feed.**  The stored text of an accepted header contains no LF byte. -/
theorem text_no_lf (s : List Byte) (h : Header) (hn : Header.new s = .ok h) : (10 : Byte) ∉ h.text := by
  obtain ⟨f, hw, _, ht, _⟩ := text_canonical s h hn
  rw [ht]
  exact render_no_lf f hw

/-- `new_with_error_info` accepts exactly what `new` accepts; it changes the two counters only -/
theorem newWithErrorInfo_ok (s : List Byte) (errs counts : List Nat) (h : Header) :
    Header.newWithErrorInfo s errs counts = .ok h ↔
      ∃ h0, Header.new s = .ok h0 ∧ h.text = h0.text ∧ h.offsetTime = h0.offsetTime
        ∧ h.parity = ((errs.zip h0.text).map (·.1)).sum
        ∧ h.voting = ((counts.zip h0.text).filter (fun p => !(p.1 < 3))).length := by
  unfold Header.newWithErrorInfo Header.newWithErrors
  cases hn : Header.new s with
  | error e => simp
  | ok h0 =>
    simp only [Except.ok.injEq]
    constructor
    · rintro rfl; exact ⟨h0, rfl, rfl, rfl, rfl, rfl⟩
    · rintro ⟨h1, he, h2, h3, h4, h5⟩
      cases he
      obtain ⟨t, o, p, v⟩ := h
      simp only at h2 h3 h4 h5
      subst h2 h3 h4 h5
      rfl

theorem newWithErrorInfo_error (s : List Byte) (errs counts : List Nat) (e : DecodeErr) :
    Header.newWithErrorInfo s errs counts = .error e ↔ Header.new s = .error e := by
  unfold Header.newWithErrorInfo Header.newWithErrors
  cases hn : Header.new s <;> simp

/-- **Dispatch of `TryFrom<(&[u8], &[u8], &[u8])>`.**  Invalid UTF-8 is `notAscii`; otherwise a
    `ZCZC-` prefix defers to `new_with_error_info` (same header, same error); otherwise an `NN`
    prefix is the end-of-message; otherwise the prefix is unrecognised. -/
theorem dispatch (inp : List Byte) (errs counts : List Nat) :
    (validUtf8 inp = false → Msg.tryFromBytes inp errs counts = .error .notAscii) ∧
    (validUtf8 inp = true → startsWith inp litZCZC = true →
      (∀ h, Msg.tryFromBytes inp errs counts = .ok (.som h)
              ↔ Header.newWithErrorInfo inp errs counts = .ok h) ∧
      (∀ e, Msg.tryFromBytes inp errs counts = .error e
              ↔ Header.newWithErrorInfo inp errs counts = .error e) ∧
      Msg.tryFromBytes inp errs counts ≠ .ok .eom) ∧
    (validUtf8 inp = true → startsWith inp litZCZC = false → startsWith inp litNN = true →
      Msg.tryFromBytes inp errs counts = .ok .eom) ∧
    (validUtf8 inp = true → startsWith inp litZCZC = false → startsWith inp litNN = false →
      Msg.tryFromBytes inp errs counts = .error .unrecognizedPrefix) := by
  refine ⟨?_, ?_, ?_, ?_⟩
  · intro hu; simp [Msg.tryFromBytes, hu]
  · intro hu hz
    simp only [Msg.tryFromBytes, hu, hz, Bool.not_true, Bool.false_eq_true, ↓reduceIte]
    cases Header.newWithErrorInfo inp errs counts <;> simp
  · intro hu hz hnn; simp [Msg.tryFromBytes, hu, hz, hnn]
  · intro hu hz hnn; simp [Msg.tryFromBytes, hu, hz, hnn]

/-- **Dispatch of `TryFrom<String>`**: as `dispatch`, without the UTF-8 test and with `new`. -/
theorem dispatch_string (inp : List Byte) :
    (startsWith inp litZCZC = true →
      (∀ h, Msg.tryFromString inp = .ok (.som h) ↔ Header.new inp = .ok h) ∧
      (∀ e, Msg.tryFromString inp = .error e ↔ Header.new inp = .error e) ∧
      Msg.tryFromString inp ≠ .ok .eom) ∧
    (startsWith inp litZCZC = false → startsWith inp litNN = true →
      Msg.tryFromString inp = .ok .eom) ∧
    (startsWith inp litZCZC = false → startsWith inp litNN = false →
      Msg.tryFromString inp = .error .unrecognizedPrefix) := by
  refine ⟨?_, ?_, ?_⟩
  · intro hz
    simp only [Msg.tryFromString, hz, ↓reduceIte]
    cases Header.new inp <;> simp
  · intro hz hnn; simp [Msg.tryFromString, hz, hnn]
  · intro hz hnn; simp [Msg.tryFromString, hz, hnn]

/-- the prefix tests of the dispatch, spelled out -/
theorem dispatch_prefix (inp : List Byte) :
    (startsWith inp litZCZC = true ↔ ∃ r, inp = [90, 67, 90, 67, 45] ++ r) ∧
    (startsWith inp litNN = true ↔ ∃ r, inp = [78, 78] ++ r) :=
  ⟨startsWith_iff inp litZCZC, startsWith_iff inp litNN⟩

/-! ### Non-vacuity: "ZCZC-WXR-RWT-012345-567890+0030-1231200-KLOX/NWS-" followed by junk -/

/-- "ZCZC-WXR-RWT-012345-567890+0030-1231200-KLOX/NWS-" -/
def exText : List Byte :=
  [90, 67, 90, 67, 45, 87, 88, 82, 45, 82, 87, 84, 45, 48, 49, 50, 51, 52, 53, 45, 53, 54, 55, 56, 57, 48,
   43, 48, 48, 51, 48, 45, 49, 50, 51, 49, 50, 48, 48, 45, 75, 76, 79, 88, 47, 78, 87, 83, 45]

/-- trailing bytes after the header: NUL, LF, "B-" -/
def exTrail : List Byte := [0, 10, 66, 45]

def exHeader : Header := ⟨exText, 26, 0, 0⟩

/-- the fields the matcher finds in the example -/
def exFields : Fields :=
  { org := [87, 88, 82], evt := [82, 87, 84]
    locs := [[48, 49, 50, 51, 52, 53], [53, 54, 55, 56, 57, 48]]
    purge := [48, 48, 51, 48], issue := [49, 50, 51, 49, 50, 48, 48]
    call := [75, 76, 79, 88, 47, 78, 87, 83], rest := exTrail }

example : parseFields (exText ++ exTrail) = some exFields := by rfl
example : Header.new (exText ++ exTrail) = .ok exHeader := by rfl
example : exHeader.originatorStr = .ok [87, 88, 82] := by rfl                     -- "WXR"
example : exHeader.eventStr = .ok [82, 87, 84] := by rfl                          -- "RWT"
example : exHeader.locations = .ok [[48, 49, 50, 51, 52, 53], [53, 54, 55, 56, 57, 48]] := by
  rfl                                                                             -- "012345", "567890"
example : exHeader.callsign = .ok [75, 76, 79, 88, 47, 78, 87, 83] := by rfl      -- "KLOX/NWS"
example : exHeader.validDurationFields = .ok (0, 30) := by rfl
example : exHeader.issueDaytimeFields = .ok (123, 12, 0) := by rfl
example : Header.new exHeader.text = .ok exHeader := by rfl
example : Msg.tryFromString (exText ++ exTrail) = .ok (.som exHeader) := by rfl
example : Msg.tryFromBytes (exText ++ exTrail) [] [] = .ok (.som exHeader) := by rfl

/-! ## The interpreting accessors: `originator()`, `event()`, `is_national()` -/

open SameVerif.Gen

section sem
variable (s : List Byte) (h : Header) (hn : Header.new s = .ok h)
  (f : Fields) (hp : parseFields s = some f)
include hn hp

/-- `originator()` classifies exactly the matched originator code and callsign -/
theorem accessor_originator : h.originator = .ok (originatorOf (natStr f.org) (natStr f.call)) := by
  simp [Header.originator, (accessors s h hn f hp).1, (accessors s h hn f hp).2.2.1]

/-- `event()` decodes exactly the matched event code -/
theorem accessor_event : h.event = .ok (eventCode (natStr f.evt)) := by
  simp [Header.event, (accessors s h hn f hp).2.1]

/-- `is_national()`: the only location is `000000` and the matched event code decodes to a
    national phenomenon -/
theorem accessor_national :
    h.isNational = .ok (decide (f.locs = [[48, 48, 48, 48, 48, 48]]) && (eventCode (natStr f.evt)).1.info.national) := by
  obtain ⟨hw, _, _, _, _, _⟩ := canonical_of_parse s h hn f hp
  have hl := locs_national_iff f.locs hw.locs_ne hw.locs
  simp only [Header.isNational, (accessors s h hn f hp).2.2.2.1, accessor_event s h hn f hp, hl]
  by_cases hg : f.locs = [[48, 48, 48, 48, 48, 48]] <;> simp [hg]

end sem

/-- the originator class is a function of the ORG code and the first three callsign bytes only:
    the four assigned codes map to their class, `WXR` is Environment Canada exactly when the
    callsign *begins* `EC/`, every other three-letter code is `Unknown` -/
theorem originator_class (org call : List Byte) (hlen : org.length = 3) :
    originatorOf (natStr org) (natStr call) =
      if org = [80, 69, 80] then .PrimaryEntryPoint
      else if org = [67, 73, 86] then .CivilAuthority
      else if org = [69, 65, 83] then .BroadcastStation
      else if org = [87, 88, 82] then
        (if call.take 3 = [69, 67, 47] then .EnvironmentCanada else .NationalWeatherService)
      else .Unknown := by
  obtain ⟨c1, c2, c3, c4⟩ := C16.originator_codes (natStr call)
  by_cases h1 : org = [80, 69, 80]
  · rw [if_pos h1, h1]; exact c1
  by_cases h2 : org = [67, 73, 86]
  · rw [if_neg h1, if_pos h2, h2]; exact c2
  by_cases h3 : org = [69, 65, 83]
  · rw [if_neg h1, if_neg h2, if_pos h3, h3]; exact c3
  by_cases h4 : org = [87, 88, 82]
  · -- `EC/` is tested on the first three bytes of the callsign
    have hc : startsWithN (natStr call) [69, 67, 47] = decide (call.take 3 = [69, 67, 47]) := by
      have e : startsWithN (natStr call) [69, 67, 47] = (natStr (call.take 3) == natStr [69, 67, 47]) := by
        simp [startsWithN, natStr, List.map_take]
      rw [e]
      by_cases hh : call.take 3 = [69, 67, 47]
      · simp [hh]
      · simp only [hh, decide_false, beq_eq_false_iff_ne, ne_eq]
        exact fun e => hh (natStr_inj _ _ e)
    rw [if_neg h1, if_neg h2, if_neg h3, if_pos h4, h4]
    refine c4.trans ?_
    rw [hc]
    by_cases hh : call.take 3 = [69, 67, 47] <;> simp [hh]
  · rw [if_neg h1, if_neg h2, if_neg h3, if_neg h4]
    exact C16.originator_unknown _ _ (by simp [natStr, hlen])
      ⟨fun e => h1 (natStr_inj _ [80, 69, 80] e), fun e => h2 (natStr_inj _ [67, 73, 86] e),
        fun e => h4 (natStr_inj _ [87, 88, 82] e), fun e => h3 (natStr_inj _ [69, 65, 83] e)⟩

/-- **The national flag reflects the text.**  `is_national()` is true exactly when the header's
    only location is `000000` and its event code is one of EAN, NIC, NAT, NPT, NST. -/
theorem national_flag (s : List Byte) (h : Header) (hn : Header.new s = .ok h)
    (f : Fields) (hp : parseFields s = some f) :
    h.isNational = .ok true ↔ (f.locs = [[48, 48, 48, 48, 48, 48]] ∧ natStr f.evt ∈ nationalCodes) := by
  rw [accessor_national s h hn f hp, ← national_iff]
  by_cases hg : f.locs = [[48, 48, 48, 48, 48, 48]] <;> simp [hg]

/-- the interpreting accessors cannot panic either -/
theorem sem_accessors_total (s : List Byte) (h : Header) (hn : Header.new s = .ok h) :
    (∃ v, h.originator = .ok v) ∧ (∃ v, h.event = .ok v) ∧ (∃ v, h.isNational = .ok v) := by
  obtain ⟨f, _, hp, _⟩ := text_canonical s h hn
  exact ⟨⟨_, accessor_originator s h hn f hp⟩, ⟨_, accessor_event s h hn f hp⟩,
    ⟨_, accessor_national s h hn f hp⟩⟩

-- the hypotheses are met and the conclusions are not trivial: an Environment Canada header, a
-- National Weather Service header whose callsign merely *contains* `EC/`, and a national test
def exEC : List Byte := [90, 67, 90, 67, 45, 87, 88, 82, 45, 83, 86, 82, 45, 48, 49, 50, 51, 52, 53, 43, 48, 48, 51, 48, 45, 49, 50, 51, 49, 50, 48, 48, 45, 69, 67, 47, 71, 67, 47, 67, 65, 45]
def exKEC : List Byte := [90, 67, 90, 67, 45, 87, 88, 82, 45, 83, 86, 82, 45, 48, 49, 50, 51, 52, 53, 43, 48, 48, 51, 48, 45, 49, 50, 51, 49, 50, 48, 48, 45, 75, 69, 67, 47, 78, 87, 83, 32, 45]
def exNPT : List Byte := [90, 67, 90, 67, 45, 80, 69, 80, 45, 78, 80, 84, 45, 48, 48, 48, 48, 48, 48, 43, 48, 48, 51, 48, 45, 49, 50, 51, 49, 50, 48, 48, 45, 87, 72, 73, 84, 69, 72, 83, 69, 45]
def exNPT2 : List Byte := [90, 67, 90, 67, 45, 80, 69, 80, 45, 78, 80, 84, 45, 48, 48, 48, 48, 48, 48, 45, 48, 49, 50, 51, 52, 53, 43, 48, 48, 51, 48, 45, 49, 50, 51, 49, 50, 48, 48, 45, 87, 72, 73, 84, 69, 72, 83, 69, 45]
example : Header.new exEC = .ok ⟨exEC, 19, 0, 0⟩ := by rfl
example : (⟨exEC, 19, 0, 0⟩ : Header).originator = .ok .EnvironmentCanada := by rfl
example : Header.new exKEC = .ok ⟨exKEC, 19, 0, 0⟩ := by rfl
example : (⟨exKEC, 19, 0, 0⟩ : Header).originator = .ok .NationalWeatherService := by rfl
example : Header.new exNPT = .ok ⟨exNPT, 19, 0, 0⟩ := by rfl
example : (⟨exNPT, 19, 0, 0⟩ : Header).isNational = .ok true := by rfl
example : Header.new exNPT2 = .ok ⟨exNPT2, 26, 0, 0⟩ := by rfl
example : (⟨exNPT2, 26, 0, 0⟩ : Header).isNational = .ok false := by rfl

end SameVerif.C06
