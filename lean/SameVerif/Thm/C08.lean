import SameVerif.Lemmas.AssemblerSteps
/-
  C08 — Bounded reporting delay: trailers at once, headers within the hold time.
  Theorems about the assembler model (ticks = symbol-synchronizer outputs).
-/
namespace SameVerif.C08
open SameVerif

/-- no EndOfMessage is ever left waiting in the pending slot -/
def NoEomPending (s : AState) : Prop := ∀ t, s.pending = some t → t.data ≠ .ok .eom

/-- every pending result is due no later than `T + HOLD` -/
def PendingDueBy (s : AState) (T : Nat) : Prop := ∀ t, s.pending = some t → t.deadline ≤ T + HOLD

/-- **Trailers at once (1).**  The invariant holds initially; `noEomPending_step` preserves it. -/
theorem noEomPending_init : NoEomPending {} := by
  intro t h; simp at h

/-- an EndOfMessage in the slot that `aIdle` is about to poll was accepted by this very call -/
theorem preIdle_eom_pending (s : AState) (op : AOp) (h : NoEomPending s)
    (t : Timed MsgResult) (hp : (Asm.preIdle s op).pending = some t) (hdat : t.data = .ok .eom) :
    ∃ b now, op = .burst b now ∧ b.isEmpty = false ∧ estimateOf s b now = some (.ok .eom)
      ∧ t = ⟨.ok .eom, now⟩ := by
  cases op with
  | poll u => exact absurd hdat (h t hp)
  | burst b now =>
    by_cases hb : b.isEmpty = true
    · rw [Asm.preIdle_burst_empty _ _ _ hb] at hp; exact absurd hdat (h t hp)
    · rw [Asm.preIdle_burst _ _ _ (by simpa using hb)] at hp
      simp only at hp
      rcases Asm.pendingAfter_cases s b now with hpa | ⟨r, hest, hpa⟩
      · rw [hpa] at hp; exact absurd hdat (h t hp)
      · rw [hpa] at hp
        cases hp
        rw [acceptNew_data] at hdat
        subst hdat
        exact ⟨b, now, rfl, by simpa using hb, hest, rfl⟩

/-- the invariant is preserved by every call: an EndOfMessage accepted by a burst is due at once,
    so the poll at the end of that very call has already released it -/
theorem noEomPending_step (s : AState) (op : AOp) (h : NoEomPending s) :
    NoEomPending (stepOp s op).1 := by
  intro t ht heom
  rw [Asm.stepOp_eq, idle_pending] at ht
  rcases poll_pending (Asm.preIdle s op).pending op.time with hp | ⟨hp, t', ht', hlt⟩
  · rw [hp] at ht; cases ht
  · rw [hp] at ht
    rw [ht] at ht'
    cases ht'
    obtain ⟨b, now, rfl, _, _, rfl⟩ := preIdle_eom_pending s op h t ht heom
    exact absurd hlt (Nat.lt_irrefl _)

theorem noEomPending_idle (s : AState) (now : Nat) (h : NoEomPending s) : NoEomPending (aIdle s now).1 :=
  noEomPending_step s (.poll now) h

theorem noEomPending_assemble (s : AState) (burst : List Byte) (now : Nat) (h : NoEomPending s) :
    NoEomPending (aAssemble s burst now).1 :=
  noEomPending_step s (.burst burst now) h

/-- **Trailers at once (2).**  Whenever the estimate after a burst is an EndOfMessage and the slot
    takes it (it is empty, or holds an error), that same call outputs it. -/
theorem eom_same_call (s : AState) (burst : List Byte) (now : Nat) (hb : burst.isEmpty = false)
    (hres : estimateOf s burst now = some (.ok .eom))
    (hacc : accept s.pending (.ok .eom) now = some (acceptNew (.ok .eom) now)) :
    (aAssemble s burst now).2 = .message (.ok .eom) := by
  unfold aAssemble
  simp only [hb, Bool.false_eq_true, ↓reduceIte]
  unfold aIdle pendingAfter
  simp only [hres, hacc]
  unfold poll
  simp [acceptNew_eom, Timed.expiredAt]

/-- the slot takes an EndOfMessage exactly when it is empty or holds a decode error
    (a pending StartOfMessage is never displaced by a trailer) -/
theorem eom_accepted_iff (p : Option (Timed MsgResult)) (now : Nat) :
    accept p (.ok .eom) now = some (acceptNew (.ok .eom) now) ↔
      (p = none ∨ ∃ t e, p = some t ∧ t.data = .error e) ∨ p = some (acceptNew (.ok .eom) now) := by
  unfold accept
  cases p with
  | none => simp
  | some old =>
    cases hd : old.data with
    | error e => simp [acceptReplaces, hd]
    | ok m =>
      cases m with
      | eom =>
        simp [acceptReplaces, hd]
      | som hh =>
        simp [acceptReplaces, hd]

/-- **Headers within the hold time (1).**  `accept` never sets a deadline later than `now + HOLD`. -/
theorem pendingDueBy_accept (p : Option (Timed MsgResult)) (msg : MsgResult) (now T : Nat)
    (hT : T ≤ now) (h : ∀ t, p = some t → t.deadline ≤ T + HOLD) :
    ∀ t, accept p msg now = some t → t.deadline ≤ now + HOLD := by
  intro t ht
  rcases accept_cases p msg now with ha | ha
  · rw [ha] at ht; have := h t ht; omega
  · rw [ha] at ht
    cases ht
    exact acceptNew_deadline_le msg now

/-- **Headers within the hold time (2).**  A poll at or after the deadline outputs the pending
    result and empties the slot: nothing is held for ever. -/
theorem due_is_released (s : AState) (t : Timed MsgResult) (now : Nat)
    (hp : s.pending = some t) (hdue : t.deadline ≤ now) :
    (aIdle s now).2 = .message t.data ∧ (aIdle s now).1.pending = none := by
  rw [Asm.idle_of_due s t now hp hdue]
  exact ⟨rfl, rfl⟩

/-- a poll before the deadline keeps the slot and reports no message -/
theorem not_due_is_kept (s : AState) (t : Timed MsgResult) (now : Nat)
    (hp : s.pending = some t) (hdue : now < t.deadline) :
    (aIdle s now).1.pending = some t ∧ ∀ r, (aIdle s now).2 ≠ .message r := by
  obtain ⟨hs, hq⟩ := Asm.idle_of_not_due s t now hp hdue
  exact ⟨by rw [hs], hq⟩

/-- the hold is the documented one: 1.05 s of symbols plus 17 bytes, i.e. at most 1.311 s -/
theorem hold_le_documented :
    HOLD * 100 ≤ (105 * Gen.BAUD_CENTIHZ + 17 * 8 * 10000) / 100 ∧ HOLD * 100000 ≤ 1311 * Gen.BAUD_CENTIHZ + 100000 := by
  decide

end SameVerif.C08
