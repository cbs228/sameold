import SameVerif.Lemmas.RxProv
/-
  C08 at receiver level — the hold survives carrier activity: a pending result is reported at the
  FIRST NoCarrier tick at or after its deadline whatever Searching / Reading ticks intervene
  (no burst), nothing is reported before, and the deadline is acceptance + HOLD exactly.
  (Separate module: Lemmas/ReceiverFacts imports Thm/C08, so these cannot live in Thm/C08.)
  The one-tick facts and the runs that cannot release the result are in Lemmas/HoldRun
  (`carrier_tick_holding`, `quiet_early_run`, `hold_releases`, `hold_releases_run`,
  `hold_releases_unconditional`).
-/
namespace SameVerif.RxProv
open SameVerif SameVerif.C08 SameVerif.C09 SameVerif.C14

/-- `hold_releases_unconditional` (no assumption on the timer) as membership in the events of the
    whole run -/
theorem hold_releases_unconditional_run (rate : Nat) (s : RState) (t : Timed MsgResult) (h : Holding s t)
    (pre mid post : List RTick) (sample1 sym1 sample2 sym2 : Nat)
    (hpre : ∀ tk ∈ pre, Early t tk) (hmid : ∀ tk ∈ mid, Early t tk)
    (hdue1 : t.deadline ≤ sym1) (hdue2 : t.deadline ≤ sym2) :
    Event.transport sample1 (.message t.data)
        ∈ (rRun rate s (pre ++ (sample1, sym1, .noCarrier) :: (mid ++ (sample2, sym2, .noCarrier) :: post))).2
    ∨ Event.transport sample2 (.message t.data)
        ∈ (rRun rate s (pre ++ (sample1, sym1, .noCarrier) :: (mid ++ (sample2, sym2, .noCarrier) :: post))).2 := by
  rw [rRun_append, rRun_cons, rRun_append, rRun_cons]
  simp only [List.mem_append]
  rcases hold_releases_unconditional rate s t h pre mid sample1 sym1 sample2 sym2 hpre hmid hdue1 hdue2
    with h1 | h2
  · exact Or.inl (Or.inr (Or.inl h1))
  · exact Or.inr (Or.inr (Or.inr (Or.inr (Or.inl h2))))

/-! ### With the deadline bound: reported within `HOLD` symbols of acceptance -/

theorem acceptNew_deadline_eq (r : MsgResult) (now : Nat) (hr : r ≠ .ok .eom) :
    (acceptNew r now).deadline = now + HOLD := by
  unfold acceptNew
  split
  · exact absurd rfl hr
  · rfl

/-- a result that `accept` stored at symbol `now` and that is pending under the invariant is not
    an EndOfMessage, so its deadline is exactly `now + HOLD` -/
theorem holding_acceptNew_deadline (s : RState) (r : MsgResult) (now : Nat)
    (h : Holding s (acceptNew r now)) : (acceptNew r now).deadline = now + HOLD := by
  apply acceptNew_deadline_eq
  intro hr
  exact h.noeom _ h.pend (by rw [acceptNew_data]; exact hr)

/-- where a pending result comes from: after a burst tick at symbol `now` the slot is empty, or
    holds what it held before, or holds a result accepted at `now` (due at `now + HOLD` exactly) -/
theorem burst_tick_pending (rate : Nat) (s : RState) (sample now : Nat) (b : List Byte)
    (hne : NoEomPending s.asm) :
    (rTick rate s sample now (.burst b)).1.asm.pending = none
      ∨ (rTick rate s sample now (.burst b)).1.asm.pending = s.asm.pending
      ∨ ∃ r, (rTick rate s sample now (.burst b)).1.asm.pending = some (acceptNew r now)
          ∧ (acceptNew r now).deadline = now + HOLD := by
  have hasm : (rTick rate s sample now (.burst b)).1.asm = (aAssemble s.asm b now).1 := by
    rw [rTick_eq]; rfl
  have hne' : NoEomPending (rTick rate s sample now (.burst b)).1.asm := by
    rw [hasm]; exact noEomPending_assemble s.asm b now hne
  rw [hasm] at hne' ⊢
  obtain ⟨a', ha, hp⟩ := aAssemble_as_idle s.asm b now
  rw [ha] at hne' ⊢
  rcases aIdle_cases a' now with ⟨_, _, _, _, h4⟩ | ⟨h1, _, _⟩
  · exact Or.inl h4
  · rcases hp with hp | ⟨r, hp⟩
    · right; left; rw [h1, hp]
    · right; right
      refine ⟨r, by rw [h1, hp], acceptNew_deadline_eq r now ?_⟩
      intro hr
      exact hne' _ (by rw [h1, hp]) (by rw [acceptNew_data]; exact hr)

/-- Bound form.  `t` pending with `t.deadline ≤ D` (e.g. `D = now + HOLD` for a result
    accepted at `now`: `acceptNew_deadline_le`; or `D = T + HOLD` from `PendingDueBy`); no bursts;
    the timer does not fire; some NoCarrier tick has `sym ≥ D`.  Split the ticks at the FIRST
    NoCarrier tick with `sym ≥ D`: the message has been reported by the end of that tick — at a
    NoCarrier tick of the prefix or at that very tick. -/
theorem hold_released_by (rate : Nat) (s : RState) (t : Timed MsgResult) (h : Holding s t) (D : Nat)
    (hD : t.deadline ≤ D)
    (ticks : List RTick) (hnb : ∀ tk ∈ ticks, ∀ b, tk.2.2 ≠ .burst b)
    (hforce : ∀ T, s.forceEomAt = some T → ∀ tk ∈ ticks, tk.1 ≤ T)
    (hex : ∃ tk ∈ ticks, tk.2.2 = .noCarrier ∧ D ≤ tk.2.1) :
    ∃ pre sample sym post, ticks = pre ++ (sample, sym, .noCarrier) :: post
      ∧ D ≤ sym
      ∧ (∀ x ∈ pre, x.2.2 ≠ .noCarrier ∨ x.2.1 < D)
      ∧ ∃ tk ∈ pre ++ [(sample, sym, .noCarrier)], tk.2.2 = .noCarrier ∧ t.deadline ≤ tk.2.1
          ∧ Event.transport tk.1 (.message t.data) ∈ (rRun rate s (pre ++ [(sample, sym, .noCarrier)])).2 := by
  obtain ⟨pre, tk, post, rfl, h1, h2⟩ :=
    exists_first (fun tk => tk.2.2 = .noCarrier ∧ D ≤ tk.2.1) ticks hex
  obtain ⟨sample, sym, ls⟩ := tk
  simp only at h2
  obtain ⟨rfl, hdue⟩ := h2
  refine ⟨pre, sample, sym, post, rfl, hdue, before_first_due D pre h1, ?_⟩
  have hsub : ∀ tk ∈ pre ++ [(sample, sym, .noCarrier)], tk ∈ pre ++ (sample, sym, .noCarrier) :: post := by
    intro tk htk
    rcases List.mem_append.1 htk with h | h
    · exact List.mem_append_left _ h
    · rw [List.mem_singleton.1 h]; simp
  obtain ⟨p, smp, sy, q, hsplit, hdl, _, _, _, _, _, hmem⟩ :=
    hold_releases_run rate s t h (pre ++ [(sample, sym, .noCarrier)])
      (fun tk htk => hnb tk (hsub tk htk)) (fun T hT tk htk => hforce T hT tk (hsub tk htk))
      ⟨(sample, sym, .noCarrier), by simp, rfl, by simp only; omega⟩
  refine ⟨(smp, sy, .noCarrier), ?_, rfl, hdl, hmem⟩
  rw [hsplit]; simp

/-- Exact form.  A result accepted at symbol `now` and pending under the invariant is
    reported exactly at the first NoCarrier tick with `sym ≥ now + HOLD` (no bursts, timer not
    firing), and no message event precedes it. -/
theorem accepted_released (rate : Nat) (s : RState) (r : MsgResult) (now : Nat)
    (h : Holding s (acceptNew r now))
    (ticks : List RTick) (hnb : ∀ tk ∈ ticks, ∀ b, tk.2.2 ≠ .burst b)
    (hforce : ∀ T, s.forceEomAt = some T → ∀ tk ∈ ticks, tk.1 ≤ T)
    (hex : ∃ tk ∈ ticks, tk.2.2 = .noCarrier ∧ now + HOLD ≤ tk.2.1) :
    ∃ pre sample sym post, ticks = pre ++ (sample, sym, .noCarrier) :: post
      ∧ now + HOLD ≤ sym
      ∧ (∀ x ∈ pre, x.2.2 ≠ .noCarrier ∨ x.2.1 < now + HOLD)
      ∧ NoMessage (rRun rate s pre).2
      ∧ Event.transport sample (.message r)
          ∈ (rTick rate (rRun rate s pre).1 sample sym .noCarrier).2
      ∧ Event.transport sample (.message r) ∈ (rRun rate s ticks).2 := by
  have hd := holding_acceptNew_deadline s r now h
  obtain ⟨pre, sample, sym, post, h1, h2, h3, h4, h5, _, _, h8⟩ :=
    hold_releases_run rate s _ h ticks hnb hforce (by rw [hd]; exact hex)
  rw [hd] at h2 h3
  rw [acceptNew_data] at h5 h8
  exact ⟨pre, sample, sym, post, h1, h2, h3, h4, h5, h8⟩

/-- From a burst tick.  Receiver invariant before a burst tick at symbol `now`; if the
    slot afterwards holds a result `t` that was not there before, then `t` is reported exactly at
    the first NoCarrier tick with `sym ≥ now + HOLD` of any burst-free continuation on which the
    timer does not fire. -/
theorem burst_then_released (rate : Nat) (s : RState) (hinv : RInv s) (sample0 now : Nat) (b : List Byte)
    (t : Timed MsgResult)
    (hp : (rTick rate s sample0 now (.burst b)).1.asm.pending = some t)
    (hnew : s.asm.pending ≠ some t)
    (ticks : List RTick) (hnb : ∀ tk ∈ ticks, ∀ b, tk.2.2 ≠ .burst b)
    (hforce : ∀ T, (rTick rate s sample0 now (.burst b)).1.forceEomAt = some T → ∀ tk ∈ ticks, tk.1 ≤ T)
    (hex : ∃ tk ∈ ticks, tk.2.2 = .noCarrier ∧ now + HOLD ≤ tk.2.1) :
    t.deadline = now + HOLD
      ∧ ∃ pre sample sym post, ticks = pre ++ (sample, sym, .noCarrier) :: post
        ∧ now + HOLD ≤ sym
        ∧ (∀ x ∈ pre, x.2.2 ≠ .noCarrier ∨ x.2.1 < now + HOLD)
        ∧ NoMessage (rRun rate (rTick rate s sample0 now (.burst b)).1 pre).2
        ∧ Event.transport sample (.message t.data)
            ∈ (rRun rate (rTick rate s sample0 now (.burst b)).1 ticks).2 := by
  have hinv' := rInv_tick rate s sample0 now (.burst b) hinv
  have hold := holding_of_rInv _ t hinv' hp
  have hd : t.deadline = now + HOLD := by
    rcases burst_tick_pending rate s sample0 now b hinv.2.2 with h | h | ⟨r, h, hdl⟩
    · rw [h] at hp; cases hp
    · rw [h] at hp; exact absurd hp hnew
    · rw [h] at hp; cases hp; exact hdl
  refine ⟨hd, ?_⟩
  obtain ⟨pre, sample, sym, post, h1, h2, h3, h4, _, _, _, h8⟩ :=
    hold_releases_run rate _ t hold ticks hnb hforce (by rw [hd]; exact hex)
  rw [hd] at h2 h3
  exact ⟨pre, sample, sym, post, h1, h2, h3, h4, h8⟩

/-! ### Non-vacuity: a header due at symbol 5; Searching / Reading ticks intervene -/

example : (rRun 8000 C09.st0 [(16, 3, .noCarrier), (32, 9, .searching), (48, 10, .reading),
      (64, 4, .noCarrier), (80, 5, .noCarrier)]).2
    = [Event.link 32 .searching, Event.link 48 .reading, Event.link 64 .noCarrier,
       Event.transport 80 (.message (.ok (.som C09.hdr0)))] := by
  rfl

/-- a burst may pre-empt: `hold_releases_run` needs "no burst" (here an empty burst at the deadline is itself a
    poll and releases the header — the report then happens at a burst tick, not a NoCarrier tick) -/
example : (rRun 8000 C09.st0 [(16, 5, .burst []), (32, 6, .noCarrier)]).2
    = [Event.link 16 (.burst []), Event.transport 16 (.message (.ok (.som C09.hdr0))),
       Event.link 32 .noCarrier, Event.transport 32 .idle] := by
  rfl

end SameVerif.RxProv
