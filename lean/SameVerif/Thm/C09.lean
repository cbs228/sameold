import SameVerif.Lemmas.ReceiverFacts
import SameVerif.Model.FramerRun
/-
  C09 — Every StartOfMessage is eventually closed: the forced end-of-message timer of the
  receiver glue (`process_transportlayer` / `process()`), model `SameVerif/Model/Receiver.lean`.
  At the end, the model witness of finding F9 (DESIGN.md): at framer level the NoCarrier tick that
  the timer needs can be withheld for ever by re-synchronisations (`feedR`, `slipping`,
  `search_restart_unbounded`).
-/
namespace SameVerif.C09
open SameVerif SameVerif.C08

/-- the timeout in samples; the statements below spell it out -/
abbrev TIMEOUT (rate : Nat) : Nat := Gen.MAX_MESSAGE_DURATION_SECS * rate

/-! ### The timer is armed by StartOfMessage, cleared by EndOfMessage, otherwise untouched -/

theorem timer_armed (rate : Nat) (s : RState) (sample sym : Nat) (ls : LinkSt) (h : Header)
    (hout : (transportLayer rate s sample sym ls).2 = some (.message (.ok (.som h)))) :
    (transportLayer rate s sample sym ls).1.forceEomAt
      = some (sample + Gen.MAX_MESSAGE_DURATION_SECS * rate) := by
  rw [transportLayer_eq] at hout ⊢
  simp only at hout ⊢
  rw [hout]; rfl

theorem timer_cleared (rate : Nat) (s : RState) (sample sym : Nat) (ls : LinkSt)
    (hout : (transportLayer rate s sample sym ls).2 = some (.message (.ok .eom))) :
    (transportLayer rate s sample sym ls).1.forceEomAt = none := by
  rw [transportLayer_eq] at hout ⊢
  simp only at hout ⊢
  rw [hout]; rfl

/-- Any other answer — none, `idle`, `assembling`, a decode error — leaves
    the timer as it was. -/
theorem timer_unchanged (rate : Nat) (s : RState) (sample sym : Nat) (ls : LinkSt)
    (hsom : ∀ h, (transportLayer rate s sample sym ls).2 ≠ some (.message (.ok (.som h))))
    (heom : (transportLayer rate s sample sym ls).2 ≠ some (.message (.ok .eom))) :
    (transportLayer rate s sample sym ls).1.forceEomAt = s.forceEomAt := by
  rw [transportLayer_eq] at hsom heom ⊢
  rcases forceAfter_cases rate sample s.forceEomAt (tlCore s sample sym ls).2 with ⟨h, ho, _⟩ | ⟨ho, _⟩ | ⟨_, hf⟩
  · exact absurd ho (hsom h)
  · exact absurd ho heom
  · exact hf

/-- the transport layer never touches the link state or the reported transport state -/
theorem transportLayer_frame (rate : Nat) (s : RState) (sample sym : Nat) (ls : LinkSt) :
    (transportLayer rate s sample sym ls).1.linkState = s.linkState
      ∧ (transportLayer rate s sample sym ls).1.transportState = s.transportState := by
  rw [transportLayer_eq]; exact ⟨rfl, rfl⟩

/-! ### The forced EndOfMessage -/

/-- Timer armed, link reports `NoCarrier`, sample counter beyond the timeout: the answer
    is EndOfMessage, the timer is cleared, the assembler is not consulted. -/
theorem forced_eom (rate : Nat) (s : RState) (sample sym T : Nat)
    (hT : s.forceEomAt = some T) (hlate : sample > T) :
    (transportLayer rate s sample sym .noCarrier).2 = some (.message (.ok .eom))
      ∧ (transportLayer rate s sample sym .noCarrier).1.forceEomAt = none
      ∧ (transportLayer rate s sample sym .noCarrier).1.asm = s.asm := by
  rw [transportLayer_eq, tlCore_forced s sample sym T hT hlate]
  exact ⟨rfl, rfl, rfl⟩

/-! ### The change filter does not swallow the forced EndOfMessage -/

theorem forceInv_init : ForceInv {} := rInv_init.1

theorem forceInv_tick (rate : Nat) (s : RState) (sample sym : Nat) (ls : LinkSt) (h : ForceInv s) :
    ForceInv (rTick rate s sample sym ls).1 := by
  rw [rTick_eq]; exact forceInv_next rate s sample sym ls h

theorem forceInv_beq (s : RState) (h : ForceInv s) (hf : s.forceEomAt.isSome) :
    Transport.beq' s.transportState (.message (.ok .eom)) = false :=
  (Transport.beq'_false_iff _ _).2 (h hf)

/-- which transport events a tick emits: exactly the assembler's / timer's answer, stamped with
    the tick's sample counter, when it differs from the state reported so far -/
theorem mem_tick_transport (rate : Nat) (s : RState) (sample sym : Nat) (ls : LinkSt) (smp : Nat) (t : Transport) :
    Event.transport smp t ∈ (rTick rate s sample sym ls).2
      ↔ smp = sample ∧ (transportLayer rate s sample sym ls).2 = some t ∧ t ≠ s.transportState := by
  rw [rTick_eq, transportLayer_eq]
  simp only [List.mem_append]
  have hl : Event.transport smp t ∉ linkEv s sample ls := by
    unfold linkEv; split <;> simp
  cases hout : (tlCore s sample sym ls).2 with
  | none => simp [trEv, hl]
  | some t' =>
    simp only [trEv, hl, false_or, Option.some.injEq]
    by_cases hb : t'.beq' s.transportState = true
    · have := (Transport.beq'_iff _ _).1 hb
      simp only [hb, ↓reduceIte, List.not_mem_nil, false_iff]
      rintro ⟨_, rfl, h⟩
      exact h this
    · have hne : t' ≠ s.transportState := fun h => hb ((Transport.beq'_iff _ _).2 h)
      simp only [hb]
      simp only [Bool.false_eq_true, ↓reduceIte, List.mem_singleton, Event.transport.injEq]
      constructor
      · rintro ⟨rfl, rfl⟩; exact ⟨rfl, rfl, hne⟩
      · rintro ⟨rfl, rfl, _⟩; exact ⟨rfl, rfl⟩

/-- Under the hypotheses of `forced_eom` and `ForceInv`, `rTick` emits the EndOfMessage event
    (last of the tick's events), reports EndOfMessage and clears the timer. -/
theorem forced_eom_event (rate : Nat) (s : RState) (sample sym T : Nat) (hinv : ForceInv s)
    (hT : s.forceEomAt = some T) (hlate : sample > T) :
    Event.transport sample (.message (.ok .eom)) ∈ (rTick rate s sample sym .noCarrier).2
      ∧ (rTick rate s sample sym .noCarrier).2
          = linkEv s sample .noCarrier ++ [Event.transport sample (.message (.ok .eom))]
      ∧ (rTick rate s sample sym .noCarrier).1.forceEomAt = none
      ∧ (rTick rate s sample sym .noCarrier).1.transportState = .message (.ok .eom)
      ∧ (rTick rate s sample sym .noCarrier).1.asm = s.asm := by
  have hne : Transport.message (.ok .eom) ≠ s.transportState := fun h => hinv (by simp [hT]) h.symm
  have hb := (Transport.beq'_false_iff _ _).2 hne
  rw [mem_tick_transport, rTick_out, rTick_force, rTick_transportState, rTick_asm,
    tlCore_forced s sample sym T hT hlate]
  refine ⟨⟨rfl, (forced_eom rate s sample sym T hT hlate).1, hne⟩, ?_, rfl, rfl, rfl⟩
  simp [trEv, hb]

/-! ### A reported StartOfMessage always arms the timer -/

theorem som_event_arms (rate : Nat) (s : RState) (sample sym : Nat) (ls : LinkSt) (smp : Nat) (h : Header)
    (hev : Event.transport smp (.message (.ok (.som h))) ∈ (rTick rate s sample sym ls).2) :
    smp = sample
      ∧ (rTick rate s sample sym ls).1.forceEomAt = some (sample + Gen.MAX_MESSAGE_DURATION_SECS * rate)
      ∧ (rTick rate s sample sym ls).1.transportState = .message (.ok (.som h)) := by
  rw [mem_tick_transport, transportLayer_eq] at hev
  obtain ⟨h1, h2, _⟩ := hev
  simp only at h2
  rw [rTick_force, rTick_transportState, h2]
  exact ⟨h1, rfl, rfl⟩

/-! ### Every StartOfMessage is closed by the first NoCarrier tick after the timeout -/

/-- an event that closes (or supersedes) an open StartOfMessage -/
def Closes (e : Event) : Prop :=
  ∃ smp, e = .transport smp (.message (.ok .eom)) ∨ ∃ h, e = .transport smp (.message (.ok (.som h)))

/-- one tick with the timer armed: either a closing event is emitted, or the timer stays
    exactly as it is (it can neither be cleared nor re-armed silently) -/
theorem timer_step (rate : Nat) (s : RState) (sample sym : Nat) (ls : LinkSt) (T : Nat)
    (hinv : RInv s) (hT : s.forceEomAt = some T) :
    (∃ e ∈ (rTick rate s sample sym ls).2, Closes e)
      ∨ (rTick rate s sample sym ls).1.forceEomAt = some T := by
  have hemit : ∀ t, (tlCore s sample sym ls).2 = some t → t ≠ s.transportState →
      Event.transport sample t ∈ (rTick rate s sample sym ls).2 := by
    intro t hout hne
    rw [mem_tick_transport, transportLayer_eq]
    exact ⟨rfl, hout, hne⟩
  rcases forceAfter_cases rate sample s.forceEomAt (tlCore s sample sym ls).2 with ⟨h, ho, _⟩ | ⟨ho, _⟩ | ⟨_, hf⟩
  · exact Or.inl ⟨_, hemit _ ho (som_out_ne_state s sample sym ls h hinv.2.1 ho), sample, Or.inr ⟨h, rfl⟩⟩
  · exact Or.inl ⟨_, hemit _ ho (fun h => hinv.1 (by simp [hT]) h.symm), sample, Or.inl rfl⟩
  · right
    rw [rTick_force, hf]
    exact hT

/-- with the timer armed at `T`: whatever happens in between, by the first `NoCarrier` tick whose
    sample counter exceeds `T` a closing event has been emitted -/
theorem closed_by_timeout (rate : Nat) (s : RState) (T : Nat) (mid : List RTick) (sample sym : Nat)
    (hinv : RInv s) (hT : s.forceEomAt = some T) (hlate : sample > T) :
    ∃ e ∈ (rRun rate s (mid ++ [(sample, sym, .noCarrier)])).2, Closes e := by
  induction mid generalizing s with
  | nil =>
    refine ⟨_, ?_, sample, Or.inl rfl⟩
    rw [List.nil_append, rRun_cons, rRun_nil, List.append_nil]
    exact (forced_eom_event rate s sample sym T hinv.1 hT hlate).1
  | cons x xs ih =>
    obtain ⟨smp, sy, ls⟩ := x
    rw [List.cons_append, rRun_cons]
    rcases timer_step rate s smp sy ls T hinv hT with ⟨e, he, hc⟩ | hkeep
    · exact ⟨e, List.mem_append_left _ he, hc⟩
    · obtain ⟨e, he, hc⟩ := ih _ (rInv_tick rate s smp sy ls hinv) hkeep
      exact ⟨e, List.mem_append_right _ he, hc⟩

/-- the state right after a StartOfMessage event satisfies the invariant, whatever came before:
    the header has just left the pending slot, and the reported state is that header -/
theorem rInv_after_som (rate : Nat) (s : RState) (sample sym : Nat) (ls : LinkSt) (smp : Nat) (h : Header)
    (hev : Event.transport smp (.message (.ok (.som h))) ∈ (rTick rate s sample sym ls).2) :
    RInv (rTick rate s sample sym ls).1 := by
  obtain ⟨_, _, hts⟩ := som_event_arms rate s sample sym ls smp h hev
  rw [mem_tick_transport, transportLayer_eq] at hev
  obtain ⟨_, hout, _⟩ := hev
  simp only at hout
  have hnf : ¬ Forced s sample ls := by
    rintro ⟨rfl, T, hT, hlate⟩
    rw [tlCore_forced s sample sym T hT hlate] at hout
    cases hout
  have hasm : (rTick rate s sample sym ls).1.asm.pending = none := by
    rw [rTick_asm]; exact message_out_empties s sample sym ls _ hnf hout
  refine ⟨?_, ?_, ?_⟩
  · intro _; rw [hts]; simp
  · intro hp; rw [hasm] at hp; cases hp
  · intro t ht; rw [hasm] at ht; cases ht

/-- From ANY state `s0`, after any ticks `pre`: if the tick `(p, symp, lsp)` emits a
    StartOfMessage event, then for any later ticks `mid` followed by a `NoCarrier` tick with
    `sample > p + 135·rate`, the events of `mid ++ [that tick]` contain an EndOfMessage or a
    newer StartOfMessage.  (No assumption on sample or symbol counters being monotone.) -/
theorem closed_within (rate : Nat) (s0 : RState) (pre mid : List RTick)
    (p symp : Nat) (lsp : LinkSt) (h : Header) (sample sym : Nat)
    (hsom : Event.transport p (.message (.ok (.som h)))
              ∈ (rTick rate (rRun rate s0 pre).1 p symp lsp).2)
    (hlate : sample > p + Gen.MAX_MESSAGE_DURATION_SECS * rate) :
    ∃ e ∈ (rRun rate (rTick rate (rRun rate s0 pre).1 p symp lsp).1
              (mid ++ [(sample, sym, .noCarrier)])).2, Closes e := by
  have h2 := rInv_after_som rate _ p symp lsp p h hsom
  obtain ⟨_, harm, _⟩ := som_event_arms rate _ p symp lsp p h hsom
  exact closed_by_timeout rate _ _ mid sample sym h2 harm hlate

/-- Whole run.  The event list of the complete run is the concatenation of the four
    segments; the StartOfMessage lies in the second, a closing event in the third. -/
theorem closed_within_run (rate : Nat) (s0 : RState) (pre mid post : List RTick)
    (p symp : Nat) (lsp : LinkSt) (h : Header) (sample sym : Nat)
    (hsom : Event.transport p (.message (.ok (.som h)))
              ∈ (rTick rate (rRun rate s0 pre).1 p symp lsp).2)
    (hlate : sample > p + Gen.MAX_MESSAGE_DURATION_SECS * rate) :
    ∃ Epre Ep Emid Epost,
      (rRun rate s0 (pre ++ (p, symp, lsp) :: (mid ++ [(sample, sym, .noCarrier)]) ++ post)).2
          = Epre ++ Ep ++ Emid ++ Epost
        ∧ Epre = (rRun rate s0 pre).2
        ∧ Ep = (rTick rate (rRun rate s0 pre).1 p symp lsp).2
        ∧ Emid = (rRun rate (rTick rate (rRun rate s0 pre).1 p symp lsp).1
                    (mid ++ [(sample, sym, .noCarrier)])).2
        ∧ Event.transport p (.message (.ok (.som h))) ∈ Ep
        ∧ ∃ e ∈ Emid, Closes e := by
  refine ⟨_, _, _,
    (rRun rate (rRun rate (rTick rate (rRun rate s0 pre).1 p symp lsp).1
      (mid ++ [(sample, sym, .noCarrier)])).1 post).2, ?_, rfl, rfl, rfl, hsom,
    closed_within rate s0 pre mid p symp lsp h sample sym hsom hlate⟩
  rw [rRun_append, rRun_append, rRun_cons]
  simp only [List.append_assoc]

/-! ### Non-vacuity: a header is due at symbol 5; rate 1 sample/s, so the timeout is 135 samples -/

def hdr0 : Header := ⟨[90, 67], 0, 0, 0⟩
def st0 : RState := { asm := { pending := some ⟨.ok (.som hdr0), 5⟩ } }

example : RInv st0 := by
  refine ⟨fun h => (by cases h), fun _ => Or.inl rfl, ?_⟩
  intro t ht
  cases ht
  simp

/-- tick 1 releases the StartOfMessage at sample 10 (timer: 145); tick 2 reports `idle`;
    tick 3 (`sample = 146 > 145`) is the forced EndOfMessage -/
example : (rRun 1 st0 [(10, 5, .noCarrier), (100, 6, .noCarrier), (146, 7, .noCarrier)]).2
    = [Event.transport 10 (.message (.ok (.som hdr0))), Event.transport 100 .idle,
       Event.transport 146 (.message (.ok .eom))] := by
  rfl

example : (rRun 1 st0 [(10, 5, .noCarrier)]).1.forceEomAt = some 145 := by rfl

/-- `ForceInv` is needed in `forced_eom_event`: with the timer armed while EndOfMessage is already the reported
    state (unreachable, by `forceInv_tick`), the forced EndOfMessage would be swallowed -/
example : (rTick 1 { transportState := .message (.ok .eom), forceEomAt := some 0 } 1 0 .noCarrier).2 = [] := by
  rfl

/-! ### F9 — the prefix search can be prolonged for ever by re-synchronisations (model witness) -/

/-- the link states reported while feeding `(byte, restart)` pairs -/
def feedR (c : FCfg) : FState → List (Byte × Bool) → List LinkSt
  | _, [] => []
  | s, (b, r) :: bs => (finput c s b r).2 :: feedR c (finput c s b r).1 bs

/-- a preamble byte stream that is re-synchronised at every `k`-th byte -/
def slipping (k n : Nat) : List (Byte × Bool) := (List.range n).map (fun i => (0xAB, i % k == 0))

/-- the four words a search started on preamble bytes can hold are far from both prefixes -/
theorem preamble_words_far :
    7 < prefixErrors 0x000000AB ∧ 7 < prefixErrors 0x0000ABAB ∧ 7 < prefixErrors 0x00ABABAB
      ∧ 7 < prefixErrors 0xABABABAB := by decide

/-- the words reachable from a restart on preamble bytes -/
def PreWord (w : UInt32) : Prop := w = 0x000000AB ∨ w = 0x0000ABAB ∨ w = 0x00ABABAB ∨ w = 0xABABABAB

theorem preWord_step (w : UInt32) (h : PreWord w ∨ w = 0) : PreWord ((w <<< 8) ||| (0xAB : Byte).toUInt32) := by
  rcases h with (h | h | h | h) | h <;> subst h <;> unfold PreWord <;> decide

theorem preWord_far (c : FCfg) (hP : c.maxPrefixErr ≤ 7) (w : UInt32) (h : PreWord w) :
    ¬ prefixErrors w ≤ c.maxPrefixErr := by
  obtain ⟨h1, h2, h3, h4⟩ := preamble_words_far
  rcases h with h | h | h | h <;> subst h <;> omega

theorem search_step (c : FCfg) (hP : c.maxPrefixErr ≤ 7) (w : UInt32) (cnt : Nat) (r : Bool)
    (hw : PreWord w ∨ w = 0) (hc : r = true ∨ cnt + 1 ≤ Gen.PREFIX_SEARCH_LEN) :
    ∃ w' cnt', finput c (.search w cnt) 0xAB r = (.search w' cnt', .searching) ∧ PreWord w'
      ∧ cnt' = (if r then 1 else cnt + 1) := by
  cases r with
  | true =>
    have hw' := preWord_step 0 (Or.inr rfl)
    have hf := preWord_far c hP _ hw'
    refine ⟨_, 1, ?_, hw', rfl⟩
    simp only [finput, fend, finputNR, ↓reduceIte]
    rw [if_neg hf, if_neg (by decide)]
  | false =>
    have hw' := preWord_step w hw
    have hf := preWord_far c hP _ hw'
    have hc' : cnt + 1 ≤ Gen.PREFIX_SEARCH_LEN := by rcases hc with h | h; cases h; exact h
    refine ⟨_, cnt + 1, ?_, hw', rfl⟩
    simp only [finput, finputNR, Bool.false_eq_true, ↓reduceIte]
    rw [if_neg hf, if_neg (by omega)]

/-- **F9 (model witness).**  Preamble bytes re-synchronised at every `k`-th byte, `1 ≤ k ≤ 21`: from a
    searching state the framer reports `searching` at EVERY byte, for streams of ANY length — the
    21-byte give-up never happens, the link layer never reports `noCarrier`. -/
theorem search_restart_unbounded (c : FCfg) (hP : c.maxPrefixErr ≤ 7) (k : Nat) (hk1 : 1 ≤ k)
    (hk : k ≤ Gen.PREFIX_SEARCH_LEN) (n : Nat) :
    ∀ ls ∈ feedR c (.search 0 0) (slipping k n), ls = .searching := by
  -- generalise over the offset `j` into the stream; invariant: off a restart position the counter is at most
  -- the number of bytes since the last restart
  suffices h : ∀ (m j : Nat) (w : UInt32) (cnt : Nat), (PreWord w ∨ w = 0) →
      (j % k ≠ 0 → cnt ≤ j % k) →
      ∀ ls ∈ feedR c (.search w cnt) ((List.range m).map (fun i => ((0xAB : Byte), (j + i) % k == 0))),
        ls = .searching by
    have := h n 0 0 0 (Or.inr rfl) (fun _ => Nat.zero_le _)
    simpa [slipping] using this
  intro m
  induction m with
  | zero => intro j w cnt _ _ ls hls; simp [feedR] at hls
  | succ m ih =>
    intro j w cnt hw hcnt ls hls
    rw [List.range_succ_eq_map, List.map_cons, List.map_map] at hls
    simp only [Nat.add_zero] at hls
    have hmod : j % k < k := Nat.mod_lt _ (by omega)
    have hc : (j % k == 0) = true ∨ cnt + 1 ≤ Gen.PREFIX_SEARCH_LEN := by
      by_cases h0 : j % k = 0
      · left; simp [h0]
      · right; have := hcnt h0; omega
    obtain ⟨w', cnt', hstep, hw', hcnt'⟩ := search_step c hP w cnt (j % k == 0) hw hc
    simp only [feedR, hstep, List.mem_cons] at hls
    rcases hls with rfl | hls
    · rfl
    · have hfun : ((fun i => ((0xAB : Byte), (j + i) % k == 0)) ∘ Nat.succ)
          = (fun i => ((0xAB : Byte), (j + 1 + i) % k == 0)) := by
        funext i
        have : j + Nat.succ i = j + 1 + i := by omega
        simp only [Function.comp, this]
      rw [hfun] at hls
      have hnext : (j + 1) % k ≠ 0 → cnt' ≤ (j + 1) % k := by
        intro hne
        have hsucc : (j + 1) % k = (j % k + 1) % k := by
          conv => lhs; rw [Nat.add_mod]
          conv => rhs; rw [Nat.add_mod, Nat.mod_mod]
        by_cases hwrap : j % k + 1 = k
        · exfalso; apply hne; rw [hsucc, hwrap, Nat.mod_self]
        · have hlt : j % k + 1 < k := by omega
          rw [hsucc, Nat.mod_eq_of_lt hlt]
          rw [hcnt']
          by_cases h0 : j % k = 0
          · simp [h0]
          · have hb : (j % k == 0) = false := by simp [h0]
            simp only [hb, Bool.false_eq_true, ↓reduceIte]
            have := hcnt h0; omega
      exact ih (j + 1) w' cnt' (Or.inl hw') hnext ls hls
end SameVerif.C09
