import SameVerif.Lemmas.FramerRestarts
/-
  C09 (busy stretches) — the positive counterpart of finding F9 (`search_restart_unbounded`).

  The framer is fed `(byte, restart)` pairs (`feedR`, Thm/C09.lean).  An output is BUSY when it is
  `searching` or `reading`: the link reports neither `noCarrier` nor a finished burst, so the
  assembler is not polled.  F9 shows that restarts can keep the link busy for ever.  Here:

    T1  a busy stretch is bounded LINEARLY in the restarts it contains:
          length ≤ PREFIX_SEARCH_LEN · r + BUSY_MAX        (21·r + 270)
        `r` = restarts at the stretch's 2nd, 3rd, … input (the first input does not count),
        `BUSY_MAX = PREFIX_SEARCH_LEN + 1 + (MAX_BURST_LENGTH − 4)` = 270 = the busy time of one start
        (`C07.busy_bounded`).  For every configuration, start state and stream; attained for every `r`.
        `c.maxInvalid` does not enter: the invalid-byte budget can only END a read early.
    T2  hence bounded restart density bounds the busy time: at most `k` restarts in every window of
        `W > PREFIX_SEARCH_LEN · k` inputs  ⇒  every window of `21·k + 271` outputs holds a non-busy one.
        Restarts ≥ `PREFIX_SEARCH_LEN + 1` = 22 apart: 292 (270 for a stretch that begins with a restart).
        No restart after the first byte: 271.  No restart in the window: 272 outputs hold a `noCarrier`.
    T3  the density threshold and the linear shape are sharp: `slipping 21 n` (restarts exactly 21
        apart, `⌈n/21⌉` of them) is busy throughout, for every `n`.

  Remark (`burst_restart_never_noCarrier`): "non-busy" in T2 cannot be improved to `noCarrier` — a
  restart that interrupts a read reports `burst` and leaves the framer searching, so restarts 24
  apart can keep `noCarrier` away for ever although the link is never busy for more than 23 bytes.

  `restarts xs = xs.countP (·.2)`; `Windowed W k xs`, `Sparse G xs`, `Busy o` : Lemmas/FramerRestarts.lean.
-/
namespace SameVerif.C09
open SameVerif

/-! ### T1 — the linear bound -/

/-- **T1, run form.**  Whatever the configuration and the state the framer starts in: if every output
    of a run is busy, the run has at most `21 · r + 270` inputs, `r` the number of restarts among
    its inputs other than the first. -/
theorem busy_run_bounded (c : FCfg) (s : FState) (xs : List (Byte × Bool))
    (h : ∀ o ∈ feedR c s xs, o = .searching ∨ o = .reading) :
    xs.length ≤ Gen.PREFIX_SEARCH_LEN * (xs.tail.countP (fun x => x.2))
        + (Gen.PREFIX_SEARCH_LEN + 1 + (Gen.MAX_BURST_LENGTH - 4)) :=
  busy_run_le c s xs h

/-- **T1, index form.**  Every stretch `[i, j)` of the outputs of `feedR c s xs` in which every output
    is busy satisfies `j − i ≤ 21 · r + 270`, where `r` counts the restart flags at the input
    positions `i + 1, …, j − 1`. -/
theorem busy_stretch_bounded (c : FCfg) (s : FState) (xs : List (Byte × Bool)) (i j : Nat)
    (hj : j ≤ xs.length)
    (h : ∀ k, i ≤ k → k < j → ∀ o, (feedR c s xs)[k]? = some o → Busy o) :
    j - i ≤ Gen.PREFIX_SEARCH_LEN * restarts ((xs.take j).drop (i + 1)) + BUSY_MAX := by
  have := busy_run_le c _ _ (window_busy c s xs i j h)
  rwa [window_length xs i j hj, window_tail] at this

/-! ### T1 is attained: `r` full search periods, then a prefix completed by the last possible byte
    and a burst of maximal length -/

/-- a restart on a preamble byte and 20 more preamble bytes: 21 × `searching` -/
def slipSeg : List (Byte × Bool) := (0xAB, true) :: List.replicate 20 (0xAB, false)

/-- a restart, 17 more preamble bytes, `ZCZC` (completed by byte 22 of the search), 248 data bytes -/
def lastSeg : List (Byte × Bool) :=
  (0xAB, true) :: (List.replicate 17 (0xAB, false)
    ++ [(0x5A, false), (0x43, false), (0x5A, false), (0x43, false)] ++ List.replicate 248 (0x41, false))

def tightRun (r : Nat) : List (Byte × Bool) := (List.replicate r slipSeg).flatten ++ lastSeg

theorem feedR_restart_notRead (c : FCfg) (s : FState) (b : Byte) (rest : List (Byte × Bool))
    (hs : s = .idle ∨ ∃ w n, s = .search w n) :
    feedR c s ((b, true) :: rest) = feedR c .idle ((b, true) :: rest)
      ∧ runR c s ((b, true) :: rest) = runR c .idle ((b, true) :: rest) := by
  simp only [feedR, runR, finput_restart_notRead c s b hs, finput_restart_notRead c .idle b (Or.inl rfl)]
  exact ⟨trivial, trivial⟩

theorem slipSeg_run (s : FState) (hs : s = .idle ∨ ∃ w n, s = .search w n) :
    feedR ⟨0, 0⟩ s slipSeg = List.replicate 21 .searching
      ∧ runR ⟨0, 0⟩ s slipSeg = .search 0xABABABAB 21 := by
  obtain ⟨h1, h2⟩ := feedR_restart_notRead ⟨0, 0⟩ s 0xAB (List.replicate 20 (0xAB, false)) hs
  unfold slipSeg
  rw [h1, h2]
  exact ⟨by decide +kernel, by decide +kernel⟩

theorem lastSeg_run (s : FState) (hs : s = .idle ∨ ∃ w n, s = .search w n) :
    feedR ⟨0, 0⟩ s lastSeg = List.replicate 21 .searching ++ List.replicate 249 .reading := by
  unfold lastSeg
  rw [(feedR_restart_notRead ⟨0, 0⟩ s 0xAB _ hs).1]
  decide +kernel

theorem tightRun_succ (r : Nat) : tightRun (r + 1) = slipSeg ++ tightRun r := by
  simp [tightRun, List.replicate_succ]

theorem tightRun_busy (r : Nat) (s : FState) (hs : s = .idle ∨ ∃ w n, s = .search w n) :
    ∀ o ∈ feedR ⟨0, 0⟩ s (tightRun r), Busy o := by
  induction r generalizing s with
  | zero =>
    intro o ho
    simp only [tightRun, List.replicate_zero, List.flatten_nil, List.nil_append, lastSeg_run s hs,
      List.mem_append, List.mem_replicate] at ho
    rcases ho with ⟨_, rfl⟩ | ⟨_, rfl⟩
    · exact Or.inl rfl
    · exact Or.inr rfl
  | succ r ih =>
    intro o ho
    obtain ⟨h1, h2⟩ := slipSeg_run s hs
    rw [tightRun_succ, feedR_append, h1, h2, List.mem_append, List.mem_replicate] at ho
    rcases ho with ⟨_, rfl⟩ | ho
    · exact Or.inl rfl
    · exact ih _ (Or.inr ⟨_, _, rfl⟩) o ho

theorem tightRun_length (r : Nat) : (tightRun r).length = Gen.PREFIX_SEARCH_LEN * r + BUSY_MAX := by
  induction r with
  | zero => decide +kernel
  | succ r ih =>
    have : slipSeg.length = 21 := by decide
    rw [tightRun_succ, List.length_append, ih, this, psl_eq]; omega

theorem tightRun_restarts (r : Nat) : restarts (tightRun r).tail = r := by
  have hall : restarts (tightRun r) = r + 1 := by
    induction r with
    | zero => decide +kernel
    | succ r ih =>
      have : restarts slipSeg = 1 := by decide +kernel
      rw [tightRun_succ, restarts_append, ih, this]; omega
  have hhead : ∃ tl, tightRun r = (0xAB, true) :: tl := by
    cases r with
    | zero => exact ⟨_, rfl⟩
    | succ r => exact ⟨_, by simp [tightRun, List.replicate_succ, slipSeg]; rfl⟩
  obtain ⟨tl, htl⟩ := hhead
  rw [htl, restarts_cons] at hall
  rw [htl, List.tail_cons]
  simpa using hall

/-- **T1 is attained** for every number of restarts `r`, by a run that a real receiver can see (idle
    framer, first input a restart): `21 · r + 270` inputs, `r` restarts after the first input, every
    output busy.  So neither the slope 21 nor the constant 270 can be lowered. -/
theorem busy_bound_attained (r : Nat) :
    ∃ xs : List (Byte × Bool),
      xs.length = Gen.PREFIX_SEARCH_LEN * r + BUSY_MAX ∧ restarts xs.tail = r
        ∧ ∀ o ∈ feedR ⟨0, 0⟩ .idle xs, Busy o :=
  ⟨tightRun r, tightRun_length r, tightRun_restarts r, tightRun_busy r .idle (Or.inl rfl)⟩

/-- the instance `r = 2`, outputs written out: 312 = 21 · 2 + 270 busy outputs, and the 313th input
    (whatever it is, restart or not) reports the burst -/
example :
    feedR ⟨0, 0⟩ .idle (tightRun 2 ++ [(0x41, false)])
      = List.replicate 63 .searching ++ List.replicate 249 .reading
          ++ [.burst ([0x5A, 0x43, 0x5A, 0x43] ++ List.replicate 248 0x41)] := by
  decide +kernel

/-! ### T2 — bounded restart density bounds the busy time -/

/-- **T2, stretch form.**  If every window of `W` consecutive inputs holds at most `k` restarts and
    `W > 21 · k`, every busy stretch `[i, j)` has `j − i ≤ 21 · k + 270`. -/
theorem busy_stretch_windowed (c : FCfg) (s : FState) (xs : List (Byte × Bool)) (W k : Nat)
    (hW : Gen.PREFIX_SEARCH_LEN * k < W) (hwin : Windowed W k xs) (i j : Nat) (hj : j ≤ xs.length)
    (h : ∀ t, i ≤ t → t < j → ∀ o, (feedR c s xs)[t]? = some o → Busy o) :
    j - i ≤ Gen.PREFIX_SEARCH_LEN * k + BUSY_MAX := by
  have := busy_run_windowed_le c _ _ W k hW (windowed_sub hwin i (j - i)) (window_busy c s xs i j h)
  rwa [window_length xs i j hj] at this

/-- **T2, stretch that begins with a restart** (the way every busy stretch of a real run begins,
    apart from the one directly after an interrupted read): that restart counts against the window,
    so `j − i ≤ 21 · (k − 1) + 270`. -/
theorem busy_stretch_windowed_restart (c : FCfg) (s : FState) (xs : List (Byte × Bool)) (W k : Nat)
    (hW : Gen.PREFIX_SEARCH_LEN * k < W) (hwin : Windowed W k xs) (i j : Nat) (hij : i < j)
    (hj : j ≤ xs.length) (b : Byte) (hi : xs[i]? = some (b, true))
    (h : ∀ t, i ≤ t → t < j → ∀ o, (feedR c s xs)[t]? = some o → Busy o) :
    1 ≤ k ∧ j - i + Gen.PREFIX_SEARCH_LEN ≤ Gen.PREFIX_SEARCH_LEN * k + BUSY_MAX := by
  have hb := window_busy c s xs i j h
  have hsub := windowed_sub hwin i (j - i)
  have h1 := busy_run_le c _ _ hb
  rw [window_length xs i j hj] at h1
  have hcons : (xs.drop i).take (j - i) = (b, true) :: ((xs.drop i).take (j - i)).tail := by
    obtain ⟨hlt, hx⟩ := List.getElem?_eq_some_iff.1 hi
    obtain ⟨n, hn⟩ : ∃ n, j - i = n + 1 := ⟨j - i - 1, by omega⟩
    rw [List.drop_eq_getElem_cons hlt, hx, hn, List.take_succ_cons, List.tail_cons]
  rw [hcons] at hb hsub
  have h2 := busy_run_windowed_restart c _ b _ W k hW hsub hb
  rw [psl_eq] at *
  omega

/-- **T2, window form.**  Under the same density hypothesis every `21 · k + 271` consecutive outputs
    hold a `noCarrier` or a burst. -/
theorem nonbusy_in_window (c : FCfg) (s : FState) (xs : List (Byte × Bool)) (W k : Nat)
    (hW : Gen.PREFIX_SEARCH_LEN * k < W) (hwin : Windowed W k xs) (i : Nat)
    (hi : i + (Gen.PREFIX_SEARCH_LEN * k + BUSY_MAX + 1) ≤ xs.length) :
    ∃ o ∈ ((feedR c s xs).drop i).take (Gen.PREFIX_SEARCH_LEN * k + BUSY_MAX + 1),
      o = .noCarrier ∨ ∃ b, o = .burst b := by
  apply Classical.byContradiction
  intro hno
  have hall : ∀ o ∈ ((feedR c s xs).drop i).take (Gen.PREFIX_SEARCH_LEN * k + BUSY_MAX + 1), Busy o := by
    intro o ho
    apply Classical.byContradiction
    intro hb
    exact hno ⟨o, ho, (not_busy_iff o).1 hb⟩
  rw [← feedR_window] at hall
  have h1 := busy_run_windowed_le c _ _ W k hW (windowed_sub hwin i _) hall
  rw [List.length_take, List.length_drop] at h1
  omega

/-- **T2, restarts at least `PREFIX_SEARCH_LEN + 1` = 22 apart**: every 292 consecutive outputs hold a
    `noCarrier` or a burst (21 is not enough: T3). -/
theorem nonbusy_in_window_sparse (c : FCfg) (s : FState) (xs : List (Byte × Bool)) (G : Nat)
    (hG : Gen.PREFIX_SEARCH_LEN + 1 ≤ G) (hsp : Sparse G xs) (i : Nat)
    (hi : i + (Gen.PREFIX_SEARCH_LEN + BUSY_MAX + 1) ≤ xs.length) :
    ∃ o ∈ ((feedR c s xs).drop i).take (Gen.PREFIX_SEARCH_LEN + BUSY_MAX + 1),
      o = .noCarrier ∨ ∃ b, o = .burst b := by
  have := nonbusy_in_window c s xs G 1 (by omega) (sparse_windowed hsp) i (by omega)
  simpa using this

/-- … and a busy stretch that begins with a restart is then no longer than ONE start allows: 270,
    the bound of `C07.busy_bounded`. -/
theorem busy_stretch_sparse_restart (c : FCfg) (s : FState) (xs : List (Byte × Bool)) (G : Nat)
    (hG : Gen.PREFIX_SEARCH_LEN + 1 ≤ G) (hsp : Sparse G xs) (i j : Nat) (hij : i < j)
    (hj : j ≤ xs.length) (b : Byte) (hi : xs[i]? = some (b, true))
    (h : ∀ t, i ≤ t → t < j → ∀ o, (feedR c s xs)[t]? = some o → Busy o) :
    j - i ≤ BUSY_MAX := by
  have := (busy_stretch_windowed_restart c s xs G 1 (by omega) (sparse_windowed hsp) i j hij hj b hi h).2
  omega

/-- **T2, no restart after the first byte**: every busy stretch is at most 270 long, i.e. every 271
    consecutive outputs hold a `noCarrier` or a burst. -/
theorem busy_stretch_no_restart (c : FCfg) (s : FState) (xs : List (Byte × Bool))
    (h0 : restarts xs.tail = 0) (i j : Nat) (hj : j ≤ xs.length)
    (h : ∀ t, i ≤ t → t < j → ∀ o, (feedR c s xs)[t]? = some o → Busy o) :
    j - i ≤ BUSY_MAX := by
  have h1 := busy_stretch_bounded c s xs i j hj h
  have hsub : ((xs.take j).drop (i + 1)).Sublist xs.tail := by
    have h1i : i + 1 = 1 + i := by omega
    rw [← List.drop_one, h1i, ← List.drop_drop, List.drop_take]
    exact (List.drop_sublist _ _).trans (List.take_sublist _ _)
  have : restarts ((xs.take j).drop (i + 1)) ≤ restarts xs.tail := List.Sublist.countP_le hsub
  rw [h0] at this
  have : restarts ((xs.take j).drop (i + 1)) = 0 := by omega
  rw [this] at h1
  omega

/-- **T2 with `noCarrier`.**  Inputs `i, …, i + 271` without restart: one of the 272 outputs is
    `noCarrier` — what the forced end-of-message of C09 (`closed_by_timeout`) waits for.  (270 busy
    outputs, the burst, `noCarrier`: the same count as `C07.busy_bounded`, whose byte 0 is the restart.) -/
theorem noCarrier_without_restart (c : FCfg) (s : FState) (xs : List (Byte × Bool)) (i : Nat)
    (hfree : restarts ((xs.drop i).take (BUSY_MAX + 2)) = 0) (hi : i + (BUSY_MAX + 2) ≤ xs.length) :
    .noCarrier ∈ ((feedR c s xs).drop i).take (BUSY_MAX + 2) := by
  apply Classical.byContradiction
  intro hno
  rw [← feedR_window] at hno
  have h1 := nr_run_fuel c _ _ hfree hno
  have h2 := fuel_le (runR c s (xs.take i))
  rw [List.length_take, List.length_drop] at h1
  omega

/-! ### T3 — sharpness: restarts 21 apart keep the link busy for ever -/

theorem slipping_restarts (n : Nat) : restarts (slipping 21 n) = (n + 20) / 21 := by
  induction n with
  | zero => rfl
  | succ n ih =>
    have : slipping 21 (n + 1) = slipping 21 n ++ [(0xAB, n % 21 == 0)] := by
      simp [slipping, List.range_succ]
    rw [this, restarts_append, ih, restarts_cons, restarts_nil]
    by_cases h : n % 21 = 0
    · simp only [h, beq_self_eq_true, if_true]; omega
    · have : (n % 21 == 0) = false := by simp [h]
      simp only [this]; simp only [Bool.false_eq_true, if_false]; omega

theorem periodic_sparse (G : Nat) (f : Nat → Byte) (n : Nat) :
    Sparse G ((List.range n).map (fun i => (f i, i % G == 0))) := by
  have key : ∀ (p : Nat) (b : Byte),
      ((List.range n).map (fun i => (f i, i % G == 0)))[p]? = some (b, true) → G ∣ p := by
    intro p b hp
    simp only [List.getElem?_map] at hp
    by_cases hpn : p < n
    · simp [hpn] at hp; exact Nat.dvd_of_mod_eq_zero hp.2
    · simp [hpn] at hp
  intro p q bp bq hpq hp hq
  obtain ⟨a, rfl⟩ := key p bp hp
  obtain ⟨b, rfl⟩ := key q bq hq
  have hab : a + 1 ≤ b := Nat.lt_of_mul_lt_mul_left hpq
  calc G * a + G = G * (a + 1) := (Nat.mul_succ G a).symm
    _ ≤ G * b := Nat.mul_le_mul_left G hab

theorem slipping_sparse (n : Nat) : Sparse 21 (slipping 21 n) := periodic_sparse 21 _ n

/-- **T3.**  For every `n` there is an input of length `n` with `⌈n / 21⌉` restarts, any two of them
    at least 21 apart (at most `k` in every window of `21 · k`), ALL of whose outputs are busy —
    `slipping 21 n`, finding F9.  So the bound of T1 cannot be replaced by a constant, and the density
    thresholds `W > 21 · k` / "22 apart" of T2 cannot be lowered to `21 · k` / 21. -/
theorem linear_bound_sharp (c : FCfg) (hP : c.maxPrefixErr ≤ 7) (n : Nat) :
    ∃ xs : List (Byte × Bool),
      xs.length = n ∧ restarts xs = (n + 20) / 21 ∧ Sparse Gen.PREFIX_SEARCH_LEN xs
        ∧ ∀ o ∈ feedR c (.search 0 0) xs, Busy o := by
  refine ⟨slipping 21 n, by simp [slipping], slipping_restarts n, slipping_sparse n, ?_⟩
  intro o ho
  exact Or.inl (search_restart_unbounded c hP 21 (by decide) (by decide) n o ho)

/-- no bound independent of the restarts holds -/
theorem no_constant_busy_bound (c : FCfg) (hP : c.maxPrefixErr ≤ 7) :
    ¬ ∃ K, ∀ xs : List (Byte × Bool), (∀ o ∈ feedR c (.search 0 0) xs, Busy o) → xs.length ≤ K := by
  rintro ⟨K, hK⟩
  obtain ⟨xs, hlen, _, _, hb⟩ := linear_bound_sharp c hP (K + 1)
  have := hK xs hb
  omega

/-! ### Remark — "non-busy" is not `noCarrier`: restarts that interrupt reads -/

/-- period 24: a restart on `Z`, then `CZC` (the prefix is complete at byte 4), then 20 data bytes -/
def pulseByte (i : Nat) : Byte :=
  if i % 24 = 0 ∨ i % 24 = 2 then 0x5A else if i % 24 = 1 ∨ i % 24 = 3 then 0x43 else 0x41

def pulsed (n : Nat) : List (Byte × Bool) := (List.range n).map (fun i => (pulseByte i, i % 24 == 0))

theorem pulsed_add (n : Nat) : pulsed (24 + n) = pulsed 24 ++ pulsed n := by
  unfold pulsed
  rw [List.range_add, List.map_append, List.map_map]
  congr 1
  apply List.map_congr_left
  intro i _
  simp only [Function.comp, pulseByte, Nat.add_mod_left]

theorem restart_not_noCarrier (c : FCfg) (s : FState) (b : Byte) : (finput c s b true).2 ≠ .noCarrier := by
  cases s <;> simp [finput, fend]

/-- one period, from ANY state: no `noCarrier`, and the framer is left reading the same 24 bytes -/
theorem pulse_period (s : FState) :
    .noCarrier ∉ feedR ⟨0, 0⟩ s (pulsed 24)
      ∧ runR ⟨0, 0⟩ s (pulsed 24) = .read ([0x5A, 0x43, 0x5A, 0x43] ++ List.replicate 20 0x41) 0 := by
  have hp : pulsed 24 = (0x5A, true) :: (pulsed 24).tail := by decide +kernel
  rw [hp]
  simp only [feedR, runR, finput_restart_state, List.mem_cons, not_or]
  exact ⟨⟨fun h => restart_not_noCarrier _ s _ h.symm, by decide +kernel⟩, by decide +kernel⟩

theorem pulsed_no_noCarrier (m : Nat) (s : FState) : .noCarrier ∉ feedR ⟨0, 0⟩ s (pulsed (24 * m)) := by
  induction m generalizing s with
  | zero => simp [pulsed, feedR]
  | succ m ih =>
    have : 24 * (m + 1) = 24 + 24 * m := by omega
    rw [this, pulsed_add, feedR_append, List.mem_append, not_or]
    exact ⟨(pulse_period s).1, ih _⟩

theorem pulsed_sparse (n : Nat) : Sparse 24 (pulsed n) := periodic_sparse 24 pulseByte n

/-- **Remark.**  For every `n` there is an input of length `n` whose restarts are 24 apart — so T2
    applies: the link is never busy for long — and which, from ANY state, never reports `noCarrier`:
    every restart interrupts a read, reports its burst and starts the next search, which succeeds.
    The `noCarrier` tick that `closed_by_timeout` waits for is then supplied neither by T2 nor by the
    framer; only `noCarrier_without_restart` (272 inputs without restart) guarantees one. -/
theorem burst_restart_never_noCarrier (n : Nat) (s : FState) :
    ∃ xs : List (Byte × Bool),
      xs.length = n ∧ Sparse (Gen.PREFIX_SEARCH_LEN + 3) xs ∧ .noCarrier ∉ feedR ⟨0, 0⟩ s xs := by
  refine ⟨pulsed n, by simp [pulsed], pulsed_sparse n, ?_⟩
  have htake : pulsed n = (pulsed (24 * n)).take n := by
    unfold pulsed
    rw [← List.map_take, List.take_range]
    congr 2
    omega
  rw [htake, ← feedR_take]
  exact fun h => pulsed_no_noCarrier n s (List.mem_of_mem_take h)

/-- two periods from idle, written out: after the first restart every period is one burst and 23
    busy outputs -/
example :
    feedR ⟨0, 0⟩ .idle (pulsed 48)
      = List.replicate 3 .searching ++ List.replicate 21 .reading
          ++ [.burst ([0x5A, 0x43, 0x5A, 0x43] ++ List.replicate 20 0x41)]
          ++ List.replicate 2 .searching ++ List.replicate 21 .reading := by
  decide +kernel

end SameVerif.C09
