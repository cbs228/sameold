import SameVerif.Lemmas.LinkForget
import SameVerif.Lemmas.LinkGrowth
/-
  C10 — Arbitrary audio never wedges the receiver: the discrete part.

  The link model (`Model/Link.lean`) is a total function, so "never crashes" is, for the discrete
  chain, the statement that the one partial operation of the Rust code on this path
  (`power_history.front().expect(..)`) always finds an element (`sync_implies_history`).
  "Never left deaf" is `no_wedge`: whatever state a hostile history left the link in, 32 symbol
  ticks below both power thresholds return it to the unsynchronised, unlocked, idle state — with
  a frame in progress reported, not lost (`no_wedge_burst_emitted`).  "Same as from a cold start"
  is `converge` + `same_future` + `hostile_history_forgotten`: after 32 further quiet ticks the
  two shift registers hold nothing older than those ticks, and from then on no input whatsoever
  can tell the receiver from a newly built one that heard the same last 32 ticks.

  Definitions used (all in `Lemmas/LinkInv.lean` / `Lemmas/LinkForget.lean`):
  * `LinkInv s`     — `s.pwr.length = min s.nsym 32`, `s.nsym < 32 → s.clock = none`,
                      `s.lock = true → s.clock.isSome`, `∀ k, s.clock = some k → k < 8`
  * `FrInv s`       — `s.fr ≠ .idle → s.clock.isSome`, `s.fr = .read _ _ → s.lock = true`
                      (an invariant only for `c.fc.maxPrefixErr < 15`; the builder clamps to ≤ 7)
  * `QuietState s`  — `s.clock = none ∧ s.lock = false ∧ s.fr = .idle`
  * `LEquiv s1 s2`  — equal `corr`, `pwr`, `clock`, `lock`, `fr`; both `32 ≤ nsym`;
                      `s1.clock.isSome → s1.train = s2.train`
-/
namespace SameVerif.C10
open SameVerif

/-! ### the structural invariant -/

theorem inv_init : LinkInv {} := linkInv_init

/-- **Invariant.**  Every tick preserves `LinkInv`, for every configuration, observation and
    equalizer byte. -/
theorem inv_step (c : LCfg) (s : LState) (o : Obs) (b : Byte) (h : LinkInv s) :
    LinkInv (lstep c s o b).1 := linkInv_step c s o b h

/-- every state reachable from a cold start, by any input whatsoever, satisfies the invariant -/
theorem inv_reachable (c : LCfg) (hist : List Tick) : LinkInv (lrunState c {} hist) :=
  linkInv_run c hist _ linkInv_init

/-- the fields of the invariant, spelled out -/
theorem inv_spelled (s : LState) :
    LinkInv s ↔ (s.pwr.length = min s.nsym 32 ∧ (s.nsym < 32 → s.clock = none)
      ∧ (s.lock = true → s.clock.isSome = true) ∧ ∀ k, s.clock = some k → k < 8) :=
  ⟨fun h => ⟨h.pwr_len, h.warm, h.lock_sync, h.clock_lt⟩, fun h => ⟨h.1, h.2.1, h.2.2.1, h.2.2.2⟩⟩

/-- **Framer/squelch coupling.**  With a prefix error budget below 15 (the builder clamps it to
    at most 7) the framer is busy only while the squelch is synchronised, and reads only under
    sync lock; this too is preserved by every tick. -/
theorem fr_inv_step (c : LCfg) (s : LState) (o : Obs) (b : Byte) (hc : c.fc.maxPrefixErr < 15)
    (h : FrInv s) : FrInv (lstep c s o b).1 := frInv_step c s o b hc h

theorem fr_inv_reachable (c : LCfg) (hc : c.fc.maxPrefixErr < 15) (hist : List Tick) :
    FrInv (lrunState c {} hist) := by
  suffices h : ∀ s, FrInv s → FrInv (lrunState c s hist) from h _ frInv_init
  induction hist with
  | nil => intro s h; exact h
  | cons x xs ih => intro s h; exact ih _ (frInv_step c s x.1 x.2 hc h)

theorem fr_inv_spelled (s : LState) :
    FrInv s ↔ ((s.fr ≠ .idle → s.clock.isSome = true)
      ∧ ∀ msg inv, s.fr = .read msg inv → s.lock = true) :=
  ⟨fun h => ⟨h.fr_sync, h.read_lock⟩, fun h => ⟨h.1, h.2⟩⟩

/-! ### silence un-wedges -/

/-- **No wedge.**  From any state satisfying the invariant — mid-burst, locked, framer reading,
    whatever — 32 symbol ticks with the power below both thresholds (bits and equalizer bytes
    arbitrary) leave the link unsynchronised, unlocked and idle, with a full sample history.
    No assumption on burst length or configuration. -/
theorem no_wedge (c : LCfg) (s : LState) (xs : List Tick) (hinv : LinkInv s)
    (hlen : 32 ≤ xs.length) (hq : ∀ x ∈ xs, x.1.openOk = false ∧ x.1.closeOk = false) :
    (lrunState c s xs).clock = none ∧ (lrunState c s xs).lock = false
      ∧ (lrunState c s xs).fr = .idle ∧ 32 ≤ (lrunState c s xs).nsym
      ∧ LinkInv (lrunState c s xs) := by
  have hd := draining_run c xs 0 s hinv (draining_zero s) hq
  obtain ⟨h1, h2, h3⟩ := draining_done _ _ (by omega) hd
  refine ⟨h1, h2, h3, ?_, linkInv_run c xs s hinv⟩
  rw [lrunState_nsym]; omega

/-- **A frame in progress is emitted, not lost, and grows by at most 4 bytes.**  If the framer was
    reading `msg` when the silence began, exactly one burst is reported during it; `msg` is a prefix
    of that burst, and since byte ticks come every 8 symbols and the carrier drops at the 32nd
    silent tick at the latest, at most 4 further bytes follow. -/
theorem no_wedge_burst_growth (c : LCfg) (s : LState) (xs : List Tick) (msg : List Byte)
    (inv : Nat) (hinv : LinkInv s) (hlen : 32 ≤ xs.length)
    (hq : ∀ x ∈ xs, x.1.openOk = false ∧ x.1.closeOk = false) (hf : s.fr = .read msg inv) :
    ∃ msg', msg <+: msg' ∧ msg'.length ≤ msg.length + 4 ∧ lrunBursts c s xs = [msg'] := by
  have hidle := (no_wedge c s xs hinv hlen hq).2.2.1
  rcases read_run c xs s 0 msg inv hinv (by omega) (tailFalse_zero _) hf hq with
    ⟨m, i, h1, _⟩ | ⟨m, g0, g1, g2⟩
  · rw [hidle] at h1; cases h1
  · have := byteBudget_le s.clock
    exact ⟨m, g0, by omega, g2⟩

/-- the same without the bound (byte ticks before the carrier drop may still have appended to
    `msg`) -/
theorem no_wedge_burst_emitted (c : LCfg) (s : LState) (xs : List Tick) (msg : List Byte)
    (inv : Nat) (hinv : LinkInv s) (hlen : 32 ≤ xs.length)
    (hq : ∀ x ∈ xs, x.1.openOk = false ∧ x.1.closeOk = false) (hf : s.fr = .read msg inv) :
    ∃ msg', msg <+: msg' ∧ lrunBursts c s xs = [msg'] := by
  obtain ⟨m, h1, _, h2⟩ := no_wedge_burst_growth c s xs msg inv hinv hlen hq hf
  exact ⟨m, h1, h2⟩

/-- with an idle framer nothing is reported during the silence -/
theorem no_wedge_idle_silent (c : LCfg) (s : LState) (xs : List Tick)
    (hx : ∀ x ∈ xs, x.1.openOk = false) (hf : s.fr = .idle) : lrunBursts c s xs = [] :=
  (idle_run c xs s hf hx).1

/-- **Quiet stays quiet.**  An unsynchronised, unlocked, idle link that never sees the power
    reach the opening threshold reports `noCarrier` at every tick and stays that way. -/
theorem quiet_stays_quiet (c : LCfg) (s : LState) (xs : List Tick)
    (hs : s.clock = none ∧ s.lock = false ∧ s.fr = .idle) (hx : ∀ x ∈ xs, x.1.openOk = false) :
    (∀ ls ∈ lrun c s xs, ls = .noCarrier)
      ∧ (lrunState c s xs).clock = none ∧ (lrunState c s xs).lock = false
      ∧ (lrunState c s xs).fr = .idle :=
  ⟨(quietState_run c xs s hs hx).2, (quietState_run c xs s hs hx).1⟩

/-! ### panic freedom of the discrete chain -/

/-- `power_history.front()` is evaluated after `push_back`: it always finds an element -/
theorem history_nonempty_after_push (h : List Bool) (x : Bool) : push32 h x ≠ [] :=
  push32_ne_nil h x

/-- after every tick the power history is non-empty — in particular whenever the squelch is
    synchronised -/
theorem sync_implies_history (c : LCfg) (s : LState) (o : Obs) (b : Byte) :
    (lstep c s o b).1.pwr ≠ [] := by
  rw [(lstep_base c s o b).2.1]; exact push32_ne_nil _ _

/-- in every state satisfying the invariant, a synchronised squelch has a full power history -/
theorem sync_implies_full_history (s : LState) (h : LinkInv s) (hs : s.clock.isSome = true) :
    s.pwr.length = 32 := by
  have hn : ¬ s.nsym < 32 := by
    intro hn
    rw [h.warm hn] at hs; cases hs
  rw [h.pwr_len]; omega

/-! ### same as from a cold start -/

/-- **The shift registers forget.**  After 32 ticks — any 32 ticks — the correlator and the power
    history hold nothing that depends on the state before them. -/
theorem registers_forget (c : LCfg) (s1 s2 : LState) (xs : List Tick) (hlen : 32 ≤ xs.length) :
    (lrunState c s1 xs).corr = (lrunState c s2 xs).corr
      ∧ (lrunState c s1 xs).pwr = (lrunState c s2 xs).pwr := by
  refine ⟨lrunState_corr_forget c xs s1 s2 hlen, ?_⟩
  rw [lrunState_pwr_forget c xs s1 hlen, lrunState_pwr_forget c xs s2 hlen]

/-- **Convergence.**  Two unsynchronised, unlocked, idle links that hear the same 32 or more
    ticks, none reaching the opening threshold, end up in states that agree in everything except
    `nsym` (both ≥ 32) and the dead training counter. -/
theorem converge (c : LCfg) (s1 s2 : LState) (xs : List Tick)
    (h1 : s1.clock = none ∧ s1.lock = false ∧ s1.fr = .idle)
    (h2 : s2.clock = none ∧ s2.lock = false ∧ s2.fr = .idle)
    (hlen : 32 ≤ xs.length) (hx : ∀ x ∈ xs, x.1.openOk = false) :
    (lrunState c s1 xs).corr = (lrunState c s2 xs).corr
      ∧ (lrunState c s1 xs).pwr = (lrunState c s2 xs).pwr
      ∧ (lrunState c s1 xs).clock = (lrunState c s2 xs).clock
      ∧ (lrunState c s1 xs).lock = (lrunState c s2 xs).lock
      ∧ (lrunState c s1 xs).fr = (lrunState c s2 xs).fr
      ∧ 32 ≤ (lrunState c s1 xs).nsym ∧ 32 ≤ (lrunState c s2 xs).nsym := by
  obtain ⟨a1, a2, a3⟩ := (quietState_run c xs s1 h1 hx).1
  obtain ⟨b1, b2, b3⟩ := (quietState_run c xs s2 h2 hx).1
  obtain ⟨r1, r2⟩ := registers_forget c s1 s2 xs hlen
  refine ⟨r1, r2, by rw [a1, b1], by rw [a2, b2], by rw [a3, b3], ?_, ?_⟩ <;>
    (rw [lrunState_nsym]; omega)

/-- the converged states are equivalent in the sense of `LEquiv` -/
theorem converge_equiv (c : LCfg) (s1 s2 : LState) (xs : List Tick)
    (h1 : s1.clock = none ∧ s1.lock = false ∧ s1.fr = .idle)
    (h2 : s2.clock = none ∧ s2.lock = false ∧ s2.fr = .idle)
    (hlen : 32 ≤ xs.length) (hx : ∀ x ∈ xs, x.1.openOk = false) :
    LEquiv (lrunState c s1 xs) (lrunState c s2 xs) := by
  obtain ⟨g1, g2, g3, g4, g5, g6, g7⟩ := converge c s1 s2 xs h1 h2 hlen hx
  refine ⟨g1, g2, g3, g4, g5, g6, g7, ?_⟩
  intro hs
  rw [(quietState_run c xs s1 h1 hx).1.1] at hs; cases hs

/-- the definition of `LEquiv`, spelled out -/
theorem equiv_spelled (s1 s2 : LState) :
    LEquiv s1 s2 ↔ (s1.corr = s2.corr ∧ s1.pwr = s2.pwr ∧ s1.clock = s2.clock ∧ s1.lock = s2.lock
      ∧ s1.fr = s2.fr ∧ 32 ≤ s1.nsym ∧ 32 ≤ s2.nsym
      ∧ (s1.clock.isSome = true → s1.train = s2.train)) :=
  ⟨fun h => ⟨h.corr, h.pwr, h.clock, h.lock, h.fr, h.full1, h.full2, h.train⟩,
   fun ⟨a, b, c, d, e, f, g, h⟩ => ⟨a, b, c, d, e, f, g, h⟩⟩

/-- **Bisimulation.**  Equivalent states report the same link state and byte-tick marker for
    every input, and step to equivalent states. -/
theorem equiv_step (c : LCfg) (s1 s2 : LState) (o : Obs) (b : Byte) (h : LEquiv s1 s2) :
    (lstep c s1 o b).2 = (lstep c s2 o b).2 ∧ LEquiv (lstep c s1 o b).1 (lstep c s2 o b).1 :=
  lequiv_step c s1 s2 o b h

/-- **Same future.**  Equivalent states cannot be told apart by any later stream. -/
theorem same_future (c : LCfg) (s1 s2 : LState) (ys : List Tick) (h : LEquiv s1 s2) :
    lrun c s1 ys = lrun c s2 ys ∧ lrunBursts c s1 ys = lrunBursts c s2 ys := by
  have := (lequiv_run c ys s1 s2 h).1
  exact ⟨this, by simp only [lrunBursts, this]⟩

/-- **A hostile history is forgotten.**  Take any state satisfying the invariant (so: any state
    reachable by any input at all), then 64 or more ticks below both power thresholds (bits and
    equalizer bytes arbitrary).  From then on the link reports, for ALL future inputs, exactly
    what a newly built receiver reports that heard only the last 32 of those ticks. -/
theorem hostile_history_forgotten (c : LCfg) (s : LState) (hinv : LinkInv s) (xs ys : List Tick)
    (hlen : 64 ≤ xs.length) (hq : ∀ x ∈ xs, x.1.openOk = false ∧ x.1.closeOk = false) :
    lrun c (lrunState c s xs) ys = lrun c (lrunState c {} (xs.drop (xs.length - 32))) ys := by
  have hsplit : xs = xs.take (xs.length - 32) ++ xs.drop (xs.length - 32) :=
    (List.take_append_drop _ _).symm
  have hq1 : ∀ x ∈ xs.take (xs.length - 32), x.1.openOk = false ∧ x.1.closeOk = false :=
    fun x hx => hq x (List.mem_of_mem_take hx)
  have hq2 : ∀ x ∈ xs.drop (xs.length - 32), x.1.openOk = false :=
    fun x hx => (hq x (List.mem_of_mem_drop hx)).1
  have hl1 : 32 ≤ (xs.take (xs.length - 32)).length := by rw [List.length_take]; omega
  have hl2 : 32 ≤ (xs.drop (xs.length - 32)).length := by rw [List.length_drop]; omega
  obtain ⟨w1, w2, w3, _⟩ := no_wedge c s _ hinv hl1 hq1
  have he := converge_equiv c (lrunState c s (xs.take (xs.length - 32))) {} _ ⟨w1, w2, w3⟩
    ⟨rfl, rfl, rfl⟩ hl2 hq2
  rw [← lrunState_append, ← hsplit] at he
  exact (same_future c _ _ ys he).1

/-- the same, for a receiver that went through an arbitrary history `hist` from a cold start;
    the cold-started reference receiver may equally well have heard all of the silence -/
theorem hostile_history_forgotten' (c : LCfg) (hist xs ys : List Tick)
    (hlen : 64 ≤ xs.length) (hq : ∀ x ∈ xs, x.1.openOk = false ∧ x.1.closeOk = false) :
    lrun c (lrunState c {} (hist ++ xs)) ys = lrun c (lrunState c {} (xs.drop (xs.length - 32))) ys
      ∧ lrun c (lrunState c {} (hist ++ xs)) ys = lrun c (lrunState c {} xs) ys := by
  rw [lrunState_append]
  have h1 := hostile_history_forgotten c _ (inv_reachable c hist) xs ys hlen hq
  have h2 := hostile_history_forgotten c _ inv_init xs ys hlen hq
  exact ⟨h1, by rw [h1, h2]⟩

/-! ### non-vacuity, tightness, and why `FrInv` needs the configuration bound -/

/-- default-like configuration: 2 sync-word errors, 2 prefix errors, 5 invalid bytes -/
def demoCfg : LCfg := ⟨2, ⟨2, 5⟩⟩

/-- 32 ticks carrying the sync word, then (8 ticks each) three more training bytes and the
    equalizer decisions `ZCZC-W`, all with the power above both thresholds -/
def demoHist : List Tick :=
  (List.range 32).map (fun i => (⟨SYNC_WORD.toBitVec.getLsbD i, true, true⟩, (0 : Byte)))
    ++ ([0, 0, 0, 0x5A, 0x43, 0x5A, 0x43, 0x2D, 0x57] : List Byte).flatMap
        (fun b => List.replicate 8 (⟨false, true, true⟩, b))

/-- `n` ticks below both thresholds (bits set, equalizer deciding `A`) -/
def demoSilence (n : Nat) : List Tick := List.replicate n (⟨true, false, false⟩, 0x41)

/-- non-vacuity: a cold-started link that synchronised, locked and is reading `ZCZC-W`; 32 silent
    ticks report the burst (grown by the three bytes decided before the carrier drop) exactly
    once and leave the link unsynchronised, unlocked and idle.  Tightness: after 31 silent ticks
    the lock is still held, so the bound 32 of `no_wedge` cannot be lowered. -/
example :
    let s := lrunState demoCfg {} demoHist
    (s.clock, s.lock, s.fr) = (some 1, true, .read [0x5A, 0x43, 0x5A, 0x43, 0x2D, 0x57] 0)
      ∧ lrunBursts demoCfg s (demoSilence 32)
          = [[0x5A, 0x43, 0x5A, 0x43, 0x2D, 0x57, 0x41, 0x41, 0x41]]
      ∧ ((lrunState demoCfg s (demoSilence 32)).clock, (lrunState demoCfg s (demoSilence 32)).lock,
          (lrunState demoCfg s (demoSilence 32)).fr) = (none, false, .idle)
      ∧ (lrunState demoCfg s (demoSilence 31)).lock = true := by
  decide +kernel

/-- non-vacuity of `hostile_history_forgotten`: after the history above and 64 silent ticks, a
    fresh sync word is answered exactly as by a new receiver that heard 32 silent ticks -/
example :
    lrun demoCfg (lrunState demoCfg {} (demoHist ++ demoSilence 64)) demoHist
      = lrun demoCfg (lrunState demoCfg {} (demoSilence 32)) demoHist
      ∧ .reading ∈ lrun demoCfg (lrunState demoCfg {} (demoSilence 32)) demoHist := by
  decide +kernel

/-- why `FrInv` needs `maxPrefixErr < 15`: with a prefix budget of 15 the forced preamble byte
    of a restart is itself accepted as a "prefix", the framer reads without the sync lock, and
    (with a sync-word budget that lets the very next tick re-synchronise) the link ends up
    unsynchronised with the framer still reading.  Both budgets are far outside what the builder
    hands to the framer (`frame_prefix_max_errors` is clamped to ≤ 7). -/
example :
    let s := lrunState ⟨32, ⟨15, 5⟩⟩ {} (List.replicate 33 (⟨true, true, true⟩, 0))
    (s.clock, s.lock, s.fr) = (none, false, .read [0, 0, 0, 0xAB] 0) := by
  decide +kernel

end SameVerif.C10
