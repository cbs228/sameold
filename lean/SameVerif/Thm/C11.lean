import SameVerif.Lemmas.AppFacts
/-
  C11 — samedec prints exactly the decoded messages, one per line (live mode; model: Model/App.lean).
-/
namespace SameVerif.C11
open SameVerif

/-- The Alerting loop from any point: with any fuel ≥ remaining messages + 1, and not
    quiet, it appends to what was already printed the current message, then all remaining live
    messages, then all flushed ones — in that order, each once. -/
theorem alerting_printed (cfg : AppCfg) (spawnOk : Nat → Bool) (inp : AppInput)
    (fuel : Nat) (m : AMsg) (pos : Nat) (rest : List (Nat × AMsg)) (fl : List AMsg) (out : AppOut)
    (hq : cfg.quiet = false) (hfuel : rest.length + fl.length + 1 ≤ fuel) :
    (alerting cfg spawnOk inp fuel m pos rest fl out).printed
      = out.printed ++ m :: rest.map (·.2) ++ fl := by
  rw [alerting_eq_go _ _ _ _ _ _ _ _ _ hfuel, appGo_eq]
  simp [hq, List.map_map, Function.comp_def]

/-- Not quiet: the printed lines are exactly the messages the receiver returned while
    input lasted, followed by the messages returned by the flush, in order, each exactly once —
    whatever the child configuration and whatever the OS does with spawn attempts. -/
theorem printed_eq_reference (cfg : AppCfg) (spawnOk : Nat → Bool) (inp : AppInput)
    (hq : cfg.quiet = false) :
    (appRun cfg spawnOk inp).printed = inp.live.map (·.2) ++ inp.flushed := by
  rw [appRun_eq]
  simp [hq, AppInput.msgs]

/-- Quiet: nothing is printed. -/
theorem quiet_prints_nothing (cfg : AppCfg) (spawnOk : Nat → Bool) (inp : AppInput)
    (hq : cfg.quiet = true) :
    (appRun cfg spawnOk inp).printed = [] := by
  rw [appRun_eq]
  simp [hq]

/-- What is printed does not depend on whether a child is configured (nor on the OS) -/
theorem printed_independent_of_child (q : Bool) (spawnOk spawnOk' : Nat → Bool) (inp : AppInput) :
    (appRun ⟨q, true⟩ spawnOk inp).printed = (appRun ⟨q, false⟩ spawnOk' inp).printed := by
  rw [appRun_eq, appRun_eq]

/-- non-vacuity: a concrete run -/
example :
    (appRun ⟨false, true⟩ (fun k => k != 0)
      ⟨100, [(10, .som [90]), (50, .eom), (60, .som [91])], [.eom]⟩).printed
      = [.som [90], .eom, .som [91], .eom] := by decide

example :
    (appRun ⟨true, true⟩ (fun _ => true)
      ⟨100, [(10, .som [90]), (50, .eom), (60, .som [91])], [.eom]⟩).printed = [] := by decide

end SameVerif.C11
