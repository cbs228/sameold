import SameVerif.Lemmas.AppFacts
import SameVerif.Thm.C06
import SameVerif.Model.Spawner
/-
  C12 — child processes get the exact message audio: one child per StartOfMessage, each fed the
  input samples from the point its header was returned up to the point the next message is
  returned, or to the end of input (live mode; model: Model/App.lean).

  The specification is `expectedChildren` of Lemmas/AppFacts.lean: one entry per StartOfMessage,
  with the range from its position to the position of the next message (`n` if there is none).
  The second half is about the child's environment: the SAMEDEC_* variables restate the header.
-/
namespace SameVerif.C12
open SameVerif

/-- A child is configured and every spawn succeeds: the children are exactly the
    expected ones — one per StartOfMessage of `live ++ flushed`, in order, each with the
    half-open sample range [position of its header, position of the next message), where a
    flushed message (and "no next message") has position `n` = end of input. -/
theorem children_eq_expected (cfg : AppCfg) (spawnOk : Nat → Bool) (inp : AppInput)
    (hc : cfg.hasChild = true) (hok : ∀ k, spawnOk k = true) :
    (appRun cfg spawnOk inp).children
      = expectedChildren inp.n (inp.live ++ inp.flushed.map (fun m => (inp.n, m))) := by
  rw [appRun_eq]
  simp only [hc, ↓reduceIte]
  exact goChildren_all_ok spawnOk inp.n inp.all 0 hok

/-- the messages the children were spawned for are exactly the StartOfMessages, in order -/
theorem children_one_per_som (cfg : AppCfg) (spawnOk : Nat → Bool) (inp : AppInput)
    (hc : cfg.hasChild = true) (hok : ∀ k, spawnOk k = true) :
    (appRun cfg spawnOk inp).children.map (·.1)
      = (inp.live.map (·.2) ++ inp.flushed).filter AMsg.isSom := by
  rw [children_eq_expected cfg spawnOk inp hc hok, expectedChildren_msgs]
  exact congrArg _ (all_map_snd inp)

/-- whatever the configuration and whatever the OS does, the children that do get spawned are a
    subsequence of the expected ones: a failed spawn removes that child only and never changes
    the range any other child receives. -/
theorem children_sublist_expected (cfg : AppCfg) (spawnOk : Nat → Bool) (inp : AppInput) :
    (appRun cfg spawnOk inp).children.Sublist
      (expectedChildren inp.n (inp.live ++ inp.flushed.map (fun m => (inp.n, m)))) := by
  rw [appRun_eq]
  cases cfg.hasChild with
  | false => exact List.nil_sublist _
  | true => exact goChildren_sublist spawnOk inp.n inp.all 0

/-- If the positions of the live messages are non-decreasing and within the input,
    then (for every configuration and OS behaviour) every child's range is well-formed,
    `from ≤ to ≤ n`, and the ranges do not overlap: an earlier child's range ends at or before
    the start of every later child's range — in particular for consecutive children. -/
theorem children_contiguous (cfg : AppCfg) (spawnOk : Nat → Bool) (inp : AppInput)
    (hs : inp.live.Pairwise (fun a b => a.1 ≤ b.1)) (hn : ∀ x ∈ inp.live, x.1 ≤ inp.n) :
    (∀ c ∈ (appRun cfg spawnOk inp).children, c.2.1 ≤ c.2.2 ∧ c.2.2 ≤ inp.n) ∧
    (appRun cfg spawnOk inp).children.Pairwise (fun a b => a.2.2 ≤ b.2.1) ∧
    (∀ (k : Nat) (hk : k + 1 < (appRun cfg spawnOk inp).children.length),
      ((appRun cfg spawnOk inp).children[k]'(by omega)).2.2
        ≤ ((appRun cfg spawnOk inp).children[k + 1]'hk).2.1) := by
  have hsub := children_sublist_expected cfg spawnOk inp
  have hpos := posOk_all inp hs hn
  have hpw : (appRun cfg spawnOk inp).children.Pairwise (fun a b => a.2.2 ≤ b.2.1) :=
    (expectedChildren_pairwise hpos).sublist hsub
  refine ⟨fun c hc => expectedChildren_range hpos (hsub.subset hc), hpw, fun k hk => ?_⟩
  exact pairwise_consecutive hpw k hk

/-- No child configured: no child, no spawn attempt -/
theorem no_child_without_config (cfg : AppCfg) (spawnOk : Nat → Bool) (inp : AppInput)
    (hc : cfg.hasChild = false) :
    (appRun cfg spawnOk inp).children = [] ∧ (appRun cfg spawnOk inp).spawnAttempts = 0 := by
  rw [appRun_eq]
  simp [hc]

/-- Child configured: every StartOfMessage gets exactly one spawn attempt whatever the
    OS answers, and the number of children is the number of attempts the OS let succeed. -/
theorem spawn_attempts_eq_soms (cfg : AppCfg) (spawnOk : Nat → Bool) (inp : AppInput)
    (hc : cfg.hasChild = true) :
    (appRun cfg spawnOk inp).spawnAttempts
      = (inp.live.map (·.2) ++ inp.flushed).countP AMsg.isSom ∧
    (appRun cfg spawnOk inp).children.length
      = ((List.range (appRun cfg spawnOk inp).spawnAttempts).filter (fun k => spawnOk k)).length := by
  rw [appRun_eq]
  simp only [hc, ↓reduceIte, goChildren_length, all_map_snd]
  simp [okCount, somCount, AppInput.msgs, List.range_eq_range', List.countP_eq_length_filter]

/-- non-vacuity: a concrete run.  The first child gets [10, 50) (up to the EOM), the second
    gets [60, 100): the next message comes from the flush, so its audio runs to the end of input. -/
example :
    (appRun ⟨false, true⟩ (fun _ => true)
      ⟨100, [(10, .som [90]), (50, .eom), (60, .som [91])], [.eom]⟩).children
      = [(.som [90], 10, 50), (.som [91], 60, 100)] := by decide

/-- the first spawn fails: only that child is missing -/
example :
    (appRun ⟨false, true⟩ (fun k => k != 0)
      ⟨100, [(10, .som [90]), (50, .eom), (60, .som [91])], [.eom]⟩).children
      = [(.som [91], 60, 100)] ∧
    (appRun ⟨false, true⟩ (fun k => k != 0)
      ⟨100, [(10, .som [90]), (50, .eom), (60, .som [91])], [.eom]⟩).spawnAttempts = 2 := by decide

/-- a StartOfMessage directly followed by another StartOfMessage: the first child gets the
    samples up to the point the second header is returned -/
example :
    (appRun ⟨true, true⟩ (fun _ => true) ⟨100, [(10, .som [90]), (40, .som [91])], []⟩).children
      = [(.som [90], 10, 40), (.som [91], 40, 100)] := by decide

/-! ### The child's environment -/

open SameVerif.Gen SameVerif.C06

/-- For every accepted header (fields `f` as
    matched by the parser) and every clock, `spawn` cannot panic and sets: MSG = the stored text,
    ORG / EVT = the originator and event fields, ORIGINATOR / EVENT / SIGNIFICANCE / SIG_NUM = their
    decodings, LOCATIONS = the location fields joined by spaces, IS_NATIONAL per `national_flag`,
    and ISSUETIME / PURGETIME either both empty (issue time not computable) or the epoch seconds
    of the inferred issue instant and of that instant plus the validity period. -/
theorem env_restates_header (s : List Byte) (h : Header) (hn : Header.new s = .ok h)
    (f : Fields) (hp : parseFields s = some f) (rateStr : Str) (y : Int) (d : Nat) :
    ∃ e, childEnv h rateStr y d = .ok e
      ∧ e.rate = rateStr
      ∧ e.msg = natStr h.text
      ∧ e.org = natStr f.org
      ∧ e.originator = (originatorOf (natStr f.org) (natStr f.call)).display
      ∧ e.evt = natStr f.evt
      ∧ e.event = eventDisplay (eventCode (natStr f.evt))
      ∧ e.significance = (eventCode (natStr f.evt)).2.code
      ∧ e.sigNum = decStr (eventCode (natStr f.evt)).2.num
      ∧ e.locations = joinSpace (f.locs.map natStr)
      ∧ e.isNational = boolEnv (decide (f.locs = [[48, 48, 48, 48, 48, 48]]) && (eventCode (natStr f.evt)).1.info.national)
      ∧ (let doy := digitsVal (f.issue.take 3)
         let hh := digitsVal ((f.issue.drop 3).take 2)
         let mm := digitsVal (f.issue.drop 5)
         let dh := digitsVal (f.purge.take 2)
         let dm := digitsVal (f.purge.drop 2)
         match calcIssue doy hh mm y d with
         | some t => e.issueTime = epochStr t.epochSecs ∧ e.purgeTime = epochStr (t.epochSecs + durationSecs dh dm)
         | none => e.issueTime = [] ∧ e.purgeTime = []) := by
  obtain ⟨a1, a2, a3, _, a5, a6, a7⟩ := accessors s h hn f hp
  have b1 := accessor_originator s h hn f hp
  have b2 := accessor_event s h hn f hp
  have b3 := accessor_national s h hn f hp
  simp only [childEnv, a1, a2, a5, a6, a7, b1, b2, b3]
  refine ⟨_, rfl, rfl, rfl, rfl, rfl, rfl, rfl, rfl, rfl, rfl, rfl, ?_⟩
  simp only
  cases calcIssue (digitsVal (f.issue.take 3)) (digitsVal ((f.issue.drop 3).take 2)) (digitsVal (f.issue.drop 5)) y d <;> simp

/-- `spawn` never panics on an accepted header -/
theorem env_total (s : List Byte) (h : Header) (hn : Header.new s = .ok h) (rateStr : Str) (y : Int) (d : Nat) :
    ∃ e, childEnv h rateStr y d = .ok e := by
  obtain ⟨f, _, hp, _⟩ := text_canonical s h hn
  obtain ⟨e, he, _⟩ := env_restates_header s h hn f hp rateStr y d
  exact ⟨e, he⟩

/-- when both times are set they differ by exactly the validity period (as integers, before
    rendering) -/
theorem purge_minus_issue (t : IssueTime) (dh dm : Nat) :
    (t.epochSecs + durationSecs dh dm) - t.epochSecs = 3600 * (dh : Int) + 60 * (dm : Int) := by
  simp only [durationSecs]; omega

/-- a time that could be computed is never rendered as the empty string, so an empty
    `SAMEDEC_*TIME` means "not computable" and nothing else -/
theorem epochStr_nonempty (i : Int) : epochStr i ≠ [] := by
  cases i with
  | ofNat n =>
    simp only [epochStr, decStr, ne_eq, List.map_eq_nil_iff]
    intro h
    have := Nat.toDigits_ne_nil (b := 10) (n := n)
    exact this h
  | negSucc n => simp [epochStr]

-- non-vacuity: the example header of Thm/C06 (`ZCZC-WXR-RWT-012345-567890+0030-1231200-KLOX/NWS-`),
-- received on day 100 of 2021 at 22050 Hz
example : ∃ e, childEnv exHeader [50, 50, 48, 53, 48] 2021 100 = .ok e
    ∧ e.org = [87, 88, 82] ∧ e.evt = [82, 87, 84] ∧ e.sigNum = [48] ∧ e.isNational = []
    ∧ e.locations = [48, 49, 50, 51, 52, 53, 32, 53, 54, 55, 56, 57, 48]
    ∧ e.issueTime = [49, 54, 50, 48, 48, 52, 51, 50, 48, 48]      -- 1620043200 = 2021-05-03T12:00Z
    ∧ e.purgeTime = [49, 54, 50, 48, 48, 52, 53, 48, 48, 48] := by -- + 30 min
  refine ⟨_, rfl, ?_, ?_, ?_, ?_, ?_, ?_, ?_⟩ <;> decide +kernel

end SameVerif.C12
