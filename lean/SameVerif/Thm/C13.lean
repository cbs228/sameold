import SameVerif.Lemmas.IteratorFacts
/-
  C13 — Streaming: results independent of chunking; nothing is read ahead.
  All theorems hold for EVERY per-sample step function `step : σ → α → σ × List ε`.
-/
namespace SameVerif.C13
open SameVerif

variable {σ α ε : Type}

/-- `next()` returns `None` only when the queue was empty and the whole source has been
    read without any sample generating an event. -/
theorem none_means_exhausted (step : σ → α → σ × List ε) (r r' : Rx σ ε) (src src' : List α)
    (h : next step r src = (none, r', src')) :
    src' = [] ∧ r'.queue = [] ∧ r.queue = [] ∧ r'.consumed = r.consumed + src.length
      ∧ r'.st = (foldEvents step r.st src).2 ∧ Silent step r.st src := by
  cases hq : r.queue with
  | cons e q =>
    rw [next_queue step r src e q hq] at h
    simp at h
  | nil =>
    rw [next_empty step r src hq] at h
    obtain ⟨h1, h2, rfl⟩ := pull_none step r r' src src' h
    exact ⟨h1, hq, rfl, rfl, rfl, h2⟩

/-- `Silent`, sample by sample: no sample of `src` generated an event -/
theorem none_means_no_event (step : σ → α → σ × List ε) (r r' : Rx σ ε) (src src' : List α)
    (h : next step r src = (none, r', src')) :
    ∀ pre x post, src = pre ++ x :: post → (step (foldEvents step r.st pre).2 x).2 = [] :=
  (silent_iff_forall step r.st src).1 (none_means_exhausted step r r' src src' h).2.2.2.2.2

/-! ### A binding consumed to the end delivers exactly the reference fold -/

theorem drainNeed_eq (step : σ → α → σ × List ε) (r : Rx σ ε) (src : List α) :
    drainNeed step r src = (owed step r src).length + 1 := by
  simp [drainNeed, owed]

/-- With at least `drainNeed` fuel (queued events + events the samples generate + 1),
    `drainFuel` returns the queued events followed by the reference fold's events; the receiver
    ends with an empty queue, the fold's final state and every sample counted. -/
theorem drainFuel_eq (step : σ → α → σ × List ε) (fuel : Nat) (r : Rx σ ε) (src : List α)
    (hf : drainNeed step r src ≤ fuel) :
    drainFuel step fuel r src
      = (r.queue ++ (foldEvents step r.st src).1,
         { st := (foldEvents step r.st src).2, queue := [], consumed := r.consumed + src.length }) := by
  induction fuel generalizing r src with
  | zero => simp [drainNeed] at hf
  | succ n ih =>
    rw [drainFuel]
    cases hn : next step r src with
    | mk o rest =>
      obtain ⟨r', src'⟩ := rest
      obtain ⟨hc1, hc2, hc3⟩ := next_conserves step r r' src src' o hn
      cases o with
      | none =>
        obtain ⟨rfl, h2, h3, h4, h5, h6⟩ := none_means_exhausted step r r' src src' hn
        have hs := (silent_iff_fold step r.st src).1 h6
        simp only [h3, hs, List.append_nil]
        cases r' with
        | mk st q c =>
          simp only at h2 h4 h5
          subst h2 h4 h5
          rfl
      | some e =>
        simp only
        have hneed : drainNeed step r' src' ≤ n := by
          rw [drainNeed_eq] at hf ⊢
          rw [hc1] at hf
          simp at hf
          omega
        rw [ih r' src' hneed]
        simp only [owed, Option.toList_some, List.singleton_append] at hc1
        simp only [hc1, hc2, hc3]

/-- `drain` supplies exactly the fuel needed -/
theorem drain_eq (step : σ → α → σ × List ε) (r : Rx σ ε) (src : List α) :
    drain step r src
      = (r.queue ++ (foldEvents step r.st src).1,
         { st := (foldEvents step r.st src).2, queue := [], consumed := r.consumed + src.length }) :=
  drainFuel_eq step _ r src (Nat.le_refl _)

theorem drainFuel_eq_drain (step : σ → α → σ × List ε) (fuel : Nat) (r : Rx σ ε) (src : List α)
    (hf : drainNeed step r src ≤ fuel) : drainFuel step fuel r src = drain step r src := by
  rw [drainFuel_eq step fuel r src hf, drain_eq]

theorem fold_length_le (step : σ → α → σ × List ε) (k : Nat) (hk : ∀ s x, (step s x).2.length ≤ k)
    (s : σ) (src : List α) : (foldEvents step s src).1.length ≤ k * src.length := by
  induction src generalizing s with
  | nil => simp [foldEvents_nil]
  | cons x xs ih =>
    rw [foldEvents_cons]
    simp only [List.length_append, List.length_cons]
    have h1 := hk s x
    have h2 := ih (step s x).1
    rw [Nat.mul_succ]
    omega

/-- Explicit fuel.  If no sample generates more than `k` events (the real receiver:
    `k = 2`), `queue.length + k * src.length + 1` calls of `next()` are enough. -/
theorem drainFuel_eq_of_bounded (step : σ → α → σ × List ε) (k : Nat) (hk : ∀ s x, (step s x).2.length ≤ k)
    (fuel : Nat) (r : Rx σ ε) (src : List α) (hf : r.queue.length + k * src.length + 1 ≤ fuel) :
    drainFuel step fuel r src
      = (r.queue ++ (foldEvents step r.st src).1,
         { st := (foldEvents step r.st src).2, queue := [], consumed := r.consumed + src.length }) := by
  apply drainFuel_eq
  have := fold_length_le step k hk r.st src
  unfold drainNeed
  omega

/-- the bound `queue.length + src.length + 1` is NOT enough for an arbitrary `step`:
    one sample generating three events, fuel 2 = 0 + 1 + 1 -/
example :
    (drainFuel (fun (s : Nat) (x : Nat) => (s, [x, x, x])) (0 + [7].length + 1) { st := 0 } [7]).1
      ≠ (foldEvents (fun (s : Nat) (x : Nat) => (s, [x, x, x])) 0 [7]).1 := by decide

/-! ### The schedule does not matter -/

/-- Two bindings.  Draining `xs` in one binding and `ys` in a second one (same
    receiver) gives the same events, final state, queue and counter as one binding over `xs ++ ys`. -/
theorem schedule_independent (step : σ → α → σ × List ε) (r : Rx σ ε) (xs ys : List α) :
    (drain step r xs).1 ++ (drain step (drain step r xs).2 ys).1 = (drain step r (xs ++ ys)).1
      ∧ (drain step (drain step r xs).2 ys).2 = (drain step r (xs ++ ys)).2 := by
  simp only [drain_eq, foldEvents_append, List.nil_append, List.append_assoc, List.length_append,
    Nat.add_assoc, and_self]

theorem drainChunks_cons (step : σ → α → σ × List ε) (r : Rx σ ε) (c : List α) (cs : List (List α)) :
    drainChunks step r (c :: cs)
      = ((drain step r c).1 ++ (drainChunks step (drain step r c).2 cs).1,
         (drainChunks step (drain step r c).2 cs).2) := rfl

/-- Any partition into chunks.  One binding per chunk, in order, is one binding over the
    concatenation.  (With no chunk at all nothing is called, so the queue is not served: hence
    the side condition.) -/
theorem schedule_independent_chunks (step : σ → α → σ × List ε) (r : Rx σ ε) (chunks : List (List α))
    (h : chunks ≠ [] ∨ r.queue = []) :
    drainChunks step r chunks = drain step r chunks.flatten := by
  induction chunks generalizing r with
  | nil =>
    rcases h with h | h
    · exact absurd rfl h
    · cases r
      simp_all [drainChunks, drain_eq, foldEvents_nil]
  | cons c cs ih =>
    rw [drainChunks_cons, ih (drain step r c).2 (Or.inr (by rw [drain_eq]))]
    have := schedule_independent step r c cs.flatten
    simp only [List.flatten_cons]
    exact Prod.ext this.1 this.2

/-- the side condition is needed: no chunk, no call, the queued event stays queued -/
example : (drainChunks (fun (s x : Nat) => (s, [x])) { st := 0, queue := [9] } []).1 = []
    ∧ (drain (fun (s x : Nat) => (s, [x])) { st := 0, queue := [9] } ([] : List (List Nat)).flatten).1 = [9] := by
  decide

/-- in terms of the source: any `chunks` with `chunks.flatten = src` -/
theorem schedule_independent_partition (step : σ → α → σ × List ε) (r : Rx σ ε) (src : List α)
    (chunks : List (List α)) (hsrc : chunks.flatten = src) (h : chunks ≠ [] ∨ r.queue = []) :
    drainChunks step r chunks = drain step r src := by
  rw [← hsrc]; exact schedule_independent_chunks step r chunks h

/-- A binding dropped early loses nothing.  Call `next()` any number `k` of times on a
    by-reference source, drop the binding, drain the rest of the source in a fresh binding:
    the events of the two phases together, the final state, queue and counter are those of a
    single drain. -/
theorem drop_binding_loses_nothing (step : σ → α → σ × List ε) (k : Nat) (r : Rx σ ε) (src : List α) :
    (nextN step k r src).1 ++ (drain step (nextN step k r src).2.1 (nextN step k r src).2.2).1
        = (drain step r src).1
      ∧ (drain step (nextN step k r src).2.1 (nextN step k r src).2.2).2 = (drain step r src).2 := by
  induction k generalizing r src with
  | zero => simp [nextN]
  | succ k ih =>
    rw [nextN]
    cases hn : next step r src with
    | mk o rest =>
      obtain ⟨r', src'⟩ := rest
      obtain ⟨hc1, hc2, hc3⟩ := next_conserves step r r' src src' o hn
      obtain ⟨ih1, ih2⟩ := ih r' src'
      simp only [List.append_assoc, ih1, ih2]
      simp only [owed] at hc1
      simp only [drain_eq, hc1, hc2, hc3, and_self]

/-- one event at a time: the events `k` calls of `next()` return are a prefix of the drain -/
theorem nextN_prefix (step : σ → α → σ × List ε) (k : Nat) (r : Rx σ ε) (src : List α) :
    (nextN step k r src).1 <+: (drain step r src).1 :=
  ⟨_, (drop_binding_loses_nothing step k r src).1⟩

/-! ### Nothing is read ahead -/

/-- An event returned by `next()` either was queued (no sample is read), or was
    generated by the LAST sample read: everything read before it was silent, it is the first
    event of that sample, and the source is left exactly behind that sample. -/
theorem no_read_ahead (step : σ → α → σ × List ε) (r r' : Rx σ ε) (src src' : List α) (e : ε)
    (h : next step r src = (some e, r', src')) :
    (∃ q, r.queue = e :: q ∧ r'.queue = q ∧ src' = src ∧ r'.consumed = r.consumed ∧ r'.st = r.st)
    ∨ (r.queue = [] ∧ ∃ pre x q, src = pre ++ x :: src' ∧ Silent step r.st pre
        ∧ step (foldEvents step r.st pre).2 x = (r'.st, e :: q)
        ∧ r'.queue = q ∧ r'.consumed = r.consumed + pre.length + 1) := by
  cases hq : r.queue with
  | cons e' q =>
    rw [next_queue step r src e' q hq] at h
    simp only [Prod.mk.injEq, Option.some.injEq] at h
    obtain ⟨rfl, rfl, rfl⟩ := h
    exact Or.inl ⟨q, rfl, rfl, rfl, rfl, rfl⟩
  | nil =>
    rw [next_empty step r src hq] at h
    obtain ⟨pre, x, q, h1, h2, h3, h4, h5⟩ := pull_some step r r' src src' e h
    rw [hq, List.nil_append] at h4
    exact Or.inr ⟨rfl, pre, x, q, h1, h2, h3, h4, h5⟩

/-- nothing is skipped, and the sample counter never decreases (whatever `next()` returns) -/
theorem next_counts (step : σ → α → σ × List ε) (r r' : Rx σ ε) (src src' : List α) (o : Option ε)
    (h : next step r src = (o, r', src')) :
    r'.consumed + src'.length = r.consumed + src.length ∧ r.consumed ≤ r'.consumed
      ∧ ∃ used, src = used ++ src' ∧ r'.consumed = r.consumed + used.length := by
  cases o with
  | none =>
    obtain ⟨rfl, _, _, h4, _, _⟩ := none_means_exhausted step r r' src src' h
    exact ⟨by simp [h4], by omega, src, by simp, h4⟩
  | some e =>
    rcases no_read_ahead step r r' src src' e h with ⟨q, _, _, rfl, h4, _⟩ | ⟨_, pre, x, q, rfl, _, _, _, h5⟩
    · exact ⟨by omega, by omega, [], rfl, by simp [h4]⟩
    · refine ⟨by simp; omega, by omega, pre ++ [x], by simp, by simp; omega⟩

/-! ### Timestamps: events stamped with the sample counter at generation time -/

section Stamps
variable {π : Type}

/-- the stamping state agrees with the receiver's counter and nothing queued is from the future -/
def Stamped (r : Rx (σ × Nat) (Nat × π)) : Prop :=
  r.st.2 = r.consumed ∧ ∀ p ∈ r.queue, p.1 ≤ r.consumed

theorem stamp_apply (step : σ → α → σ × List π) (s : σ) (n : Nat) (x : α) :
    stamp step (s, n) x = (((step s x).1, n + 1), (step s x).2.map (fun p => (n + 1, p))) := rfl

theorem stamp_fold_snd (step : σ → α → σ × List π) (s : σ × Nat) (xs : List α) :
    (foldEvents (stamp step) s xs).2.2 = s.2 + xs.length := by
  induction xs generalizing s with
  | nil => simp [foldEvents_nil]
  | cons x xs ih =>
    obtain ⟨s, n⟩ := s
    rw [foldEvents_cons, ih, stamp_apply]
    simp only [List.length_cons]
    omega

/-- One call.  Under `Stamped`, an event returned by `next()` never carries
    a stamp beyond the samples read so far; a freshly generated one (empty queue) carries
    exactly the number of samples read, i.e. the index of the sample that generated it; and
    `Stamped` is preserved. -/
theorem stamp_next (step : σ → α → σ × List π) (r r' : Rx (σ × Nat) (Nat × π)) (src src' : List α)
    (t : Nat) (p : π) (hinv : Stamped r) (h : next (stamp step) r src = (some (t, p), r', src')) :
    Stamped r' ∧ t ≤ r'.consumed ∧ (r.queue = [] → t = r'.consumed) := by
  obtain ⟨hst, hq⟩ := hinv
  rcases no_read_ahead (stamp step) r r' src src' (t, p) h with
    ⟨q, h1, h2, _, h4, h5⟩ | ⟨h0, pre, x, q, _, _, h3, h4, h5⟩
  · refine ⟨⟨by rw [h5, h4]; exact hst, ?_⟩, ?_, ?_⟩
    · intro p' hp'
      rw [h4]; exact hq p' (by rw [h1]; exact List.mem_cons_of_mem _ (h2 ▸ hp'))
    · rw [h4]; exact hq (t, p) (by rw [h1]; exact List.mem_cons_self)
    · intro hnil; rw [hnil] at h1; cases h1
  · have hcnt : (foldEvents (stamp step) r.st pre).2.2 = r.consumed + pre.length := by
      rw [stamp_fold_snd, hst]
    generalize hfs : (foldEvents (stamp step) r.st pre).2 = fs at h3 hcnt
    obtain ⟨s, n⟩ := fs
    rw [stamp_apply] at h3
    simp only [Prod.mk.injEq] at h3
    obtain ⟨h3a, h3b⟩ := h3
    simp only at hcnt
    have hmem : ∀ p' ∈ (t, p) :: q, p'.1 = n + 1 := by
      intro p' hp'
      rw [← h3b] at hp'
      simp only [List.mem_map] at hp'
      obtain ⟨_, _, rfl⟩ := hp'
      rfl
    have ht : t = n + 1 := hmem (t, p) List.mem_cons_self
    refine ⟨⟨?_, ?_⟩, ?_, ?_⟩
    · rw [← h3a, h5]; simp only; omega
    · intro p' hp'
      rw [h4] at hp'
      rw [hmem p' (List.mem_cons_of_mem _ hp'), h5]; omega
    · omega
    · intro _; omega

theorem stamp_fold_events (step : σ → α → σ × List π) (s : σ × Nat) (xs : List α) :
    (∀ p ∈ (foldEvents (stamp step) s xs).1, s.2 < p.1 ∧ p.1 ≤ s.2 + xs.length)
      ∧ ((foldEvents (stamp step) s xs).1).Pairwise (fun a b => a.1 ≤ b.1) := by
  induction xs generalizing s with
  | nil => simp [foldEvents_nil]
  | cons x xs ih =>
    obtain ⟨s, n⟩ := s
    rw [foldEvents_cons, stamp_apply]
    obtain ⟨ih1, ih2⟩ := ih ((step s x).1, n + 1)
    simp only at ih1
    refine ⟨?_, ?_⟩
    · intro p hp
      simp only [List.mem_append, List.mem_map] at hp
      rcases hp with ⟨_, _, rfl⟩ | hp
      · simp
      · have := ih1 p hp
        simp only [List.length_cons]
        omega
    · rw [List.pairwise_append]
      refine ⟨?_, ih2, ?_⟩
      · rw [List.pairwise_map]
        exact List.pairwise_of_forall (fun _ _ => Nat.le_refl _)
      · intro a ha b hb
        simp only [List.mem_map] at ha
        obtain ⟨_, _, rfl⟩ := ha
        have := ih1 b hb
        simp only
        omega

/-- Whole run.  If the queued stamps are in order and not from the future,
    the stamps of everything a drain delivers are non-decreasing, and every generated event's
    stamp is the 1-based index (counted from `r.consumed`) of a sample of `src`. -/
theorem timestamps_monotone (step : σ → α → σ × List π) (r : Rx (σ × Nat) (Nat × π)) (src : List α)
    (hinv : Stamped r) (hsorted : r.queue.Pairwise (fun a b => a.1 ≤ b.1)) :
    ((drain (stamp step) r src).1).Pairwise (fun a b => a.1 ≤ b.1)
      ∧ ∀ p ∈ (foldEvents (stamp step) r.st src).1, r.consumed < p.1 ∧ p.1 ≤ r.consumed + src.length := by
  obtain ⟨hst, hq⟩ := hinv
  obtain ⟨h1, h2⟩ := stamp_fold_events step r.st src
  rw [hst] at h1
  refine ⟨?_, h1⟩
  rw [drain_eq, List.pairwise_append]
  refine ⟨hsorted, h2, ?_⟩
  intro a ha b hb
  have := hq a ha
  have := h1 b hb
  omega

end Stamps

/-! ### Non-vacuity: Nat samples, running sum as state, even samples are reported -/

def evStep (s x : Nat) : Nat × List Nat := (s + x, if x % 2 = 0 then [x] else [])

example : (drain evStep { st := 0 } [1, 2, 3, 4, 5]).1 = [2, 4]
    ∧ (drain evStep { st := 0 } [1, 2, 3, 4, 5]).2.st = 15
    ∧ (drain evStep { st := 0 } [1, 2, 3, 4, 5]).2.consumed = 5 := by decide

example : (drainChunks evStep { st := 0 } [[1], [], [2, 3, 4], [5]]).1 = [2, 4] := by decide

/-- the first `next()` reads `1, 2` and stops there: `3, 4, 5` are left in the source -/
example : (next evStep { st := 0 } [1, 2, 3, 4, 5]).1 = some 2
    ∧ (next evStep { st := 0 } [1, 2, 3, 4, 5]).2.2 = [3, 4, 5]
    ∧ (next evStep { st := 0 } [1, 2, 3, 4, 5]).2.1.consumed = 2 := by decide

example : (drain (stamp evStep) { st := (0, 0) } [1, 2, 3, 4, 5]).1 = [(2, 2), (4, 4)] := by decide

example : (next evStep { st := 0 } [1, 3, 5]).1 = none := by decide

end SameVerif.C13
