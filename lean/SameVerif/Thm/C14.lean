import SameVerif.Lemmas.HoldRun
/-
  C14 — No message is lost at end of input: a pending result is released by the `NoCarrier`
  ticks that `flush()` generates, and `flush()` generates enough of them.
  The first half is the case "NoCarrier ticks only" of the run lemmas of Lemmas/HoldRun; the
  second half is arithmetic on the number of ticks in `4 * rate` samples.
-/
namespace SameVerif.C14
open SameVerif SameVerif.C08 SameVerif.C09

/-! ### The pending result is released at the first tick at or after its deadline -/

/-- Along the `NoCarrier` ticks of `flush()`, a pending result is reported by the first tick
    whose symbol count reaches its deadline and by none before, provided the end-of-message
    timer, if armed, does not fire on these ticks. -/
theorem flush_releases (rate : Nat) (s : RState) (t : Timed MsgResult) (h : Holding s t)
    (pre : List RTick) (sample sym : Nat)
    (hpre : ∀ tk ∈ pre, tk.2.2 = .noCarrier ∧ tk.2.1 < t.deadline)
    (hforce : ∀ T, s.forceEomAt = some T → (∀ tk ∈ pre, tk.1 ≤ T) ∧ sample ≤ T)
    (hdue : t.deadline ≤ sym) :
    NoMessage (rRun rate s pre).2
      ∧ (rRun rate s pre).1.forceEomAt = s.forceEomAt
      ∧ Event.transport sample (.message t.data)
          ∈ (rTick rate (rRun rate s pre).1 sample sym .noCarrier).2
      ∧ (rTick rate (rRun rate s pre).1 sample sym .noCarrier).1.asm.pending = none := by
  obtain ⟨h1, h2, h3, h4, _⟩ := RxProv.hold_releases rate s t h pre sample sym
    (fun tk htk => Or.inr (hpre tk htk)) hforce hdue
  exact ⟨h1, h2, h3, h4⟩

/-- Without any assumption on the timer.  The timer can pre-empt the assembler on at most
    one tick: of the first two `NoCarrier` ticks at or after the deadline, one emits the event. -/
theorem flush_releases_unconditional (rate : Nat) (s : RState) (t : Timed MsgResult) (h : Holding s t)
    (pre : List RTick) (sample1 sym1 sample2 sym2 : Nat)
    (hpre : ∀ tk ∈ pre, tk.2.2 = .noCarrier ∧ tk.2.1 < t.deadline)
    (hdue1 : t.deadline ≤ sym1) (hdue2 : t.deadline ≤ sym2) :
    Event.transport sample1 (.message t.data)
        ∈ (rTick rate (rRun rate s pre).1 sample1 sym1 .noCarrier).2
    ∨ Event.transport sample2 (.message t.data)
        ∈ (rTick rate (rTick rate (rRun rate s pre).1 sample1 sym1 .noCarrier).1 sample2 sym2 .noCarrier).2 :=
  RxProv.hold_releases_unconditional rate s t h pre [] sample1 sym1 sample2 sym2
    (fun tk htk => Or.inr (hpre tk htk)) (fun _ hm => by cases hm) hdue1 hdue2

/-- Consecutive symbol counts.  Ticks numbered `sym0 + 1, sym0 + 2, …`, all `NoCarrier`,
    at least one of them, the last one at or beyond the deadline: the message comes out. -/
theorem flush_releases_consecutive (rate : Nat) (s : RState) (t : Timed MsgResult) (h : Holding s t)
    (ticks : List RTick) (sym0 : Nat) (hnc : ∀ tk ∈ ticks, tk.2.2 = .noCarrier)
    (hsym : ∀ i (hi : i < ticks.length), (ticks[i]).2.1 = sym0 + 1 + i)
    (hforce : ∀ T, s.forceEomAt = some T → ∀ tk ∈ ticks, tk.1 ≤ T)
    (hpos : 0 < ticks.length) (hlen : t.deadline ≤ sym0 + ticks.length) :
    ∃ sample, Event.transport sample (.message t.data) ∈ (rRun rate s ticks).2 := by
  have hlast : ticks.length - 1 < ticks.length := by omega
  obtain ⟨_, sample, _, _, _, _, _, _, _, _, _, hmem⟩ := RxProv.hold_releases_run rate s t h ticks
    (fun tk htk b hb => by rw [hnc tk htk] at hb; cases hb) hforce
    ⟨ticks[ticks.length - 1], List.getElem_mem hlast, hnc _ (List.getElem_mem hlast),
      by rw [hsym _ hlast]; omega⟩
  exact ⟨sample, hmem⟩

/-! ### `flush()` generates enough ticks -/

/-- ticks at most `gapMax` samples apart (the first no later than sample `gapMax`): tick number
    `k` (from 0) happens no later than sample `(k + 1) * gapMax` -/
theorem tick_position (gapMax : Nat) (pos : Nat → Nat) (h0 : pos 0 ≤ gapMax)
    (hstep : ∀ i, pos (i + 1) ≤ pos i + gapMax) (k : Nat) : pos k ≤ (k + 1) * gapMax := by
  induction k with
  | zero => simpa using h0
  | succ k ih =>
    have := hstep k
    rw [Nat.succ_mul]
    omega

/-- hence `N` samples contain at least `N / gapMax` ticks: ticks `0 … N / gapMax - 1` all
    happen within the first `N` samples -/
theorem ticks_within (gapMax N : Nat) (hg : 0 < gapMax) (pos : Nat → Nat) (h0 : pos 0 ≤ gapMax)
    (hstep : ∀ i, pos (i + 1) ≤ pos i + gapMax) (k : Nat) (hk : k < N / gapMax) : pos k ≤ N := by
  have h1 := tick_position gapMax pos h0 hstep k
  have h2 : (k + 1) * gapMax ≤ N := (Nat.le_div_iff_mul_le hg).1 hk
  omega

/-- `flush()` feeds `4 * rate` samples.  If symbol ticks are never more than `gapMax`
    samples apart, where `gapMax` is at most twice the nominal symbol period
    (`gapMax * 1000 ≤ rate * 1000 / 260`, nominal rate 520.83 Hz), these contain at least 1040
    ticks — more than `L + MAX_INTERBURST_SYMBOLS + 1` for every latency `L ≤ 300`. -/
theorem flush_ticks (rate gapMax L : Nat) (hg : 0 < gapMax)
    (hgap : gapMax * 1000 ≤ rate * 1000 / 260) (hL : L ≤ 300) :
    1040 ≤ 4 * rate / gapMax ∧ L + Gen.MAX_INTERBURST_SYMBOLS + 1 < 4 * rate / gapMax := by
  have h1 : 1040 ≤ 4 * rate / gapMax := by
    rw [Nat.le_div_iff_mul_le hg]
    omega
  refine ⟨h1, ?_⟩
  simp only [Gen.MAX_INTERBURST_SYMBOLS]
  omega

/-- the hypothesis of `flush_ticks` is satisfiable at every supported rate: `gapMax = ⌊rate / 260⌋ ≥ 30` -/
theorem flush_ticks_gap_exists (rate : Nat) (hrate : 8000 ≤ rate) :
    0 < rate / 260 ∧ rate / 260 * 1000 ≤ rate * 1000 / 260 := by
  omega

/-- `flush_ticks` with the canonical `gapMax` -/
theorem flush_ticks_canonical (rate L : Nat) (hrate : 8000 ≤ rate) (hL : L ≤ 300) :
    L + Gen.MAX_INTERBURST_SYMBOLS + 1 < 4 * rate / (rate / 260) :=
  (flush_ticks rate (rate / 260) L (flush_ticks_gap_exists rate hrate).1
    (flush_ticks_gap_exists rate hrate).2 hL).2

/-! ### Non-vacuity: a header is due at symbol 5; three NoCarrier ticks with sym 3, 4, 5 -/

example : Holding C09.st0 ⟨.ok (.som C09.hdr0), 5⟩ :=
  ⟨rfl, fun _ => Or.inl rfl, (by intro t ht; cases ht; simp)⟩

example : (rRun 8000 C09.st0 [(16, 3, .noCarrier), (32, 4, .noCarrier), (48, 5, .noCarrier)]).2
    = [Event.transport 48 (.message (.ok (.som C09.hdr0)))] := by
  rfl

example : 983 < 4 * 8000 / (8000 / 260) ∧ 4 * 8000 / (8000 / 260) = 1066 := by decide

end SameVerif.C14
