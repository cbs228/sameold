import SameVerif.Model.Time
/-
  C15 — Issue time is reconstructed exactly from day-of-year and a rough receive time.
-/
namespace SameVerif.C15
open SameVerif

/-- day number of (year, day of year) -/
def dayNumber (y : Int) (d : Nat) : Int := daysBeforeYear y + (d : Int) - 1

theorem div4_succ (y : Int) : (y + 1 + 3) / 4 = (y + 3) / 4 + (if y % 4 = 0 then 1 else 0) := by
  split <;> omega

theorem div100_succ (y : Int) : (y + 1 + 99) / 100 = (y + 99) / 100 + (if y % 100 = 0 then 1 else 0) := by
  split <;> omega

theorem div400_succ (y : Int) : (y + 1 + 399) / 400 = (y + 399) / 400 + (if y % 400 = 0 then 1 else 0) := by
  split <;> omega

/-- the Gregorian rule as a count: a day for each multiple of 4, less one for each multiple of 100,
    plus one for each multiple of 400 -/
theorem daysInYear_eq (y : Int) : (daysInYear y : Int)
    = 365 + (if y % 4 = 0 then 1 else 0) - (if y % 100 = 0 then 1 else 0)
        + (if y % 400 = 0 then 1 else 0) := by
  have d1 : y % 400 = 0 → y % 100 = 0 := by omega
  have d2 : y % 100 = 0 → y % 4 = 0 := by omega
  unfold daysInYear isLeap
  by_cases h4 : y % 4 = 0
  · by_cases h100 : y % 100 = 0
    · by_cases h400 : y % 400 = 0
      · simp [h4, h100, h400]
      · simp [h4, h100, h400]
    · have h400 : ¬ y % 400 = 0 := fun h => h100 (d1 h)
      simp [h4, h100, h400]
  · have h100 : ¬ y % 100 = 0 := fun h => h4 (d2 h)
    have h400 : ¬ y % 400 = 0 := fun h => h100 (d1 h)
    simp [h4, h100, h400]

/-- consecutive years are `daysInYear` apart — the calendar model is self-consistent for every year -/
theorem daysBeforeYear_succ (y : Int) : daysBeforeYear (y + 1) = daysBeforeYear y + daysInYear y := by
  rw [daysInYear_eq]
  simp only [daysBeforeYear, div4_succ, div100_succ, div400_succ]
  omega

theorem daysInYear_bounds (y : Int) : daysInYear y = 365 ∨ daysInYear y = 366 := by
  unfold daysInYear; split <;> simp

theorem daysBeforeYear_gap (y : Int) (k : Nat) : daysBeforeYear (y + k) ≥ daysBeforeYear y + 365 * k := by
  induction k with
  | zero => simp
  | succ k ih =>
    have h := daysBeforeYear_succ (y + k)
    have b := daysInYear_bounds (y + k)
    have : y + ((k + 1 : Nat) : Int) = y + k + 1 := by omega
    rw [this]
    omega

theorem yoHm_eq_some (y : Int) (d h m : Nat) (t : IssueTime) :
    yoHm y d h m = some t ↔
      t = ⟨y, d, h, m⟩ ∧ MIN_YEAR ≤ y ∧ y ≤ MAX_YEAR ∧ 1 ≤ d ∧ d ≤ daysInYear y ∧ h < 24 ∧ m < 60 := by
  unfold yoHm
  split
  · rename_i hc
    simp only [Option.some.injEq, hc, and_true]
    exact eq_comm
  · rename_i hc
    simp only [reduceCtorEq, false_iff]
    exact fun h => hc h.2

/-- the three outcomes of the ±180-day rule (away from the `i32` saturation) -/
theorem inferYear_next (d : Nat) (ry : Int) (rd : Nat) (h : (rd : Int) - d ≥ 180) (hry : ry < i32Max) :
    inferYear d ry rd = ry + 1 := by
  simp only [inferYear, h, ↓reduceIte]
  omega

theorem inferYear_same (d : Nat) (ry : Int) (rd : Nat) (h1 : (rd : Int) - d < 180) (h2 : -180 < (rd : Int) - d) :
    inferYear d ry rd = ry := by
  simp only [inferYear, Int.not_le.2 h1, Int.not_le.2 h2, ↓reduceIte]

theorem inferYear_prev (d : Nat) (ry : Int) (rd : Nat) (h : (rd : Int) - d ≤ -180) (hry : i32Min < ry) :
    inferYear d ry rd = ry - 1 := by
  have h1 : ¬ (rd : Int) - d ≥ 180 := by omega
  simp only [inferYear, h, h1, ↓reduceIte]
  omega

/-- **Year inference is exact.**  For every true issue instant (year `Y` in chrono's range, valid
    day `d`, `h < 24`, `m < 60`) and every receive date whose day number is within 179 days of the
    issue date (in particular within ±90), the reconstructed issue time is the true one. -/
theorem year_correct (Y : Int) (d h m : Nat) (ry : Int) (rd : Nat)
    (hY : MIN_YEAR < Y ∧ Y < MAX_YEAR)
    (hd : 1 ≤ d ∧ d ≤ daysInYear Y) (hh : h < 24) (hm : m < 60)
    (hrd : 1 ≤ rd ∧ rd ≤ daysInYear ry)
    (hnear : dayNumber ry rd - dayNumber Y d ≤ 179 ∧ dayNumber Y d - dayNumber ry rd ≤ 179) :
    calcIssue d h m ry rd = some ⟨Y, d, h, m⟩ := by
  unfold dayNumber at hnear
  have bY := daysInYear_bounds Y
  have bR := daysInYear_bounds ry
  -- two years apart is at least 730 days apart: the receive year is Y-1, Y or Y+1
  have hyr : ry = Y - 1 ∨ ry = Y ∨ ry = Y + 1 := by
    by_cases hgt : ry ≥ Y + 2
    · exfalso
      have g := daysBeforeYear_gap Y (ry - Y).toNat
      have : Y + ((ry - Y).toNat : Int) = ry := by omega
      rw [this] at g
      omega
    · by_cases hlt : ry ≤ Y - 2
      · exfalso
        have g := daysBeforeYear_gap ry (Y - ry).toNat
        have : ry + ((Y - ry).toNat : Int) = Y := by omega
        rw [this] at g
        omega
      · omega
  simp only [MIN_YEAR, MAX_YEAR] at hY
  have hres : yoHm Y d h m = some ⟨Y, d, h, m⟩ :=
    (yoHm_eq_some ..).2 ⟨rfl, by unfold MIN_YEAR; omega, by unfold MAX_YEAR; omega, hd.1, hd.2, hh, hm⟩
  unfold calcIssue
  rcases hyr with rfl | rfl | rfl
  · -- received in the previous year: the day difference is at least 180, so the year is bumped
    have hs := daysBeforeYear_succ (Y - 1)
    rw [Int.sub_add_cancel] at hs
    rw [inferYear_next d (Y - 1) rd (by omega) (by unfold i32Max; omega), Int.sub_add_cancel]
    exact hres
  · rw [inferYear_same d ry rd (by omega) (by omega)]
    exact hres
  · have hs := daysBeforeYear_succ Y
    rw [inferYear_prev d (Y + 1) rd (by omega) (by unfold i32Min; omega), Int.add_sub_cancel]
    exact hres

/-- the ±90-day form stated in the property -/
theorem year_correct_90 (Y : Int) (d h m : Nat) (ry : Int) (rd : Nat)
    (hY : MIN_YEAR < Y ∧ Y < MAX_YEAR)
    (hd : 1 ≤ d ∧ d ≤ daysInYear Y) (hh : h < 24) (hm : m < 60)
    (hrd : 1 ≤ rd ∧ rd ≤ daysInYear ry)
    (hnear : dayNumber ry rd - dayNumber Y d ≤ 90 ∧ dayNumber Y d - dayNumber ry rd ≤ 90) :
    calcIssue d h m ry rd = some ⟨Y, d, h, m⟩ :=
  year_correct Y d h m ry rd hY hd hh hm hrd ⟨by omega, by omega⟩

/-- the bound is tight: at 180 days the inferred year is wrong -/
theorem year_tight : calcIssue 1 0 0 2021 181 = some ⟨2022, 1, 0, 0⟩
    ∧ dayNumber 2021 181 - dayNumber 2021 1 = 180 := by
  decide

/-- impossible dates and times are errors -/
theorem invalid_rejected (d h m : Nat) (ry : Int) (rd : Nat) :
    (d = 0 → calcIssue d h m ry rd = none) ∧
    (h ≥ 24 → calcIssue d h m ry rd = none) ∧
    (m ≥ 60 → calcIssue d h m ry rd = none) ∧
    (d > 366 → calcIssue d h m ry rd = none) := by
  have key : ∀ (P : Prop), (∀ t, calcIssue d h m ry rd = some t → P → False) → P → calcIssue d h m ry rd = none := by
    intro P hP hp
    cases hc : calcIssue d h m ry rd with
    | none => rfl
    | some t => exact absurd hp (fun hp => hP t hc hp)
  refine ⟨key _ ?_, key _ ?_, key _ ?_, key _ ?_⟩ <;> intro t hres hbad <;>
    obtain ⟨_, _, _, h3, h4, h5, h6⟩ := (yoHm_eq_some ..).1 hres
  · omega
  · omega
  · omega
  · rcases daysInYear_bounds (inferYear d ry rd) with hb | hb <;> omega

/-- day 366 projected into a non-leap year is an error -/
theorem day366_nonleap (h m : Nat) (ry : Int) (rd : Nat) (t : IssueTime)
    (hres : calcIssue 366 h m ry rd = some t) : isLeap t.year = true := by
  obtain ⟨rfl, _, _, _, h4, _, _⟩ := (yoHm_eq_some ..).1 hres
  simp only
  unfold daysInYear at h4
  split at h4
  · assumption
  · omega

/-- a successful result always carries the message's own day, hour and minute, a valid date,
    and a year within one of the receive year -/
theorem never_wrong (d h m : Nat) (ry : Int) (rd : Nat) (t : IssueTime)
    (hres : calcIssue d h m ry rd = some t) :
    t.doy = d ∧ t.hour = h ∧ t.minute = m ∧ 1 ≤ d ∧ d ≤ daysInYear t.year ∧ h < 24 ∧ m < 60
      ∧ (t.year = ry ∨ t.year = ry + 1 ∨ t.year = ry - 1 ∨ t.year = i32Max ∨ t.year = i32Min) := by
  obtain ⟨rfl, _, _, h3, h4, h5, h6⟩ := (yoHm_eq_some ..).1 hres
  refine ⟨rfl, rfl, rfl, h3, h4, h5, h6, ?_⟩
  simp only [inferYear]
  split
  · omega
  · split <;> omega

/-- **Expiry.**  A message is expired exactly when its issue time is computable and
    issue + validity duration is strictly before `now` (to the nanosecond). -/
theorem expired_iff (d h m durH durM : Nat) (ny : Int) (nd : Nat) (nowSecs : Int) (nowNanos : Nat) :
    isExpiredAt d h m durH durM ny nd nowSecs nowNanos = true ↔
      ∃ t, calcIssue d h m ny nd = some t ∧
        (t.epochSecs + durationSecs durH durM < nowSecs
          ∨ (t.epochSecs + durationSecs durH durM = nowSecs ∧ 0 < nowNanos)) := by
  unfold isExpiredAt
  cases hc : calcIssue d h m ny nd with
  | none => simp
  | some t => simp

/-- the epoch-second conversion advances by exactly one day per day of year and by one year's days
    per year: it is the calendar, not a table -/
theorem epochSecs_step (y : Int) (d h m : Nat) :
    (IssueTime.mk y (d + 1) h m).epochSecs = (IssueTime.mk y d h m).epochSecs + 86400
      ∧ (IssueTime.mk (y + 1) 1 h m).epochSecs = (IssueTime.mk y (daysInYear y) h m).epochSecs + 86400 := by
  constructor
  · simp only [IssueTime.epochSecs]; omega
  · have := daysBeforeYear_succ y
    simp only [IssueTime.epochSecs]; omega

theorem epoch_anchor : (IssueTime.mk 1970 1 0 0).epochSecs = 0 := by decide

end SameVerif.C15
