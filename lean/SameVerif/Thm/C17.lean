import SameVerif.Model.Builder
/-
  C17 — Every documented configuration builds and runs.
-/
namespace SameVerif.C17
open SameVerif

/-- the equalizer order clamps: feedback never exceeds feed-forward, both at least one -/
theorem eq_orders_clamped (c : BCfg) :
    1 ≤ (eqOrders c).2 ∧ (eqOrders c).2 ≤ (eqOrders c).1 := by
  unfold eqOrders
  split
  · simp only; omega
  · simp

/-- **Every guard holds** for every sample rate ≥ 8 kHz, every DC-blocker length (including the
    documented 0.0 = disabled), the equalizer disabled or with any requested orders. -/
theorem guards_hold (c : BCfg) (hrate : 8000 ≤ c.rate) : guardsHold c = true := by
  have hb : Gen.BAUD_CENTIHZ = 52083 := rfl
  have htaps : demodTaps c > 0 := by
    unfold demodTaps
    rw [hb]
    have : 52083 ≤ c.rate * 100 := by omega
    exact Nat.div_pos this (by decide)
  have hdc : dcLen c > 0 := by unfold dcLen; omega
  obtain ⟨h1, h2⟩ := eq_orders_clamped c
  have h1 : 0 < (eqOrders c).2 := h1
  have h0 : 0 < (eqOrders c).1 := Nat.lt_of_lt_of_le h1 h2
  simp [guardsHold, htaps, hdc, h0, h1, h2]

/-- a DC-blocker length of 0.0 (or anything shorter than one input sample) gives the one-sample
    window that `DCBlocker::filter` treats as "disabled" -/
theorem dc_zero_is_disabled (c : BCfg) (h : c.dcMicro * c.rate * 100 < Gen.BAUD_CENTIHZ * 1000000) :
    dcLen c = 1 := by
  unfold dcLen
  rw [Nat.div_eq_of_lt h]
  rfl

/-- the derived lengths for the defaults at 22.05 kHz: 16 samples of DC window, 42 taps, (6, 4) -/
theorem defaults_22050 :
    dcLen ⟨22050, 380000, true, 6, 4⟩ = 16 ∧ demodTaps ⟨22050, 380000, true, 6, 4⟩ = 42
      ∧ eqOrders ⟨22050, 380000, true, 6, 4⟩ = (6, 4) := by
  decide

/-- before the fix the guard was the unprotected product: it fails exactly for lengths below one
    sample (the witness that was repaired: length 0.0 at any rate) -/
theorem dc_zero_counterexample_before_fix :
    (0 * 22050 * 100 / (Gen.BAUD_CENTIHZ * 1000000) > 0) = False := by
  decide

end SameVerif.C17
