import SameVerif.Thm.C11
/-
  C19 — a misbehaving child never costs a message (live mode; model: Model/App.lean).
  The operating system / child is the oracle `spawnOk`.
-/
namespace SameVerif.C19
open SameVerif

/-- What is printed does not depend on the OS/child oracle at all; when not quiet it is
    the reference list of decoded messages. -/
theorem printed_independent_of_oracle (cfg : AppCfg) (spawnOk spawnOk' : Nat → Bool)
    (inp : AppInput) :
    (appRun cfg spawnOk inp).printed = (appRun cfg spawnOk' inp).printed ∧
    (cfg.quiet = false →
      (appRun cfg spawnOk inp).printed = inp.live.map (·.2) ++ inp.flushed) := by
  refine ⟨?_, C11.printed_eq_reference cfg spawnOk inp⟩
  rw [appRun_eq, appRun_eq]

/-- With a child configured and an arbitrary oracle, every decoded message is printed:
    the printed list IS the list of decoded messages (same order), so each message occurs in the
    output exactly as often as it was decoded. -/
theorem messages_never_lost (q : Bool) (spawnOk : Nat → Bool) (inp : AppInput) (hq : q = false) :
    (appRun ⟨q, true⟩ spawnOk inp).printed = inp.live.map (·.2) ++ inp.flushed ∧
    ∀ m, (appRun ⟨q, true⟩ spawnOk inp).printed.count m
          = (inp.live.map (·.2) ++ inp.flushed).count m := by
  have h := C11.printed_eq_reference ⟨q, true⟩ spawnOk inp hq
  exact ⟨h, fun m => by rw [h]⟩

/-- Model-level termination (measure: remaining messages): once the fuel is at least
    the number of remaining messages + 1, the result of the Alerting loop does not depend on it —
    the fuel-exhausted branch is not what produces the result. -/
theorem alerting_fuel_irrelevant (cfg : AppCfg) (spawnOk : Nat → Bool) (inp : AppInput)
    (fuel fuel' : Nat) (m : AMsg) (pos : Nat) (rest : List (Nat × AMsg)) (fl : List AMsg)
    (out : AppOut)
    (h : rest.length + fl.length + 1 ≤ fuel) (h' : rest.length + fl.length + 1 ≤ fuel') :
    alerting cfg spawnOk inp fuel m pos rest fl out
      = alerting cfg spawnOk inp fuel' m pos rest fl out := by
  rw [alerting_eq_go _ _ _ _ _ _ _ _ _ h, alerting_eq_go _ _ _ _ _ _ _ _ _ h']

/-- The fuel `appRun` uses is never exhausted prematurely: `appRun` equals the
    fuel-free structurally recursive walk `appGo` over all messages (live, then flushed at
    position `n`), and giving the loop any larger amount of fuel changes nothing. -/
theorem terminates (cfg : AppCfg) (spawnOk : Nat → Bool) (inp : AppInput) :
    appRun cfg spawnOk inp
      = appGo cfg spawnOk inp.n (inp.live ++ inp.flushed.map (fun m => (inp.n, m))) {} ∧
    ∀ fuel, inp.live.length + inp.flushed.length + 1 ≤ fuel →
      appRun cfg spawnOk inp =
        (match inp.live with
         | (p, m) :: rest => alerting cfg spawnOk inp fuel m p rest inp.flushed {}
         | [] =>
           match inp.flushed with
           | m :: fl => alerting cfg spawnOk inp fuel m inp.n [] fl {}
           | [] => {}) := by
  refine ⟨appRun_eq_go cfg spawnOk inp, fun fuel hf => ?_⟩
  unfold appRun
  cases hl : inp.live with
  | cons x rest =>
    obtain ⟨p, m⟩ := x
    simp only
    apply alerting_fuel_irrelevant <;> simp [hl] at hf ⊢ <;> omega
  | nil =>
    cases hfl : inp.flushed with
    | cons m fl =>
      simp only
      apply alerting_fuel_irrelevant <;> simp [hl, hfl] at hf ⊢ <;> omega
    | nil => rfl

/-- non-vacuity: a concrete run in which every spawn fails, one in which the first fails, and
    one in which all succeed print the same four lines -/
example :
    (appRun ⟨false, true⟩ (fun _ => false)
      ⟨100, [(10, .som [90]), (50, .eom), (60, .som [91])], [.eom]⟩).printed
      = [.som [90], .eom, .som [91], .eom] ∧
    (appRun ⟨false, true⟩ (fun k => k != 0)
      ⟨100, [(10, .som [90]), (50, .eom), (60, .som [91])], [.eom]⟩).printed
      = [.som [90], .eom, .som [91], .eom] ∧
    (appRun ⟨false, true⟩ (fun _ => true)
      ⟨100, [(10, .som [90]), (50, .eom), (60, .som [91])], [.eom]⟩).printed
      = [.som [90], .eom, .som [91], .eom] := by decide

end SameVerif.C19
