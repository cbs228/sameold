import SameVerif.Lemmas.ChainLatency
/-
  The digital chain (headline of C01 at model level): link model → receiver glue → assembler.
  If the DSP front end delivers what `Spec.BurstObserved` says for each of the three bursts of a
  header transmission, the receiver's events contain exactly one message event, and it is
  `StartOfMessage` with text exactly `H`.

  Receiver bridge: a receiver run in which the forced end-of-message timer does not fire is the
    assembler run over `opsOfTicks` (`receiver_asm`, `receiver_events`, `receiver_results`).
  Link layer: the link model over a whole transmission (`segments_delivered'`, `three_segments'`).
  Composition: `transmission_decoded`, `transmission_decoded_clean` (instances of
    `transmission_decoded_timed`, `Lemmas/ChainLatency.lean`), and non-vacuity on a concrete
    stream.
-/
namespace SameVerif.Chain
open SameVerif SameVerif.Spec SameVerif.Asm

/-! ## Receiver bridge: receiver run = assembler operations -/

/-- **Bridge, state.**  `SamplesWithin rate smax ticks`: every tick's sample is `≤ smax` and
    `smax ≤ sample + MAX_MESSAGE_DURATION_SECS * rate`; `NoFire smax s`: a timer already armed in
    `s` does not expire before `smax`.  Then the timer never fires during the run, and the
    assembler inside the receiver ends where `runOps` over `opsOfTicks ticks` ends. -/
theorem receiver_asm (rate smax : Nat) (s : RState) (ticks : List RTick)
    (hnf : NoFire smax s) (hsw : SamplesWithin rate smax ticks) :
    (rRun rate s ticks).1.asm = (runOps s.asm (opsOfTicks ticks)).1 :=
  (run_asm rate smax ticks s hnf hsw).1

/-- **Bridge, events.**  Additionally `RInv s` and no EndOfMessage among the assembler run's
    outputs: the message events of the receiver run are, in order and one for one, the outputs of
    the assembler run — same result, and the event's sample and the output's time belong to one
    tick (`Matches`).  The restriction to runs without EndOfMessage outputs is what makes this
    exact: an EndOfMessage answered while the reported transport state already is EndOfMessage
    yields no event. -/
theorem receiver_events (rate smax : Nat) (s : RState) (ticks : List RTick) (hinv : RInv s)
    (hnf : NoFire smax s) (hsw : SamplesWithin rate smax ticks)
    (hne : ∀ o ∈ (runOps s.asm (opsOfTicks ticks)).2, o.2 ≠ .ok .eom) :
    Forall₂ (Matches ticks) (msgEvents (rRun rate s ticks).2) (runOps s.asm (opsOfTicks ticks)).2 :=
  have h0 := (eomCount_eq_zero_iff _).2 hne
  run_events rate smax ticks s hinv hnf hsw (by omega) (fun _ => h0)

/-- the results alone: the same list, in the same order -/
theorem receiver_results (rate smax : Nat) (s : RState) (ticks : List RTick) (hinv : RInv s)
    (hnf : NoFire smax s) (hsw : SamplesWithin rate smax ticks)
    (hne : ∀ o ∈ (runOps s.asm (opsOfTicks ticks)).2, o.2 ≠ .ok .eom) :
    (msgEvents (rRun rate s ticks).2).map (·.2) = ((runOps s.asm (opsOfTicks ticks)).2).map (·.2) :=
  forall2_matches_results ticks _ _ (receiver_events rate smax s ticks hinv hnf hsw hne)

/-! ## Link layer: the link model over a whole transmission -/

/-- **Any number of bursts.**  Segments, each an observed burst of its own payload, one after the
    other from a quiescent link state: the bursts reported are, in order and one for one,
    `payload_i ++ t_i` with `|t_i| ≤ ⌈rel_i / 8⌉`; the link is quiescent at the end. -/
theorem segments_delivered' (c : LCfg) (hE : c.maxErrors ≤ 6) (hP : c.fc.maxPrefixErr ≤ 7)
    (ps : List (List Byte × Seg)) (s : LState) (hs : Quiescent s)
    (hall : ∀ p ∈ ps, PayloadCond c p.1 ∧ Observed p.1 p.2) :
    Forall₂ (fun p b => ∃ t, b = p.1 ++ t ∧ t.length ≤ (p.2.rel + 7) / 8) ps
        (lrunBursts c s (ps.flatMap (fun p => p.2.ticks)))
      ∧ Quiescent (lrunState c s (ps.flatMap (fun p => p.2.ticks))) := by
  obtain ⟨h1, h2⟩ := segments_delivered_g c ps s hs.ready (deliversAll_of_observed c hE hP ps s hs hall)
  exact ⟨h1, quiescent_of_ready h2 (by rw [nsym_run]; have := hs.warm; omega)⟩

/-- **Three bursts and silence, tick by tick**: three stretches `L_i` (as long as the segments),
    each with exactly one `.burst (payload ++ t_i)`, reported more than 31 ticks after the end of
    the body (`SegOut`), then `.noCarrier` throughout the silence. -/
theorem three_segments' (c : LCfg) (hE : c.maxErrors ≤ 6) (hP : c.fc.maxPrefixErr ≤ 7)
    (payload : List Byte) (hc : PayloadCond c payload) (g1 g2 g3 : Seg)
    (h1 : Observed payload g1) (h2 : Observed payload g2) (h3 : Observed payload g3)
    (quiet : List Tick) (hq : ∀ x ∈ quiet, x.1.openOk = false)
    (s : LState) (hs : Quiescent s) :
    ∃ t1 t2 t3 L1 L2 L3,
      lrun c s (transmission g1 g2 g3 quiet) = L1 ++ L2 ++ L3 ++ List.replicate quiet.length LinkSt.noCarrier
        ∧ SegOut g1 payload t1 L1 ∧ SegOut g2 payload t2 L2 ∧ SegOut g3 payload t3 L3
        ∧ lrunBursts c s (transmission g1 g2 g3 quiet) = [payload ++ t1, payload ++ t2, payload ++ t3]
        ∧ Quiescent (lrunState c s (transmission g1 g2 g3 quiet)) := by
  obtain ⟨t1, o1, b1, q1⟩ := (deliversT_of_observed c hE hP payload hc g1 h1 s hs).toDelivers
  obtain ⟨t2, o2, b2, q2⟩ := (deliversT_of_observed c hE hP payload hc g2 h2 _ q1).toDelivers
  obtain ⟨t3, o3, b3, q3⟩ := (deliversT_of_observed c hE hP payload hc g3 h3 _ q2).toDelivers
  obtain ⟨hqo, q4⟩ := quiet_out c _ q3 quiet hq
  refine ⟨t1, t2, t3, _, _, _, ?_, o1, o2, o3, ?_, ?_⟩
  · simp only [transmission, lrun_append, lrunState_append, hqo]
  · simp only [transmission, lrunBursts_append, lrunState_append, b1, b2, b3]
    rw [lrunBursts_eq, hqo, (noBurst_iff _).2 (noBurst_replicate _)]
    rfl
  · simp only [transmission, lrunState_append]
    exact q4

/-! ## Composition: the chain -/

/-- the conclusion of the chain theorems: among the events there is exactly one message event;
    it carries the sample of tick `i` and is a StartOfMessage with text exactly `H` -/
def DecodedOnce (evs : List Event) (samples : Nat → Nat) (N : Nat) (H : List Byte) (off : Nat) : Prop :=
  ∃ i h, i < N ∧ msgEvents evs = [(samples i, .ok (.som h))]
    ∧ h.text = H ∧ h.offsetTime = off ∧ h.parity = 0 ∧ (h.voting = 0 ∨ h.voting = H.length)

/-- the timed conclusion without the timing: the StartOfMessage comes at most `HOLD` ticks after
    the third burst is reported -/
theorem TimedOnce.toDecodedOnce {evs : List Event} {samples : Nat → Nat} {L : List LinkSt}
    {H : List Byte} {off lo2 hi2 c3 lo3 hi3 N : Nat}
    (h : TimedOnce evs samples L H off lo2 hi2 c3 lo3 hi3) (hN : hi3 + HOLD < N) :
    DecodedOnce evs samples N H off := by
  obtain ⟨b2, b3, i, hd, t2, t3, _, ⟨_, q2, _⟩, hbusy, hev, hx1, hx2, hx3, hi⟩ := h
  obtain ⟨hv, hpos, _⟩ := som_tick hi hbusy (Nat.le_refl b2)
  exact ⟨i, hd, by omega, hev, hx1, hx2, hx3, hv⟩

/-- **C01, digital chain.**  `H`: a header text the parser accepts entirely, in the SAME character
    set, short enough for a burst.  Three observed bursts of `H` (`Spec.BurstObserved` each), then
    silence for at least the hold time; from the end of the first body to the end of the third
    segment no more than the history time.  Link state quiescent, receiver in its initial state.
    The tails that the link layer appends to the bursts (whatever they are — they are determined by
    the equalizer's decisions after the carrier stops) do not vote to a `-` (`htails`).  The sample
    counter stays within one forced-EOM timeout over the run (`hsamp`).

    Then the events of the composed run contain exactly one message event, a StartOfMessage whose
    text is exactly `H`, time offset `off`, no bit errors counted, and voting count `0` (released
    after two bursts) or `|H|` (after three). -/
theorem transmission_decoded (c : LCfg) (hE : c.maxErrors ≤ 6) (hP : c.fc.maxPrefixErr ≤ 7)
    (rate sym0 smax : Nat) (samples : Nat → Nat) (H : List Byte) (off : Nat)
    (hcan : checkHeader H = some (off, H.length))
    (hall : ∀ b ∈ H, isAllowed b = true)
    (hfits : H.length ≤ Gen.MAX_BURST_LENGTH)
    (g1 g2 g3 : Seg) (h1 : Observed H g1) (h2 : Observed H g2) (h3 : Observed H g3)
    (quiet : List Tick) (hq : ∀ x ∈ quiet, x.1.openOk = false) (hqlen : HOLD ≤ quiet.length)
    (hspan : g1.tail.length + g2.ticks.length + g3.ticks.length ≤ HIST)
    (ls0 : LState) (hls : Quiescent ls0)
    (htails : ∀ t1 t2 t3, t1.length ≤ (g1.rel + 7) / 8 → t2.length ≤ (g2.rel + 7) / 8 →
      t3.length ≤ (g3.rel + 7) / 8 →
      lrunBursts c ls0 (transmission g1 g2 g3 quiet) = [H ++ t1, H ++ t2, H ++ t3] →
      TailsNoDash H t1 t2 t3)
    (hsamp : ∀ i, i < (transmission g1 g2 g3 quiet).length →
      samples i ≤ smax ∧ smax ≤ samples i + TIMEOUT rate) :
    DecodedOnce (chain c rate ls0 {} sym0 samples (transmission g1 g2 g3 quiet))
      samples (transmission g1 g2 g3 quiet).length H off := by
  have hc := payloadCond_of_header c H _ hcan hall hfits
  have d1 := deliversT_of_observed c hE hP H hc g1 h1 ls0 hls
  have d2 := deliversT_of_observed c hE hP H hc g2 h2 _ d1.quiescent
  have d3 := deliversT_of_observed c hE hP H hc g3 h3 _ d2.quiescent
  refine (transmission_decoded_timed c rate sym0 smax samples H off hcan hall hfits g1 g2 g3 quiet ls0
    d1 d2 d3 _ (segBusy_void c _ g3)
    (fun t _ => noHitAt_of_closed c _ quiet t (fun x h => hq x (List.mem_of_getElem? h)))
    hqlen hspan htails hsamp).toDecodedOnce ?_
  have := h3.tail_len
  simp only [transmission, List.length_append, g3.ticks_length]
  omega

/-- the same when the close threshold fails as soon as the carrier stops (`rel = 0` for the three
    bursts): the link layer appends nothing, the condition on the tails is void -/
theorem transmission_decoded_clean (c : LCfg) (hE : c.maxErrors ≤ 6) (hP : c.fc.maxPrefixErr ≤ 7)
    (rate sym0 smax : Nat) (samples : Nat → Nat) (H : List Byte) (off : Nat)
    (hcan : checkHeader H = some (off, H.length))
    (hall : ∀ b ∈ H, isAllowed b = true)
    (hfits : H.length ≤ Gen.MAX_BURST_LENGTH)
    (g1 g2 g3 : Seg) (h1 : Observed H g1) (h2 : Observed H g2) (h3 : Observed H g3)
    (hr1 : g1.rel = 0) (hr2 : g2.rel = 0) (hr3 : g3.rel = 0)
    (quiet : List Tick) (hq : ∀ x ∈ quiet, x.1.openOk = false) (hqlen : HOLD ≤ quiet.length)
    (hspan : g1.tail.length + g2.ticks.length + g3.ticks.length ≤ HIST)
    (ls0 : LState) (hls : Quiescent ls0)
    (hsamp : ∀ i, i < (transmission g1 g2 g3 quiet).length →
      samples i ≤ smax ∧ smax ≤ samples i + TIMEOUT rate) :
    DecodedOnce (chain c rate ls0 {} sym0 samples (transmission g1 g2 g3 quiet))
      samples (transmission g1 g2 g3 quiet).length H off := by
  apply transmission_decoded c hE hP rate sym0 smax samples H off hcan hall hfits g1 g2 g3 h1 h2 h3
    quiet hq hqlen hspan ls0 hls ?_ hsamp
  intro t1 t2 t3 l1 l2 l3 _
  rw [hr1] at l1; rw [hr2] at l2; rw [hr3] at l3
  rw [List.eq_nil_of_length_eq_zero (by omega : t1.length = 0),
    List.eq_nil_of_length_eq_zero (by omega : t2.length = 0),
    List.eq_nil_of_length_eq_zero (by omega : t3.length = 0)]
  exact tailsNoDash_nil H

section Demo
open SameVerif.C01

/-! ## non-vacuity -/

/-- the demo burst of `Thm/C01.lean` as a segment: 40 quiet ticks, the header
    `ZCZC-WXR-RWT-012345+0030-1231200-KXYZ/NWS-` acquired at bit 5, carrier released after 10 ticks -/
def demoSeg : Seg := ⟨demoLead 40, demoBody demoHeader 5 0x41, demoTail demoHeader 10 0x41, 5, 10⟩

theorem demoSeg_observed : Observed demoHeader demoSeg := demoHeader_observed

theorem demoHeader_canonical :
    checkHeader demoHeader = some (19, demoHeader.length) ∧ (∀ b ∈ demoHeader, isAllowed b = true)
      ∧ demoHeader.length ≤ Gen.MAX_BURST_LENGTH := by
  decide +kernel

theorem demoSeg_lengths : demoSeg.tail.length = 50 ∧ demoSeg.ticks.length = 554
    ∧ (transmission demoSeg demoSeg demoSeg (demoLead 700)).length = 2362 := by
  decide +kernel

theorem demoQuiet_closed : ∀ x ∈ demoLead 700, x.1.openOk = false := by
  intro x hx
  rw [(List.mem_replicate.1 hx).2]

/-- **The link layer on a concrete three-burst stream**, by the general theorem (sync budget 6, prefix
    budget 7 — the extremes the theorem allows) -/
theorem demo_three_segments :
    ∃ t1 t2 t3 L1 L2 L3,
      lrun ⟨6, ⟨7, 5⟩⟩ { nsym := 32 } (transmission demoSeg demoSeg demoSeg (demoLead 700))
          = L1 ++ L2 ++ L3 ++ List.replicate 700 LinkSt.noCarrier
        ∧ SegOut demoSeg demoHeader t1 L1 ∧ SegOut demoSeg demoHeader t2 L2 ∧ SegOut demoSeg demoHeader t3 L3
        ∧ lrunBursts ⟨6, ⟨7, 5⟩⟩ { nsym := 32 } (transmission demoSeg demoSeg demoSeg (demoLead 700))
            = [demoHeader ++ t1, demoHeader ++ t2, demoHeader ++ t3]
        ∧ Quiescent (lrunState ⟨6, ⟨7, 5⟩⟩ { nsym := 32 } (transmission demoSeg demoSeg demoSeg (demoLead 700))) := by
  have hc := demoHeader_canonical
  have := three_segments' ⟨6, ⟨7, 5⟩⟩ (by decide) (by decide) demoHeader
    (payloadCond_of_header _ _ _ hc.1 hc.2.1 hc.2.2) demoSeg demoSeg demoSeg
    demoSeg_observed demoSeg_observed demoSeg_observed (demoLead 700) demoQuiet_closed
    { nsym := 32 } quiescent_fresh32
  rwa [show (demoLead 700).length = 700 from List.length_replicate] at this

/-- the bursts of the demo transmission with the default budgets (2, 2, 5), evaluated (by `lrunE`
    on `demoPacked`): each is the header followed by two garbage bytes `AA`; the same from the
    initial link state `{}` -/
theorem demo_bursts (s : LState) (hs : s = { nsym := 32 } ∨ s = {}) :
    lrunBursts ⟨2, ⟨2, 5⟩⟩ s (transmission demoSeg demoSeg demoSeg (demoLead 700))
      = [demoHeader ++ [0x41, 0x41], demoHeader ++ [0x41, 0x41], demoHeader ++ [0x41, 0x41]] := by
  rcases hs with rfl | rfl
  all_goals
    rw [lrunBursts_eq_lrunE _ _ _ rfl]
    simp only [transmission, Seg.ticks, demoSeg, demoPacked_eq]
    decide +kernel

theorem demo_tails : TailsNoDash demoHeader [0x41, 0x41] [0x41, 0x41] [0x41, 0x41] := by
  unfold TailsNoDash
  decide +kernel

/-- `htails` of the chain theorems on the demo streams: the evaluated bursts begin with the header
    three times, each with the tail `AA`, whatever follows (`r`: nothing, or the trailer bursts) -/
theorem demo_htails {bs r r' : List (List Byte)} {t1 t2 t3 : List Byte}
    (h : bs = (demoHeader ++ [0x41, 0x41]) :: (demoHeader ++ [0x41, 0x41]) :: (demoHeader ++ [0x41, 0x41]) :: r)
    (hb : bs = (demoHeader ++ t1) :: (demoHeader ++ t2) :: (demoHeader ++ t3) :: r') :
    TailsNoDash demoHeader t1 t2 t3 := by
  rw [h] at hb
  simp only [List.cons.injEq, List.append_cancel_left_eq] at hb
  obtain ⟨e1, e2, e3, _⟩ := hb
  rw [← e1, ← e2, ← e3]
  exact demo_tails

/-- `hsamp` of the chain theorems on the demo streams: 42 samples per symbol, and the whole stream
    (`N ≤ 70875` ticks) within one forced-EOM timeout -/
theorem demo_hsamp (N : Nat) (hN : N ≤ 70875) (i : Nat) (hi : i < N) :
    42 * i ≤ 42 * N ∧ 42 * N ≤ 42 * i + TIMEOUT 22050 := by
  have hT : TIMEOUT 22050 = 2976750 := by decide
  omega

/-- **The chain on a concrete stream**: all hypotheses of `transmission_decoded` are satisfiable
    (default budgets, 22050 Hz, 42 samples per symbol).  By the general theorem; only the bursts'
    tails are evaluated, to discharge `htails`. -/
theorem demo_decoded :
    DecodedOnce (chain ⟨2, ⟨2, 5⟩⟩ 22050 { nsym := 32 } {} 0 (fun i => 42 * i)
        (transmission demoSeg demoSeg demoSeg (demoLead 700)))
      (fun i => 42 * i) 2362 demoHeader 19 := by
  have hc := demoHeader_canonical
  have hl := demoSeg_lengths
  have := transmission_decoded ⟨2, ⟨2, 5⟩⟩ (by decide) (by decide) 22050 0 (42 * 2362) (fun i => 42 * i)
    demoHeader 19 hc.1 hc.2.1 hc.2.2 demoSeg demoSeg demoSeg demoSeg_observed demoSeg_observed
    demoSeg_observed (demoLead 700) demoQuiet_closed
    (by rw [show (demoLead 700).length = 700 from List.length_replicate]; decide)
    (by rw [hl.1, hl.2.1]; decide) { nsym := 32 } quiescent_fresh32
    (fun _ _ _ _ _ _ hb => demo_htails (demo_bursts _ (.inl rfl)) hb)
    (by rw [hl.2.2]; exact demo_hsamp 2362 (by decide))
  rwa [hl.2.2] at this

end Demo

end SameVerif.Chain
