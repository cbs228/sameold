import SameVerif.Thm.ChainT
import SameVerif.Thm.ChainLatency
/-
  The digital chain for the WHOLE transmission: header ×3, then `NNNN` ×3, on one tick stream, link
  model → receiver glue → assembler, all from their initial states.

  Transport (the assembler over the six bursts) is `Thm/TransportFull.lean`.
  Receiver bridge (`receiver_events_eom`): that of `Thm/Chain.lean` with EndOfMessage outputs
    allowed — at most one, the reported transport state not EndOfMessage at the start.
  Composition (`stream_full2`): conclusion `DecodedFull`: exactly two message events,
    StartOfMessage with text exactly `H` at tick `i`, EndOfMessage at tick `j`, `i < j`
    (`stream_full2_latency`, `Thm/ChainLatency.lean`, with the timing reduced to bounds).
-/
namespace SameVerif.Chain
open SameVerif SameVerif.Spec SameVerif.Asm SameVerif.Full

/-! ## Receiver bridge: receiver run = assembler operations, EndOfMessage included -/

/-- **Bridge, events, with EndOfMessage.**  `RInv s`; the timer does not fire (`NoFire`,
    `SamplesWithin`: the whole run within one timeout — a StartOfMessage output arms the timer, an
    EndOfMessage output clears it, neither matters within one timeout); the reported transport
    state is not EndOfMessage at the start; the assembler run over `opsOfTicks ticks` outputs at
    most one EndOfMessage.  Then the message events of the receiver run are, in order and one for
    one, the outputs of the assembler run. -/
theorem receiver_events_eom (rate smax : Nat) (s : RState) (ticks : List RTick) (hinv : RInv s)
    (hnf : NoFire smax s) (hsw : SamplesWithin rate smax ticks)
    (hts : s.transportState ≠ .message (.ok .eom))
    (hone : eomCount (runOps s.asm (opsOfTicks ticks)).2 ≤ 1) :
    Forall₂ (Matches ticks) (msgEvents (rRun rate s ticks).2) (runOps s.asm (opsOfTicks ticks)).2 :=
  run_events rate smax ticks s hinv hnf hsw hone (fun h => absurd h hts)

/-- the results alone: the same list, in the same order -/
theorem receiver_results_eom (rate smax : Nat) (s : RState) (ticks : List RTick) (hinv : RInv s)
    (hnf : NoFire smax s) (hsw : SamplesWithin rate smax ticks)
    (hts : s.transportState ≠ .message (.ok .eom))
    (hone : eomCount (runOps s.asm (opsOfTicks ticks)).2 ≤ 1) :
    (msgEvents (rRun rate s ticks).2).map (·.2) = ((runOps s.asm (opsOfTicks ticks)).2).map (·.2) :=
  forall2_matches_results ticks _ _ (receiver_events_eom rate smax s ticks hinv hnf hsw hts hone)

/-- **"At most one" matters.**  Two trailer bursts a history time apart with only carrier ticks
    (no poll) between them: the assembler outputs EndOfMessage twice (F5), the receiver reports
    one event — the second answer equals the reported transport state. -/
theorem eom_twice_one_event :
    (runOps {} (opsOfTicks [(10, 1, .burst litNNNN), (20, 2, .reading), (30, 2 + HIST, .burst litNNNN)])).2
        = [(1, .ok .eom), (2 + HIST, .ok .eom)]
    ∧ msgEvents (rRun 22050 {} [(10, 1, .burst litNNNN), (20, 2, .reading), (30, 2 + HIST, .burst litNNNN)]).2
        = [(10, .ok .eom)] := by
  decide +kernel

/-! ## Composition: the chain -/

/-- the conclusion: among the events there are exactly two message events, a StartOfMessage with
    text exactly `H` carrying the sample of tick `i ≥ loI`, then an EndOfMessage carrying the sample
    of tick `j`, `i < j`, `loJ ≤ j < hiJ` -/
def DecodedFull (evs : List Event) (samples : Nat → Nat) (H : List Byte) (off loI loJ hiJ : Nat) : Prop :=
  ∃ i j h, loI ≤ i ∧ i < j ∧ loJ ≤ j ∧ j < hiJ
    ∧ msgEvents evs = [(samples i, .ok (.som h)), (samples j, .ok .eom)]
    ∧ h.text = H ∧ h.offsetTime = off ∧ h.parity = 0 ∧ (h.voting = 0 ∨ h.voting = H.length)

/-- the timed conclusion in bounds alone; `hi3 + HOLD < lo4`: the StartOfMessage is out before the
    first trailer burst is reported -/
theorem TimedFull.toDecodedFull {evs : List Event} {samples : Nat → Nat} {L : List LinkSt}
    {H : List Byte} {off lo2 hi2 c3 lo3 hi3 lo4 hi4 lo5 hi5 hiJ : Nat}
    (h : TimedFull evs samples L H off lo2 hi2 c3 lo3 hi3 lo4 hi4 lo5 hi5) (h23 : lo2 ≤ lo3)
    (h45 : hi4 < lo5) (h34 : hi3 + HOLD < lo4) (h5 : hi5 < hiJ) :
    DecodedFull evs samples H off (lo2 + HOLD) lo4 hiJ := by
  obtain ⟨i, j, hd, hev, a1, a2, a3, a4, b1, b2, b3, b4, _⟩ := h.bounds h23 h45
  exact ⟨i, j, hd, b1, by omega, b3, by omega, hev, a1, a2, a3, a4⟩

/-- **C01, the whole transmission, digital chain, generalised realistic assumptions, observational
    form.**  `stream`: everything the front end delivered, from the first symbol tick on.  Six bursts
    at the positions `g1 g2 g3` (payload `H`, canonical) and `e1 e2 e3` (payload `NNNN`); the stream
    meets the decidable condition `Spec.StreamObserved2` for them.
    * gap: the `HOLD` ticks after the third header burst's minimal tail hold no potential sync hit
      (`hgapq`) and end before the first trailer burst begins (`hgaplen`): the receiver polls the
      assembler there, the StartOfMessage is out before the trailer arrives (without it: F4);
    * timing: each group of three bursts within one history time (`hspanH`, `hspanT`); nothing
      relates the two groups — near, mid and far zone are all covered;
    * tails: the header tails do not vote to a `-` (`htails`, as in `stream_decoded2`); the first
      trailer burst with its tail is no longer than the header (`hshort`);
    * prefix budget at most 4 (`hP4`), samples within one forced-EOM timeout (`hsamp`).
    No quiet stretch is needed after the trailer: EndOfMessage is not held.

    Then the events of the composed run, all from the initial states, contain exactly two message
    events: StartOfMessage with text exactly `H` at a tick `i ≥ g2.e + 31 + HOLD`, then EndOfMessage
    at a tick `j > i`, after the first trailer burst's body and before the end of the second trailer
    burst's minimal tail (`e1.e + 31 ≤ j < e2.stop`). -/
theorem stream_full2 (c : LCfg) (hE : c.maxErrors ≤ 6) (hP4 : c.fc.maxPrefixErr ≤ 4)
    (rate sym0 smax : Nat) (samples : Nat → Nat) (H : List Byte) (off : Nat)
    (hcan : checkHeader H = some (off, H.length))
    (hall : ∀ b ∈ H, isAllowed b = true)
    (hfits : H.length ≤ Gen.MAX_BURST_LENGTH)
    (stream : List Tick) (g1 g2 g3 e1 e2 e3 : BurstSpec2)
    (hp1 : g1.payload = H) (hp2 : g2.payload = H) (hp3 : g3.payload = H)
    (hp4 : e1.payload = litNNNN) (hp5 : e2.payload = litNNNN) (hp6 : e3.payload = litNNNN)
    (hobs : StreamObserved2 c.maxErrors stream [g1, g2, g3, e1, e2, e3])
    (hgapq : ∀ t, g3.stop ≤ t → t < g3.stop + HOLD →
      potHit c.maxErrors (fun i => stream.getD i dfltTick) t = false)
    (hgaplen : g3.stop + HOLD ≤ e1.o)
    (hspanH : g3.stop ≤ g1.e + HIST) (hspanT : e3.stop ≤ e1.e + HIST)
    (hshort : (e1.rel + 7) / 8 + 4 ≤ H.length)
    (htails : ∀ t1 t2 t3 x1 x2 x3, t1.length ≤ (g1.rel + 7) / 8 → t2.length ≤ (g2.rel + 7) / 8 →
      t3.length ≤ (g3.rel + 7) / 8 →
      lrunBursts c {} stream
        = [H ++ t1, H ++ t2, H ++ t3, litNNNN ++ x1, litNNNN ++ x2, litNNNN ++ x3] →
      TailsNoDash H t1 t2 t3)
    (hsamp : ∀ i, i < stream.length → samples i ≤ smax ∧ smax ≤ samples i + TIMEOUT rate) :
    DecodedFull (chain c rate {} {} sym0 samples stream) samples H off
      (g2.e + 31 + HOLD) (e1.e + 31) e2.stop := by
  have ho : g2.stop ≤ g3.o ∧ e1.stop ≤ e2.o := by
    obtain ⟨_, _, _, _, _, _, _, _, ⟨ho3, _⟩, _, _, _, _, _, _, _, ⟨ho5, _⟩, _⟩ := hobs
    exact ⟨ho3, ho5⟩
  have := g2.stop_eq
  have := g3.stop_eq
  have := e1.stop_eq
  have := e2.stop_eq
  have := g3.e_eq
  have := e1.e_eq
  have := e2.e_eq
  exact (stream_full2_latency c hE hP4 rate sym0 smax samples H off hcan hall hfits stream g1 g2 g3
    e1 e2 e3 hp1 hp2 hp3 hp4 hp5 hp6 hobs hgapq hgaplen hspanH hspanT hshort htails hsamp).toDecodedFull
    (by omega) (by omega) (by omega) (by omega)

end SameVerif.Chain
