import SameVerif.Thm.ChainFull
/-
  Non-vacuity of `Chain.stream_full2` (the whole-transmission chain theorem) on a
  concrete tick stream of 3252 ticks; the kernel evaluations (potential hits, the link model's
  run, the receiver's run) are kept apart from `Thm/ChainFull.lean`.
-/
namespace SameVerif.Chain
open SameVerif SameVerif.Spec SameVerif.Asm SameVerif.Full

section Demo
open SameVerif.C01

/-! ## non-vacuity: one stream with the header three times and the trailer three times -/

/-- tick `i`: the stream of `Thm/ChainT.lean` (three periods of 574 ticks with the header
    `demoHeader`, wrong-phase and early sync hits in the lead-ins, then noise) for 2422 ticks — the
    last 700 of them noise: the gap — and then the same construction with the payload `NNNN`
    (three periods of 270 ticks), then noise -/
def demo6Tk (i : Nat) : Tick :=
  if i < 3 * 574 + 700 then demo3Tk demoHeader 10 0x41 i
  else demo3Tk litNNNN 10 0x41 (i - (3 * 574 + 700))

def demo6Stream : List Tick := (List.range 3252).map demo6Tk

def demo6Segs : List BurstSpec2 :=
  [⟨60, demoHeader, 10, 39, 10⟩, ⟨574 + 60, demoHeader, 10, 39, 10⟩, ⟨2 * 574 + 60, demoHeader, 10, 39, 10⟩,
   ⟨2422 + 60, litNNNN, 10, 39, 10⟩, ⟨2422 + 270 + 60, litNNNN, 10, 39, 10⟩,
   ⟨2422 + 540 + 60, litNNNN, 10, 39, 10⟩]

/-- the ticks at which the open threshold is met and the window is within 2 of the sync word (one
    pass over the stream): those of `demo3_potHits`, none in the gap, and the same pattern in the
    three trailer periods -/
theorem demo6_potHits :
    potHitsE 2 0 0 demo6Stream
      = [68, 99, 107, 115, 123, 131, 139, 147, 155, 163, 171, 179, 187,
         600, 642, 673, 681, 689, 697, 705, 713, 721, 729, 737, 745, 753, 761,
         1174, 1216, 1247, 1255, 1263, 1271, 1279, 1287, 1295, 1303, 1311, 1319, 1327, 1335,
         2490, 2521, 2529, 2537, 2545, 2553, 2561, 2569, 2577, 2585, 2593, 2601, 2609,
         2718, 2760, 2791, 2799, 2807, 2815, 2823, 2831, 2839, 2847, 2855, 2863, 2871, 2879,
         2988, 3030, 3061, 3069, 3077, 3085, 3093, 3101, 3109, 3117, 3125, 3133, 3141, 3149] := by
  unfold demo6Stream demo6Tk demo3Tk
  simp only [frameBit_eq_testBit, getD_eq_packNat]
  decide +kernel

/-- it meets the generalised realistic assumptions (default sync budget 2): the tracking clauses
    by construction of `demo3Tk`, the rest a condition on the potential hits -/
theorem demo6_observed : StreamObserved2 2 demo6Stream demo6Segs := by
  have hlen : demo6Stream.length = 3252 := by
    unfold demo6Stream; rw [List.length_map, List.length_range]
  have hH := demo3Tk_trackAt (fun i => demo6Stream.getD i dfltTick) demo6Stream.length 0 demoHeader 10 0x41
    464 574 (by decide) (by decide)
    (fun i hi => by
      rw [demo6Stream, getD_map_range, Nat.zero_add, if_pos (show i < 3252 by omega), demo6Tk,
        if_pos (show i < 3 * 574 + 700 by omega)])
    (by rw [hlen]; decide)
  have hN := demo3Tk_trackAt (fun i => demo6Stream.getD i dfltTick) demo6Stream.length 2422 litNNNN 10 0x41
    160 270 (by decide) (by decide)
    (fun i hi => by
      rw [demo6Stream, getD_map_range, if_pos (show 2422 + i < 3252 by omega), demo6Tk,
        if_neg (show ¬ 2422 + i < 3 * 574 + 700 by omega), Nat.add_sub_cancel_left])
    (by rw [hlen]; decide)
  refine streamObserved2_of_hits 2 _ _ ?_ ?_
  · intro g hg
    simp only [demo6Segs, List.mem_cons, List.not_mem_nil, or_false] at hg
    rcases hg with rfl | rfl | rfl | rfl | rfl | rfl
    · exact hH 0 (by decide) _ (by decide)
    · exact hH 1 (by decide) _ (by decide)
    · exact hH 2 (by decide) _ (by decide)
    · exact hN 0 (by decide) _ (by decide)
    · exact hN 1 (by decide) _ (by decide)
    · exact hN 2 (by decide) _ (by decide)
  · rw [demo6_potHits]
    simp only [demo6Stream, getD_map_range]
    decide +kernel

/-- the gap: no potential sync hit in the `HOLD` ticks after the third header burst's minimal tail -/
theorem demo6_gap : ∀ t, 1722 ≤ t → t < 1722 + HOLD →
    potHit 2 (fun i => demo6Stream.getD i dfltTick) t = false :=
  fun t h1 h2 => potHit_eq_false_of_all 2 _ 1722 (1722 + HOLD) (by rw [demo6_potHits]; decide) t h1 h2
    (by omega)

/-- **what the link model reports over the stream, tick by tick** (default budgets 2, 2, 5; one run
    of the evaluator `lrunE`): per period no carrier up to the first hit, searching to the end of
    the prefix, reading, the burst 41 ticks after the last bit — payload and two garbage bytes `AA`
    — and a dropped wrong-phase hit in each later lead-in -/
theorem demo6_lrun :
    lrun ⟨2, ⟨2, 5⟩⟩ {} demo6Stream
      = ([(68, .noCarrier), (175, .searching), (322, .reading), (1, .burst (demoHeader ++ [0x41, 0x41])),
          (34, .noCarrier), (5, .searching), (37, .noCarrier), (175, .searching), (322, .reading),
          (1, .burst (demoHeader ++ [0x41, 0x41])),
          (34, .noCarrier), (5, .searching), (37, .noCarrier), (175, .searching), (322, .reading),
          (1, .burst (demoHeader ++ [0x41, 0x41])),
          (776, .noCarrier), (175, .searching), (18, .reading), (1, .burst (litNNNN ++ [0x41, 0x41])),
          (34, .noCarrier), (5, .searching), (37, .noCarrier), (175, .searching), (18, .reading),
          (1, .burst (litNNNN ++ [0x41, 0x41])),
          (34, .noCarrier), (5, .searching), (37, .noCarrier), (175, .searching), (18, .reading),
          (1, .burst (litNNNN ++ [0x41, 0x41])),
          (28, .noCarrier)] : List (Nat × LinkSt)).flatMap (fun r => List.replicate r.1 r.2) := by
  rw [lrun_eq_lrunE_start _ _ _ rfl]
  unfold demo6Stream demo6Tk demo3Tk
  simp only [frameBit_eq_testBit, getD_eq_packNat]
  -- `==` on lists goes element by element; `DecidableEq` would nest 3252 deep in the kernel
  apply eq_of_beq
  decide +kernel

theorem demo6_bursts :
    lrunBursts ⟨2, ⟨2, 5⟩⟩ {} demo6Stream
      = [demoHeader ++ [0x41, 0x41], demoHeader ++ [0x41, 0x41], demoHeader ++ [0x41, 0x41],
         litNNNN ++ [0x41, 0x41], litNNNN ++ [0x41, 0x41], litNNNN ++ [0x41, 0x41]] := by
  rw [lrunBursts_eq, demo6_lrun]
  decide +kernel

/-- **The latency theorem on that stream**, by `stream_full2_latency` (22050 Hz, 42 samples per
    symbol).  Windows: second header burst `[1129, 1139]`, third `[1703, 1713]` (its adjusting sync
    hit at tick 1247), trailer bursts `[2673, 2683]`, `[2943, 2953]`. -/
theorem demo6_timed :
    TimedFull (chain ⟨2, ⟨2, 5⟩⟩ 22050 {} {} 0 (fun i => 42 * i) demo6Stream) (fun i => 42 * i)
      (lrun ⟨2, ⟨2, 5⟩⟩ {} demo6Stream) demoHeader 19
      1129 1139 1247 1703 1713 2673 2683 2943 2953 := by
  have hc := demoHeader_canonical
  have hlen : demo6Stream.length = 3252 := by
    unfold demo6Stream; rw [List.length_map, List.length_range]
  exact stream_full2_latency ⟨2, ⟨2, 5⟩⟩ (by decide) (by decide) 22050 0 (42 * 3252) (fun i => 42 * i)
    demoHeader 19 hc.1 hc.2.1 hc.2.2 demo6Stream ⟨60, demoHeader, 10, 39, 10⟩
    ⟨574 + 60, demoHeader, 10, 39, 10⟩ ⟨2 * 574 + 60, demoHeader, 10, 39, 10⟩
    ⟨2422 + 60, litNNNN, 10, 39, 10⟩ ⟨2422 + 270 + 60, litNNNN, 10, 39, 10⟩
    ⟨2422 + 540 + 60, litNNNN, 10, 39, 10⟩ rfl rfl rfl rfl rfl rfl demo6_observed
    demo6_gap (by decide) (by decide) (by decide) (by decide)
    (fun _ _ _ _ _ _ _ _ _ hb => demo_htails demo6_bursts hb)
    (by rw [hlen]; exact demo_hsamp 3252 (by decide))

/-- **The whole-transmission chain on that stream**, the timed conclusion in bounds alone:
    StartOfMessage with text `demoHeader` at a tick `i ≥ 1811`, EndOfMessage at a tick `j > i`,
    `2673 ≤ j < 2962` — the second trailer burst (near zone). -/
theorem demo6_decoded :
    DecodedFull (chain ⟨2, ⟨2, 5⟩⟩ 22050 {} {} 0 (fun i => 42 * i) demo6Stream)
      (fun i => 42 * i) demoHeader 19 1811 2673 2962 :=
  demo6_timed.toDecodedFull (by decide) (by decide) (by decide) (by decide)

/-- the same run evaluated by the kernel (cross-check): the events' samples are those of ticks
    2395 (the first poll at or after `t3 + HOLD`) and 2953 (the second trailer burst) -/
theorem demo6_eval :
    msgEvents (chain ⟨2, ⟨2, 5⟩⟩ 22050 {} {} 0 (fun i => 42 * i) demo6Stream)
      = [(42 * 2395, .ok (.som ⟨demoHeader, 19, 0, 42⟩)), (42 * 2953, .ok .eom)] := by
  rw [chain, chainTicks, demo6_lrun]
  decide +kernel

end Demo

end SameVerif.Chain
