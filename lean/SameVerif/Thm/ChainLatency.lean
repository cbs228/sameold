import SameVerif.Thm.Chain
/-
  C08 ("bounded reporting delay") at model level, in symbol ticks: UPPER bounds for the ticks at
  which the composed run (link model → receiver glue → assembler) reports.

  * burst-termination latency: the `.burst` tick `b` of a segment satisfies
        `e + 31 ≤ b ≤ e + rel + 31`   (`e` = first tick after the last transmitted bit)
      — `seg_out_timed`, `seg_out_r_timed`, `delivers_timed_of_stream2`.
  * the whole transmission (`stream_full2_latency`, conclusion `TimedFull`):
      * StartOfMessage at tick `i`: EITHER a `.noCarrier` tick with `b2 + HOLD ≤ i < b3` (release
        after two bursts, `voting = 0`) OR no such tick exists and `i = b3 + HOLD` EXACTLY;
        in both cases `i ≤ g3.e + g3.rel + 31 + HOLD`;
      * EndOfMessage at tick `j`, EXACTLY the `.burst` tick of the second trailer burst (a header
        burst still stored: `b4 < b3 + HIST`) or of the first: `j ≤ e_k.e + e_k.rel + 31`.
  * in samples and seconds (`stream_full2_samples`, `latency_nominal`).
  The general statements, from segments delivered however that was established, are
  `transmission_full_timed` and `transmission_decoded_timed` (`Lemmas/ChainLatency.lean`).
-/
namespace SameVerif.Chain
open SameVerif SameVerif.Spec SameVerif.Asm SameVerif.Full

/-! ## Burst-termination latency in the link model -/

/-- **One segment, original assumptions (`Spec.BurstObserved`), with the timing.**  The link model
    reports exactly one `.burst`, at a tick `k` with
    `|lead| + |body| + 31 ≤ k ≤ |lead| + |body| + rel + 31`, and `.noCarrier` afterwards. -/
theorem seg_out_timed (c : LCfg) (hE : c.maxErrors ≤ 6) (hP : c.fc.maxPrefixErr ≤ 7)
    (payload : List Byte) (hc : PayloadCond c payload) (g : Seg) (hg : Observed payload g)
    (s : LState) (hs : Quiescent s) :
    ∃ t, SegOutT g payload t (lrun c s g.ticks) ∧ lrunBursts c s g.ticks = [payload ++ t]
      ∧ Quiescent (lrunState c s g.ticks) :=
  deliversT_of_observed c hE hP payload hc g hg s hs

/-- **One segment, realistic assumptions (`Spec.BurstObserved'` + `Spec.NoFalseHits`), with the
    timing.** -/
theorem seg_out_r_timed (c : LCfg) (hE : c.maxErrors ≤ 6) (hP : c.fc.maxPrefixErr ≤ 7)
    (payload : List Byte) (hc : PayloadCond c payload) (g : Seg) (hg : Observed' payload g)
    (s : LState) (hs : Ready s) (hw : 32 ≤ s.nsym + g.lead.length) (hn : NoFalse c s g) :
    ∃ t, SegOutT g payload t (lrun c s g.ticks) ∧ lrunBursts c s g.ticks = [payload ++ t]
      ∧ Quiescent (lrunState c s g.ticks) :=
  deliversT_of_observed_r c hE hP payload hc g hg s hs hw hn

/-- **One burst of a stream, generalised synchronisation (`Spec.StreamObserved2` clauses), with the
    timing.**  (`burst_of_stream2`). -/
theorem delivers_timed_of_stream2 (c : LCfg) (hE : c.maxErrors ≤ 6) (hP : c.fc.maxPrefixErr ≤ 7)
    (stream : List Tick) (a : Nat) (g : BurstSpec2)
    (ha : a = 0 ∨ 31 ≤ a) (hready : Ready (lrunState c {} (stream.take a)))
    (hpc : PayloadCond c g.payload) (hao : a ≤ g.o) (h32 : 32 ≤ g.o)
    (htrack : TrackAt2F (fun i => stream.getD i dfltTick) stream.length g)
    (hsync : SyncAt2F c.maxErrors (fun i => stream.getD i dfltTick) (max a 31) g)
    (htail : ∀ t, t < g.stop → g.e ≤ t → potHit c.maxErrors (fun i => stream.getD i dfltTick) t = false) :
    ∃ t, SegOutT (segOf2 stream a g) g.payload t
        (lrun c (lrunState c {} (stream.take a)) (segOf2 stream a g).ticks)
      ∧ lrunBursts c (lrunState c {} (stream.take a)) (segOf2 stream a g).ticks = [g.payload ++ t]
      ∧ Quiescent (lrunState c (lrunState c {} (stream.take a)) (segOf2 stream a g).ticks) :=
  (burst_of_stream2 c hE hP stream a g ha hready hpc hao h32 htrack hsync htail).1

/-- the bound is attained: the demo segment of `Thm/Chain.lean` (`rel = 10`, garbage bytes that
    are valid SAME characters) reports its burst at tick `|lead| + |body| + rel + 31` exactly -/
theorem demoSeg_burst_tick :
    (lrun ⟨2, ⟨2, 5⟩⟩ { nsym := 32 } demoSeg.ticks)[demoSeg.lead.length + demoSeg.body.length
        + demoSeg.rel + 31]? = some (.burst (C01.demoHeader ++ [0x41, 0x41])) := by
  rw [lrun_eq_lrunE_start _ _ _ rfl]
  simp only [Seg.ticks, demoSeg, C01.demoBody, C01.demoTail, bitsOf_getD, frameBit_eq_testBit,
    getD_eq_packNat]
  decide +kernel

/-- the framer may end the burst EARLIER (too many invalid bytes): the same segment with the
    invalid garbage byte `0x00` and `rel = 60`; with `maxInvalid = 5` the sixth invalid byte, at
    tail tick `31 + 8·5 = 71 < rel + 31 = 91`, ends the burst -/
theorem early_end_witness :
    (lrun ⟨2, ⟨2, 5⟩⟩ { nsym := 32 }
      (C01.demoLead 40 ++ C01.demoBody C01.demoHeader 5 0x00 ++ C01.demoTail C01.demoHeader 60 0x00))[40
        + (C01.demoBody C01.demoHeader 5 0x00).length + 71]?
      = some (.burst (C01.demoHeader ++ [0, 0, 0, 0, 0])) := by
  rw [lrun_eq_lrunE_start _ _ _ rfl]
  simp only [C01.demoBody, C01.demoTail, bitsOf_getD, frameBit_eq_testBit, getD_eq_packNat]
  decide +kernel

/-! ## The whole transmission -/

/-- **C08 at model level: reporting latency of the whole transmission, in symbol ticks.**
    Hypotheses: exactly those of `stream_full2` (six bursts on one tick stream meeting
    `Spec.StreamObserved2`, the `HOLD` ticks after the third header burst's minimal tail without a
    potential sync hit and before the first trailer burst, each group of three bursts within one
    history time, header tails not voting to `-`, …).  `L = lrun c {} stream`, the link model's
    per-tick output; `g.e` = first tick after the last transmitted bit of burst `g`.

    * Bursts: the `.burst` ticks `b2 b3 b4 b5` of the second and third header burst and the first and
      second trailer burst satisfy `g.e + 31 ≤ b ≤ g.e + g.rel + 31`.
      From the adjusting sync hit of the third header burst (`g3.c = g3.o + g3.sync`) to `b3`
      the link reports no `.noCarrier`.
    * StartOfMessage (text exactly `H`) carries the sample of tick `i`; EITHER `i` is a
      `.noCarrier` tick with `b2 + HOLD ≤ i < b3` (released after two bursts, `voting = 0`) OR no
      such tick exists and `i = b3 + HOLD` exactly (`voting = |H|`).
    * EndOfMessage carries the sample of tick `j = b5` (if `b4 < b3 + HIST`) or `j = b4`. -/
theorem stream_full2_latency (c : LCfg) (hE : c.maxErrors ≤ 6) (hP4 : c.fc.maxPrefixErr ≤ 4)
    (rate sym0 smax : Nat) (samples : Nat → Nat) (H : List Byte) (off : Nat)
    (hcan : checkHeader H = some (off, H.length))
    (hall : ∀ b ∈ H, isAllowed b = true)
    (hfits : H.length ≤ Gen.MAX_BURST_LENGTH)
    (stream : List Tick) (g1 g2 g3 e1 e2 e3 : BurstSpec2)
    (hp1 : g1.payload = H) (hp2 : g2.payload = H) (hp3 : g3.payload = H)
    (hp4 : e1.payload = litNNNN) (hp5 : e2.payload = litNNNN) (hp6 : e3.payload = litNNNN)
    (hobs : StreamObserved2 c.maxErrors stream [g1, g2, g3, e1, e2, e3])
    (hgapq : ∀ t, g3.stop ≤ t → t < g3.stop + HOLD →
      potHit c.maxErrors (fun i => stream.getD i dfltTick) t = false)
    (hgaplen : g3.stop + HOLD ≤ e1.o)
    (hspanH : g3.stop ≤ g1.e + HIST) (hspanT : e3.stop ≤ e1.e + HIST)
    (hshort : (e1.rel + 7) / 8 + 4 ≤ H.length)
    (htails : ∀ t1 t2 t3 x1 x2 x3, t1.length ≤ (g1.rel + 7) / 8 → t2.length ≤ (g2.rel + 7) / 8 →
      t3.length ≤ (g3.rel + 7) / 8 →
      lrunBursts c {} stream
        = [H ++ t1, H ++ t2, H ++ t3, litNNNN ++ x1, litNNNN ++ x2, litNNNN ++ x3] →
      TailsNoDash H t1 t2 t3)
    (hsamp : ∀ i, i < stream.length → samples i ≤ smax ∧ smax ≤ samples i + TIMEOUT rate) :
    TimedFull (chain c rate {} {} sym0 samples stream) samples (lrun c {} stream) H off
      (g2.e + 31) (g2.e + g2.rel + 31) g3.c (g3.e + 31) (g3.e + g3.rel + 31)
      (e1.e + 31) (e1.e + e1.rel + 31) (e2.e + 31) (e2.e + e2.rel + 31) := by
  have hP : c.fc.maxPrefixErr ≤ 7 := by omega
  have hc := payloadCond_of_header c H _ hcan hall hfits
  have hcN := payloadCond_trailer c hP4
  have hpc : ∀ g ∈ [g1, g2, g3, e1, e2, e3], PayloadCond c g.payload := by
    simp only [List.mem_cons, List.not_mem_nil, or_false, forall_eq_or_imp, forall_eq, hp1, hp2, hp3,
      hp4, hp5, hp6]
    exact ⟨hc, hc, hc, hcN, hcN, hcN⟩
  obtain ⟨s1, hstream, _, s4⟩ := stream_deliversT c hE hP stream [g1, g2, g3, e1, e2, e3] hobs hpc
  obtain ⟨_, tr1, _, _, ⟨ho2, h322⟩, tr2, _, _, ⟨ho3, h323⟩, tr3, sy3, tl3, ⟨ho4, _⟩, tr4, _, _, ⟨ho5, _⟩, tr5,
    _, _, ⟨ho6, _⟩, tr6, _, _, _⟩ := hobs
  have hos2 := g2.o_le_stop
  have hos3 := g3.o_le_stop
  have hos4 := e1.o_le_stop
  have hs4 : e1.stop ≤ stream.length := tr4.1
  obtain ⟨_, _, U1, S1⟩ := segOf2_ends stream 0 g1 (Nat.zero_le _) tr1.1
  obtain ⟨A2, B2, _, S2⟩ := segOf2_ends stream g1.stop g2 ho2 tr2.1
  obtain ⟨A3, B3, _, S3⟩ := segOf2_ends stream g2.stop g3 ho3 tr3.1
  obtain ⟨A4, B4, U4, S4⟩ := segOf2_ends stream g3.stop e1 ho4 tr4.1
  obtain ⟨A5, B5, _, S5⟩ := segOf2_ends stream e1.stop e2 ho5 tr5.1
  obtain ⟨_, _, _, S6⟩ := segOf2_ends stream e2.stop e3 ho6 tr6.1
  -- the link states after the second and the third segment
  have hst2 : lrunState c (lrunState c {} (segOf2 stream 0 g1).ticks) (segOf2 stream g1.stop g2).ticks
      = lrunState c {} (stream.take g2.stop) := by
    rw [lrunState_segOf2_zero, lrunState_segOf2 _ _ _ _ ho2]
  have hst3 : lrunState c (lrunState c (lrunState c {} (segOf2 stream 0 g1).ticks)
      (segOf2 stream g1.stop g2).ticks) (segOf2 stream g2.stop g3).ticks
      = lrunState c {} (stream.take g3.stop) := by
    rw [hst2, lrunState_segOf2 _ _ _ _ ho3]
  have hready2 : Ready (lrunState c {} (stream.take g2.stop)) := by
    obtain ⟨_, d2, _⟩ := s1
    rw [← hst2]
    exact d2.quiescent.ready
  -- the link is busy from the adjusting sync hit of the third header burst
  have hbusy3 := (burst_of_stream2 c hE hP stream g2.stop g3 (Or.inr (by omega)) hready2
    (hpc g3 (by simp)) ho3 h323 tr3 sy3 tl3).2
  rw [← hst2] at hbusy3
  have hgap : QuietNoHit c (lrunState c (lrunState c (lrunState c {} (segOf2 stream 0 g1).ticks)
      (segOf2 stream g1.stop g2).ticks) (segOf2 stream g2.stop g3).ticks)
      ((segOf2 stream g3.stop e1).ticks.take HOLD) := by
    rw [hst3, segOf2_ticks _ _ _ ho4, slice_take _ _ _ _ (by omega)]
    exact quiet_gap c stream g3.stop HOLD (by omega) (by omega) hgapq
  have := transmission_full_timed c rate sym0 smax samples H off hcan hall hfits
    (segOf2 stream 0 g1) (segOf2 stream g1.stop g2) (segOf2 stream g2.stop g3)
    (segOf2 stream g3.stop e1) (segOf2 stream e1.stop e2) (segOf2 stream e2.stop e3) _ {} _
    (by simp only [segsOf2, hp1, hp2, hp3, hp4, hp5, hp6]) s1 s4 (by omega) hgap g3.sync hbusy3
    (span_le U1 g1.stop_eq S2 S3 hspanH) (span_le U4 e1.stop_eq S5 S6 hspanT) hshort
    (by rw [hstream]; exact htails) (by rw [hstream]; exact hsamp)
  rw [hstream] at this
  exact this.of_windows S1 S2 S3 S4 A2 B2 A3 B3 A4 B4 A5 B5

/-! ## the bounds alone -/

/-- what `TimedFull` says about the event ticks in bounds alone (`lo2 ≤ lo3`, `hi4 < lo5`: the windows
    are in order):
    * StartOfMessage: `lo2 + HOLD ≤ i ≤ hi3 + HOLD`; if the link is already busy with the third
      burst when the hold of the second could first expire (`c3 ≤ lo2 + HOLD`) it is the
      three-burst release, `lo3 + HOLD ≤ i`;
    * EndOfMessage: `lo4 ≤ j ≤ hi5`; in the far zone `j ≤ hi4`, in the near and mid zone `lo5 ≤ j`. -/
theorem TimedFull.bounds {evs : List Event} {samples : Nat → Nat} {L : List LinkSt} {H : List Byte}
    {off lo2 hi2 c3 lo3 hi3 lo4 hi4 lo5 hi5 : Nat}
    (h : TimedFull evs samples L H off lo2 hi2 c3 lo3 hi3 lo4 hi4 lo5 hi5) (h23 : lo2 ≤ lo3)
    (h45 : hi4 < lo5) :
    ∃ i j hd, msgEvents evs = [(samples i, .ok (.som hd)), (samples j, .ok .eom)]
      ∧ hd.text = H ∧ hd.offsetTime = off ∧ hd.parity = 0 ∧ (hd.voting = 0 ∨ hd.voting = H.length)
      ∧ lo2 + HOLD ≤ i ∧ i ≤ hi3 + HOLD
      ∧ lo4 ≤ j ∧ j ≤ hi5
      ∧ (hi3 + HIST ≤ lo4 → j ≤ hi4)
      ∧ (hi4 < lo3 + HIST → lo5 ≤ j)
      ∧ (c3 ≤ lo2 + HOLD → lo3 + HOLD ≤ i ∧ hd.voting = H.length) := by
  obtain ⟨b2, b3, b4, b5, i, j, hd, t2, t3, x1, x2, ⟨p1, p2, _⟩, ⟨q1, q2, _⟩, hbusy, ⟨r1, r2, _⟩,
    ⟨s1, s2, _⟩, hev, hx1, hx2, hx3, hj, hi⟩ := h
  obtain ⟨hv, hpos, h3⟩ := som_tick hi hbusy p1
  have hj1 : lo4 ≤ j ∧ j ≤ hi5 := by rw [hj]; split <;> omega
  have hj2 : hi3 + HIST ≤ lo4 → j ≤ hi4 := by
    intro hz; rw [hj, if_neg (by omega)]; exact r2
  have hj3 : hi4 < lo3 + HIST → lo5 ≤ j := by
    intro hz; rw [hj, if_pos (by omega)]; exact s1
  exact ⟨i, j, hd, hev, hx1, hx2, hx3, hv, by omega, by omega, hj1.1, hj1.2, hj2, hj3,
    fun hc => ⟨by have := h3 hc; omega, (h3 hc).1⟩⟩

/-- **C08 at model level, the bounds.**  Hypotheses of `stream_full2`.  In symbol ticks, `g.e` the
    first tick after the last transmitted bit of burst `g`, `g.rel` the number of ticks the power
    stays above the close threshold afterwards:
    * StartOfMessage at a tick `i ≤ g3.e + g3.rel + 31 + HOLD` ("the hold plus burst-termination
      latency"); when the adjusting sync hit of the third burst comes no later than `HOLD` ticks
      after the earliest possible end of the second (`g3.c ≤ g2.e + 31 + HOLD`; always so with the
      standard one-second pause, `g3.c - g2.e ≤ 521 + 127`) also `g3.e + 31 + HOLD ≤ i`;
    * EndOfMessage at a tick `j ≤ e2.e + e2.rel + 31`, and `j ≤ e1.e + e1.rel + 31` in the far
      zone: as soon as the burst that establishes it has ended. -/
theorem stream_full2_bounds (c : LCfg) (hE : c.maxErrors ≤ 6) (hP4 : c.fc.maxPrefixErr ≤ 4)
    (rate sym0 smax : Nat) (samples : Nat → Nat) (H : List Byte) (off : Nat)
    (hcan : checkHeader H = some (off, H.length))
    (hall : ∀ b ∈ H, isAllowed b = true)
    (hfits : H.length ≤ Gen.MAX_BURST_LENGTH)
    (stream : List Tick) (g1 g2 g3 e1 e2 e3 : BurstSpec2)
    (hp1 : g1.payload = H) (hp2 : g2.payload = H) (hp3 : g3.payload = H)
    (hp4 : e1.payload = litNNNN) (hp5 : e2.payload = litNNNN) (hp6 : e3.payload = litNNNN)
    (hobs : StreamObserved2 c.maxErrors stream [g1, g2, g3, e1, e2, e3])
    (hgapq : ∀ t, g3.stop ≤ t → t < g3.stop + HOLD →
      potHit c.maxErrors (fun i => stream.getD i dfltTick) t = false)
    (hgaplen : g3.stop + HOLD ≤ e1.o)
    (hspanH : g3.stop ≤ g1.e + HIST) (hspanT : e3.stop ≤ e1.e + HIST)
    (hshort : (e1.rel + 7) / 8 + 4 ≤ H.length)
    (htails : ∀ t1 t2 t3 x1 x2 x3, t1.length ≤ (g1.rel + 7) / 8 → t2.length ≤ (g2.rel + 7) / 8 →
      t3.length ≤ (g3.rel + 7) / 8 →
      lrunBursts c {} stream
        = [H ++ t1, H ++ t2, H ++ t3, litNNNN ++ x1, litNNNN ++ x2, litNNNN ++ x3] →
      TailsNoDash H t1 t2 t3)
    (hsamp : ∀ i, i < stream.length → samples i ≤ smax ∧ smax ≤ samples i + TIMEOUT rate) :
    ∃ i j h, msgEvents (chain c rate {} {} sym0 samples stream)
          = [(samples i, .ok (.som h)), (samples j, .ok .eom)]
      ∧ h.text = H ∧ h.offsetTime = off ∧ h.parity = 0 ∧ (h.voting = 0 ∨ h.voting = H.length)
      ∧ g2.e + 31 + HOLD ≤ i ∧ i ≤ g3.e + g3.rel + 31 + HOLD
      ∧ e1.e + 31 ≤ j ∧ j ≤ e2.e + e2.rel + 31
      ∧ (g3.e + g3.rel + 31 + HIST ≤ e1.e + 31 → j ≤ e1.e + e1.rel + 31)
      ∧ (e1.e + e1.rel + 31 < g3.e + 31 + HIST → e2.e + 31 ≤ j)
      ∧ (g3.c ≤ g2.e + 31 + HOLD → g3.e + 31 + HOLD ≤ i ∧ h.voting = H.length) := by
  have ho : g2.stop ≤ g3.o ∧ e1.stop ≤ e2.o := by
    obtain ⟨_, _, _, _, _, _, _, _, ⟨ho3, _⟩, _, _, _, _, _, _, _, ⟨ho5, _⟩, _⟩ := hobs
    exact ⟨ho3, ho5⟩
  have := g2.stop_eq
  have := g3.e_eq
  have := e1.stop_eq
  have := e2.e_eq
  exact (stream_full2_latency c hE hP4 rate sym0 smax samples H off hcan hall hfits stream g1 g2 g3
    e1 e2 e3 hp1 hp2 hp3 hp4 hp5 hp6 hobs hgapq hgaplen hspanH hspanT hshort htails hsamp).bounds
    (by omega) (by omega)

/-- when the link is already busy with the third burst when the hold of the second could first
    expire (`c3 ≤ lo2 + HOLD`), the closed form: StartOfMessage exactly `HOLD` ticks after the
    `.burst` tick of the third header burst -/
theorem TimedFull.three {evs : List Event} {samples : Nat → Nat} {L : List LinkSt} {H : List Byte}
    {off lo2 hi2 c3 lo3 hi3 lo4 hi4 lo5 hi5 : Nat}
    (h : TimedFull evs samples L H off lo2 hi2 c3 lo3 hi3 lo4 hi4 lo5 hi5) (hc : c3 ≤ lo2 + HOLD) :
    ∃ b3 t3 j hd, lo3 ≤ b3 ∧ b3 ≤ hi3 ∧ L[b3]? = some (.burst (H ++ t3))
      ∧ msgEvents evs = [(samples (b3 + HOLD), .ok (.som hd)), (samples j, .ok .eom)]
      ∧ hd.text = H ∧ hd.offsetTime = off ∧ hd.parity = 0 ∧ hd.voting = H.length := by
  obtain ⟨b2, b3, b4, b5, i, j, hd, t2, t3, x1, x2, ⟨p1, _, _⟩, ⟨q1, q2, q3⟩, hbusy, _, _, hev, hx1,
    hx2, hx3, _, hi⟩ := h
  obtain ⟨hv, rfl⟩ := (som_tick hi hbusy p1).2.2 hc
  exact ⟨b3, t3, j, hd, q1, q2, q3, hev, hx1, hx2, hx3, hv⟩

/-- **C08 at model level, the closed form.**  Hypotheses of `stream_full2`, and the adjusting sync
    hit of the third header burst no later than `HOLD` ticks after the earliest possible report of
    the second (`g3.c ≤ g2.e + 31 + HOLD`; with the standard one-second pause `g3.c - g2.e ≤ 521 +
    127 < 713`).  Then the StartOfMessage event carries the sample of tick `b3 + HOLD` EXACTLY,
    where `b3 ∈ [g3.e + 31, g3.e + g3.rel + 31]` is the tick at which the link model reports the
    third header burst — the documented hold plus the burst-termination latency — and it is the
    fully voted header. -/
theorem stream_full2_three (c : LCfg) (hE : c.maxErrors ≤ 6) (hP4 : c.fc.maxPrefixErr ≤ 4)
    (rate sym0 smax : Nat) (samples : Nat → Nat) (H : List Byte) (off : Nat)
    (hcan : checkHeader H = some (off, H.length))
    (hall : ∀ b ∈ H, isAllowed b = true)
    (hfits : H.length ≤ Gen.MAX_BURST_LENGTH)
    (stream : List Tick) (g1 g2 g3 e1 e2 e3 : BurstSpec2)
    (hp1 : g1.payload = H) (hp2 : g2.payload = H) (hp3 : g3.payload = H)
    (hp4 : e1.payload = litNNNN) (hp5 : e2.payload = litNNNN) (hp6 : e3.payload = litNNNN)
    (hobs : StreamObserved2 c.maxErrors stream [g1, g2, g3, e1, e2, e3])
    (hgapq : ∀ t, g3.stop ≤ t → t < g3.stop + HOLD →
      potHit c.maxErrors (fun i => stream.getD i dfltTick) t = false)
    (hgaplen : g3.stop + HOLD ≤ e1.o)
    (hspanH : g3.stop ≤ g1.e + HIST) (hspanT : e3.stop ≤ e1.e + HIST)
    (hshort : (e1.rel + 7) / 8 + 4 ≤ H.length)
    (htails : ∀ t1 t2 t3 x1 x2 x3, t1.length ≤ (g1.rel + 7) / 8 → t2.length ≤ (g2.rel + 7) / 8 →
      t3.length ≤ (g3.rel + 7) / 8 →
      lrunBursts c {} stream
        = [H ++ t1, H ++ t2, H ++ t3, litNNNN ++ x1, litNNNN ++ x2, litNNNN ++ x3] →
      TailsNoDash H t1 t2 t3)
    (hsamp : ∀ i, i < stream.length → samples i ≤ smax ∧ smax ≤ samples i + TIMEOUT rate)
    (hbusy : g3.c ≤ g2.e + 31 + HOLD) :
    ∃ b3 t3 j h, g3.e + 31 ≤ b3 ∧ b3 ≤ g3.e + g3.rel + 31
      ∧ (lrun c {} stream)[b3]? = some (.burst (H ++ t3))
      ∧ msgEvents (chain c rate {} {} sym0 samples stream)
          = [(samples (b3 + HOLD), .ok (.som h)), (samples j, .ok .eom)]
      ∧ h.text = H ∧ h.offsetTime = off ∧ h.parity = 0 ∧ h.voting = H.length :=
  (stream_full2_latency c hE hP4 rate sym0 smax samples H off hcan hall hfits stream g1 g2 g3
    e1 e2 e3 hp1 hp2 hp3 hp4 hp5 hp6 hobs hgapq hgaplen hspanH hspanT hshort htails hsamp).three hbusy

/-! ## the header alone: three bursts, then a quiet channel -/

theorem TimedOnce.bounds {evs : List Event} {samples : Nat → Nat} {L : List LinkSt} {H : List Byte}
    {off lo2 hi2 c3 lo3 hi3 : Nat}
    (h : TimedOnce evs samples L H off lo2 hi2 c3 lo3 hi3) (h23 : lo2 ≤ lo3) :
    ∃ i hd, msgEvents evs = [(samples i, .ok (.som hd))]
      ∧ hd.text = H ∧ hd.offsetTime = off ∧ hd.parity = 0 ∧ (hd.voting = 0 ∨ hd.voting = H.length)
      ∧ lo2 + HOLD ≤ i ∧ i ≤ hi3 + HOLD
      ∧ (c3 ≤ lo2 + HOLD → lo3 + HOLD ≤ i ∧ hd.voting = H.length) := by
  obtain ⟨b2, b3, i, hd, t2, t3, ⟨p1, p2, _⟩, ⟨q1, q2, _⟩, hbusy, hev, hx1, hx2, hx3, hi⟩ := h
  obtain ⟨hv, hpos, h3⟩ := som_tick hi hbusy p1
  exact ⟨i, hd, hev, hx1, hx2, hx3, hv, by omega, by omega,
    fun hc => ⟨by have := h3 hc; omega, (h3 hc).1⟩⟩

/-- the closed form, when the link is already busy with the third burst when the hold of the
    second could first expire -/
theorem TimedOnce.three {evs : List Event} {samples : Nat → Nat} {L : List LinkSt} {H : List Byte}
    {off lo2 hi2 c3 lo3 hi3 : Nat}
    (h : TimedOnce evs samples L H off lo2 hi2 c3 lo3 hi3) (hc : c3 ≤ lo2 + HOLD) :
    ∃ b3 t3 hd, lo3 ≤ b3 ∧ b3 ≤ hi3 ∧ L[b3]? = some (.burst (H ++ t3))
      ∧ msgEvents evs = [(samples (b3 + HOLD), .ok (.som hd))]
      ∧ hd.text = H ∧ hd.offsetTime = off ∧ hd.parity = 0 ∧ hd.voting = H.length := by
  obtain ⟨b2, b3, i, hd, t2, t3, ⟨p1, _, _⟩, ⟨q1, q2, q3⟩, hbusy, hev, hx1, hx2, hx3, hi⟩ := h
  obtain ⟨hv, rfl⟩ := (som_tick hi hbusy p1).2.2 hc
  exact ⟨b3, t3, hd, q1, q2, q3, hev, hx1, hx2, hx3, hv⟩

/-- **C08 at model level, the header alone: reporting latency in symbol ticks.**  Hypotheses:
    exactly those of `stream_decoded2` (three bursts of one canonical header on one tick stream
    meeting `Spec.StreamObserved2`, at least `HOLD` more ticks, …).  `L = lrun c {} stream`.
    * the `.burst` ticks `b2 b3` of the second and third burst: `g.e + 31 ≤ b ≤ g.e + g.rel + 31`;
      from the adjusting sync hit of the third burst (`g3.c`) to `b3` no `.noCarrier`;
    * exactly one message event, StartOfMessage with text exactly `H`, carrying the sample of tick
      `i`: EITHER a `.noCarrier` tick with `b2 + HOLD ≤ i < b3` (`voting = 0`) OR no such tick
      exists and `i = b3 + HOLD` exactly (`voting = |H|`). -/
theorem stream_decoded2_latency (c : LCfg) (hE : c.maxErrors ≤ 6) (hP : c.fc.maxPrefixErr ≤ 7)
    (rate sym0 smax : Nat) (samples : Nat → Nat) (H : List Byte) (off : Nat)
    (hcan : checkHeader H = some (off, H.length))
    (hall : ∀ b ∈ H, isAllowed b = true)
    (hfits : H.length ≤ Gen.MAX_BURST_LENGTH)
    (stream : List Tick) (g1 g2 g3 : BurstSpec2)
    (hp1 : g1.payload = H) (hp2 : g2.payload = H) (hp3 : g3.payload = H)
    (hobs : StreamObserved2 c.maxErrors stream [g1, g2, g3])
    (hqlen : g3.stop + HOLD ≤ stream.length)
    (hspan : g3.stop ≤ g1.e + HIST)
    (htails : ∀ t1 t2 t3, t1.length ≤ (g1.rel + 7) / 8 → t2.length ≤ (g2.rel + 7) / 8 →
      t3.length ≤ (g3.rel + 7) / 8 →
      lrunBursts c {} stream = [H ++ t1, H ++ t2, H ++ t3] → TailsNoDash H t1 t2 t3)
    (hsamp : ∀ i, i < stream.length → samples i ≤ smax ∧ smax ≤ samples i + TIMEOUT rate) :
    TimedOnce (chain c rate {} {} sym0 samples stream) samples (lrun c {} stream) H off
      (g2.e + 31) (g2.e + g2.rel + 31) g3.c (g3.e + 31) (g3.e + g3.rel + 31) := by
  have hc := payloadCond_of_header c H _ hcan hall hfits
  have hpc : ∀ g ∈ [g1, g2, g3], PayloadCond c g.payload := by
    simp only [List.mem_cons, List.not_mem_nil, or_false, forall_eq_or_imp, forall_eq, hp1, hp2, hp3]
    exact ⟨hc, hc, hc⟩
  obtain ⟨s1, hstream, s3, s4⟩ := stream_deliversT c hE hP stream [g1, g2, g3] hobs hpc
  simp only [segsOf2, DeliversAllT, hp1, hp2, hp3] at s1
  obtain ⟨d1, d2, d3, _⟩ := s1
  have hstream' : transmission (segOf2 stream 0 g1) (segOf2 stream g1.stop g2) (segOf2 stream g2.stop g3)
      (stream.drop g3.stop) = stream :=
    Eq.trans (by simp only [transmission, segsOf2, lastStop2, List.flatMap_cons, List.flatMap_nil,
      List.append_nil, List.append_assoc]) hstream
  obtain ⟨_, tr1, _, _, ⟨ho2, h322⟩, tr2, _, _, ⟨ho3, h323⟩, tr3, sy3, tl3, _⟩ := hobs
  have hos2 := g2.o_le_stop
  obtain ⟨_, _, U1, S1⟩ := segOf2_ends stream 0 g1 (Nat.zero_le _) tr1.1
  obtain ⟨A2, B2, _, S2⟩ := segOf2_ends stream g1.stop g2 ho2 tr2.1
  obtain ⟨A3, B3, _, S3⟩ := segOf2_ends stream g2.stop g3 ho3 tr3.1
  have hst2 : lrunState c (lrunState c {} (segOf2 stream 0 g1).ticks) (segOf2 stream g1.stop g2).ticks
      = lrunState c {} (stream.take g2.stop) := by
    rw [lrunState_segOf2_zero, lrunState_segOf2 _ _ _ _ ho2]
  -- the link is busy from the adjusting sync hit of the third burst
  have hbusy3 := (burst_of_stream2 c hE hP stream g2.stop g3 (Or.inr (by omega))
    (by rw [← hst2]; exact d2.quiescent.ready) (hpc g3 (by simp)) ho3 h323 tr3 sy3 tl3).2
  rw [← hst2] at hbusy3
  have hq' : QuietNoHit c (lrunState c (lrunState c (lrunState c {} (segOf2 stream 0 g1).ticks)
      (segOf2 stream g1.stop g2).ticks) (segOf2 stream g2.stop g3).ticks) (stream.drop g3.stop) := by
    simp only [segsOf2, List.flatMap_cons, List.flatMap_nil, List.append_nil, lrunState_append] at s4
    exact s4
  have := transmission_decoded_timed c rate sym0 smax samples H off hcan hall hfits
    (segOf2 stream 0 g1) (segOf2 stream g1.stop g2) (segOf2 stream g2.stop g3) (stream.drop g3.stop)
    {} d1 d2 d3 g3.sync hbusy3 hq' (by rw [List.length_drop]; omega)
    (span_le U1 g1.stop_eq S2 S3 hspan) (by rw [hstream']; exact htails) (by rw [hstream']; exact hsamp)
  rw [hstream'] at this
  exact this.of_windows S1 S2 A2 B2 A3 B3

/-- **C08 at model level, the header alone, the bounds**: the StartOfMessage comes at a tick
    `i ≤ g3.e + g3.rel + 31 + HOLD`; when `g3.c ≤ g2.e + 31 + HOLD` also `g3.e + 31 + HOLD ≤ i`, and
    it is the fully voted header. -/
theorem stream_decoded2_bounds (c : LCfg) (hE : c.maxErrors ≤ 6) (hP : c.fc.maxPrefixErr ≤ 7)
    (rate sym0 smax : Nat) (samples : Nat → Nat) (H : List Byte) (off : Nat)
    (hcan : checkHeader H = some (off, H.length))
    (hall : ∀ b ∈ H, isAllowed b = true)
    (hfits : H.length ≤ Gen.MAX_BURST_LENGTH)
    (stream : List Tick) (g1 g2 g3 : BurstSpec2)
    (hp1 : g1.payload = H) (hp2 : g2.payload = H) (hp3 : g3.payload = H)
    (hobs : StreamObserved2 c.maxErrors stream [g1, g2, g3])
    (hqlen : g3.stop + HOLD ≤ stream.length)
    (hspan : g3.stop ≤ g1.e + HIST)
    (htails : ∀ t1 t2 t3, t1.length ≤ (g1.rel + 7) / 8 → t2.length ≤ (g2.rel + 7) / 8 →
      t3.length ≤ (g3.rel + 7) / 8 →
      lrunBursts c {} stream = [H ++ t1, H ++ t2, H ++ t3] → TailsNoDash H t1 t2 t3)
    (hsamp : ∀ i, i < stream.length → samples i ≤ smax ∧ smax ≤ samples i + TIMEOUT rate) :
    ∃ i h, msgEvents (chain c rate {} {} sym0 samples stream) = [(samples i, .ok (.som h))]
      ∧ h.text = H ∧ h.offsetTime = off ∧ h.parity = 0 ∧ (h.voting = 0 ∨ h.voting = H.length)
      ∧ g2.e + 31 + HOLD ≤ i ∧ i ≤ g3.e + g3.rel + 31 + HOLD
      ∧ (g3.c ≤ g2.e + 31 + HOLD → g3.e + 31 + HOLD ≤ i ∧ h.voting = H.length) := by
  have ho3 : g2.stop ≤ g3.o := by
    obtain ⟨_, _, _, _, _, _, _, _, ⟨ho3, _⟩, _⟩ := hobs
    exact ho3
  have := g2.stop_eq
  have := g3.e_eq
  exact (stream_decoded2_latency c hE hP rate sym0 smax samples H off hcan hall hfits stream g1 g2 g3
    hp1 hp2 hp3 hobs hqlen hspan htails hsamp).bounds (by omega)

/-! ## In samples and in seconds -/

theorem samples_add_le (samples : Nat → Nat) (τ : Nat) (hτ : ∀ k, samples (k + 1) ≤ samples k + τ)
    (a d : Nat) : samples (a + d) ≤ samples a + τ * d := by
  induction d with
  | zero => simp
  | succ d ih =>
    have := hτ (a + d)
    rw [Nat.mul_succ, ← Nat.add_assoc]
    omega

theorem samples_le_of_le (samples : Nat → Nat) (τ : Nat) (hτ : ∀ k, samples (k + 1) ≤ samples k + τ)
    (a i D : Nat) (h : i ≤ a + D) (hmono : ∀ k, samples k ≤ samples (k + 1)) :
    samples i ≤ samples a + τ * D := by
  have hm : ∀ x d, samples x ≤ samples (x + d) := by
    intro x d
    induction d with
    | zero => exact Nat.le_refl _
    | succ d ih => exact Nat.le_trans ih (by rw [← Nat.add_assoc]; exact hmono _)
  obtain ⟨d, hd⟩ : ∃ d, a + D = i + d := ⟨a + D - i, by omega⟩
  have h1 := samples_add_le samples τ hτ a D
  rw [hd] at h1
  exact Nat.le_trans (hm i d) h1

/-- **C08 in samples.**  The sample counter non-decreasing and advancing by at most `τ` per symbol
    tick: the StartOfMessage event carries a sample at most `τ · (g3.rel + 31 + HOLD)` after the
    sample of the first tick after the last bit of the third header burst; the EndOfMessage event
    one at most `τ · (e2.rel + 31)` after that of the second trailer burst. -/
theorem stream_full2_samples (c : LCfg) (hE : c.maxErrors ≤ 6) (hP4 : c.fc.maxPrefixErr ≤ 4)
    (rate sym0 smax : Nat) (samples : Nat → Nat) (H : List Byte) (off : Nat)
    (hcan : checkHeader H = some (off, H.length))
    (hall : ∀ b ∈ H, isAllowed b = true)
    (hfits : H.length ≤ Gen.MAX_BURST_LENGTH)
    (stream : List Tick) (g1 g2 g3 e1 e2 e3 : BurstSpec2)
    (hp1 : g1.payload = H) (hp2 : g2.payload = H) (hp3 : g3.payload = H)
    (hp4 : e1.payload = litNNNN) (hp5 : e2.payload = litNNNN) (hp6 : e3.payload = litNNNN)
    (hobs : StreamObserved2 c.maxErrors stream [g1, g2, g3, e1, e2, e3])
    (hgapq : ∀ t, g3.stop ≤ t → t < g3.stop + HOLD →
      potHit c.maxErrors (fun i => stream.getD i dfltTick) t = false)
    (hgaplen : g3.stop + HOLD ≤ e1.o)
    (hspanH : g3.stop ≤ g1.e + HIST) (hspanT : e3.stop ≤ e1.e + HIST)
    (hshort : (e1.rel + 7) / 8 + 4 ≤ H.length)
    (htails : ∀ t1 t2 t3 x1 x2 x3, t1.length ≤ (g1.rel + 7) / 8 → t2.length ≤ (g2.rel + 7) / 8 →
      t3.length ≤ (g3.rel + 7) / 8 →
      lrunBursts c {} stream
        = [H ++ t1, H ++ t2, H ++ t3, litNNNN ++ x1, litNNNN ++ x2, litNNNN ++ x3] →
      TailsNoDash H t1 t2 t3)
    (hsamp : ∀ i, i < stream.length → samples i ≤ smax ∧ smax ≤ samples i + TIMEOUT rate)
    (τ : Nat) (hmono : ∀ k, samples k ≤ samples (k + 1)) (hτ : ∀ k, samples (k + 1) ≤ samples k + τ) :
    ∃ sS sE h, msgEvents (chain c rate {} {} sym0 samples stream)
          = [(sS, .ok (.som h)), (sE, .ok .eom)]
      ∧ h.text = H
      ∧ sS ≤ samples g3.e + τ * (g3.rel + 31 + HOLD)
      ∧ sE ≤ samples e2.e + τ * (e2.rel + 31) := by
  obtain ⟨i, j, h, hev, hx, _, _, _, _, hi, _, hj, _⟩ := stream_full2_bounds c hE hP4 rate sym0 smax
    samples H off hcan hall hfits stream g1 g2 g3 e1 e2 e3 hp1 hp2 hp3 hp4 hp5 hp6 hobs hgapq hgaplen
    hspanH hspanT hshort htails hsamp
  exact ⟨samples i, samples j, h, hev, hx,
    samples_le_of_le samples τ hτ g3.e i _ (by omega) hmono,
    samples_le_of_le samples τ hτ e2.e j _ (by omega) hmono⟩

/-- **in seconds, at the nominal symbol rate** (520.83 symbols per second): `rel + 31 + HOLD` ticks
    last at most 1.5 s exactly when `rel ≤ 68` (0.13 s).  `HOLD + 31 = 713` ticks are 1.369 s. -/
theorem latency_nominal (rel : Nat) : (rel + 31 + HOLD) * 200 ≤ 3 * 52083 ↔ rel ≤ 68 := by
  have : HOLD = 682 := by decide
  omega

/-- **in samples, ticks at most `τ = ⌈rate / 520.83⌉` apart**: `τ · (rel + 31 + HOLD) ≤ 1.5 · rate`
    for every `rate ≥ 8000` when `rel ≤ 22`, for every `rate ≥ 13554` when `rel ≤ 40` -/
theorem latency_tau0 (rate rel : Nat) (h : (8000 ≤ rate ∧ rel ≤ 22) ∨ (13554 ≤ rate ∧ rel ≤ 40)) :
    ((rate * 100 + 52082) / 52083) * (rel + 31 + HOLD) ≤ 3 * rate / 2 := by
  have hH : HOLD = 682 := by decide
  rw [hH]
  rcases h with ⟨h1, h2⟩ | ⟨h1, h2⟩
  · have := Nat.mul_le_mul_left ((rate * 100 + 52082) / 52083) (show rel + 31 + 682 ≤ 735 by omega)
    omega
  · have := Nat.mul_le_mul_left ((rate * 100 + 52082) / 52083) (show rel + 31 + 682 ≤ 753 by omega)
    omega

/-- **in samples, ticks at most `τ = ⌈rate / 520.83⌉ + 1` apart** and `rel ≤ 40`:
    `τ · (rel + 31 + HOLD) ≤ 1.5 · rate` for every `rate ≥ 27610` -/
theorem latency_tau1 (rate rel : Nat) (h1 : 27610 ≤ rate) (h2 : rel ≤ 40) :
    ((rate * 100 + 52082) / 52083 + 1) * (rel + 31 + HOLD) ≤ 3 * rate / 2 := by
  have hH : HOLD = 682 := by decide
  rw [hH]
  have := Nat.mul_le_mul_left ((rate * 100 + 52082) / 52083 + 1) (show rel + 31 + 682 ≤ 753 by omega)
  omega

/-- … and NOT for every `rate ≥ 8000`: with `τ = ⌈rate / 520.83⌉ + 1` the bound fails at 8000 Hz even
    for `rel = 0` (17 · 713 = 12121 > 12000), at 22050 Hz for `rel = 40` (44 · 753 = 33132 > 33075;
    `rel ≤ 38` is what holds there), at 27609 Hz for `rel = 40`; with `τ = ⌈rate / 520.83⌉` it fails
    at 13553 Hz for `rel = 40` and at 8000 Hz for `rel = 38` (16 · 751 = 12016 > 12000) -/
theorem latency_tau_counterexamples :
    ¬ ((8000 * 100 + 52082) / 52083 + 1) * (0 + 31 + HOLD) ≤ 3 * 8000 / 2
    ∧ ¬ ((22050 * 100 + 52082) / 52083 + 1) * (40 + 31 + HOLD) ≤ 3 * 22050 / 2
    ∧ ((22050 * 100 + 52082) / 52083 + 1) * (38 + 31 + HOLD) ≤ 3 * 22050 / 2
    ∧ ¬ ((27609 * 100 + 52082) / 52083 + 1) * (40 + 31 + HOLD) ≤ 3 * 27609 / 2
    ∧ ¬ ((13553 * 100 + 52082) / 52083) * (40 + 31 + HOLD) ≤ 3 * 13553 / 2
    ∧ ¬ ((8000 * 100 + 52082) / 52083) * (38 + 31 + HOLD) ≤ 3 * 8000 / 2 := by
  decide

end SameVerif.Chain
