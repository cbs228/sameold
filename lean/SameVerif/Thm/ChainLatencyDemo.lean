import SameVerif.Thm.ChainLatency
import SameVerif.Thm.ChainFullDemo
/- What the latency theorems give on the demo streams (`demo6_timed`, `demo3_timed`): the bounds are
   attained (with the kernel evaluation `demo6_eval`), and the three-burst closed form. -/
namespace SameVerif.Chain
open SameVerif SameVerif.Spec SameVerif.Asm SameVerif.Full

/-! ## non-vacuity: the demo stream of `Thm/ChainFullDemo.lean` -/

section Demo
open SameVerif.C01

/-- **the bounds are attained on the demo stream** (with the kernel evaluation `demo6_eval`): the
    third header burst is reported at tick `b3 = g3.e + g3.rel + 31 = 1713` exactly, the
    StartOfMessage at `b3 + HOLD = 2395` exactly (three-burst release), the EndOfMessage at
    `e2.e + e2.rel + 31 = 2953` exactly -/
theorem demo6_tight :
    ∃ t3, (lrun ⟨2, ⟨2, 5⟩⟩ {} demo6Stream)[1672 + 10 + 31]? = some (.burst (demoHeader ++ t3))
      ∧ msgEvents (chain ⟨2, ⟨2, 5⟩⟩ 22050 {} {} 0 (fun i => 42 * i) demo6Stream)
        = [(42 * (1672 + 10 + 31 + HOLD), .ok (.som ⟨demoHeader, 19, 0, 42⟩)),
           (42 * (2912 + 10 + 31), .ok .eom)] := by
  obtain ⟨b2, b3, b4, b5, i, j, h, t2, t3, x1, x2, _, ⟨_, q2, q3⟩, _, _, _, hev, _, _, _, _, hi⟩ :=
    demo6_timed
  have hH : HOLD = 682 := by decide
  rw [demo6_eval] at hev
  simp only [List.cons.injEq, Prod.mk.injEq, and_true] at hev
  obtain ⟨⟨hi', hh⟩, hj'⟩ := hev
  cases hh
  rcases hi with ⟨hv, _⟩ | ⟨_, hib, _⟩
  · cases hv
  · have hb3 : b3 = 1672 + 10 + 31 := by omega
    subst hb3
    exact ⟨t3, q3, by rw [demo6_eval, hH]⟩

/-- **The header-only latency theorem on the three-burst demo stream of `Thm/ChainT.lean`** (wrong-
    phase and early sync hits, open threshold met at every tick), from `demo3_timed`; the
    adjusting sync hit of the third burst (tick 1247) precedes `1129 + HOLD`, so it is the closed
    form: StartOfMessage exactly `HOLD` ticks after the third burst's `.burst` tick
    `b3 ∈ [1703, 1713]`, fully voted. -/
theorem demo3_three :
    ∃ b3 t3 h, 1703 ≤ b3 ∧ b3 ≤ 1713
      ∧ (lrun ⟨2, ⟨2, 5⟩⟩ {} demo3Stream)[b3]? = some (.burst (demoHeader ++ t3))
      ∧ msgEvents (chain ⟨2, ⟨2, 5⟩⟩ 22050 {} {} 0 (fun i => 42 * i) demo3Stream)
          = [(42 * (b3 + HOLD), .ok (.som h))]
      ∧ h.text = demoHeader ∧ h.offsetTime = 19 ∧ h.parity = 0 ∧ h.voting = demoHeader.length :=
  demo3_timed.three (by decide)

end Demo

end SameVerif.Chain
