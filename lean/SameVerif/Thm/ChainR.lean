import SameVerif.Thm.Chain
import SameVerif.Thm.C01s
import SameVerif.Lemmas.StreamEval
/-
  The digital chain (link model → receiver glue → assembler) on the REALISTIC front-end
  assumptions.

  * `transmission_decoded_r` : `Chain.transmission_decoded` with `Spec.BurstObserved` replaced by
    `Spec.BurstObserved'` + `Spec.NoFalseHits` (state-based), the link started in any `Ready` state;
  * `stream_decoded`         : the observational form — one tick stream, processed from the initial
    link state `{}` and the initial receiver state `{}`, that meets the decidable condition
    `Spec.StreamObserved` for three bursts of one canonical header followed by at least the hold
    time of ticks: exactly one message event, `StartOfMessage` with text exactly `H`.
  Both are instances of `transmission_decoded_timed` (`Lemmas/ChainLatency.lean`).
-/
namespace SameVerif.Chain
open SameVerif SameVerif.Spec SameVerif.Asm

/-- **C01, digital chain, realistic assumptions (state-based).** -/
theorem transmission_decoded_r (c : LCfg) (hE : c.maxErrors ≤ 6) (hP : c.fc.maxPrefixErr ≤ 7)
    (rate sym0 smax : Nat) (samples : Nat → Nat) (H : List Byte) (off : Nat)
    (hcan : checkHeader H = some (off, H.length))
    (hall : ∀ b ∈ H, isAllowed b = true)
    (hfits : H.length ≤ Gen.MAX_BURST_LENGTH)
    (g1 g2 g3 : Seg) (quiet : List Tick) (ls0 : LState) (hls : Ready ls0)
    (h1 : Observed' H g1) (w1 : 32 ≤ ls0.nsym + g1.lead.length) (n1 : NoFalse c ls0 g1)
    (h2 : Observed' H g2) (n2 : NoFalse c (lrunState c ls0 g1.ticks) g2)
    (h3 : Observed' H g3) (n3 : NoFalse c (lrunState c (lrunState c ls0 g1.ticks) g2.ticks) g3)
    (hq : QuietNoHit c (lrunState c (lrunState c (lrunState c ls0 g1.ticks) g2.ticks) g3.ticks) quiet)
    (hqlen : HOLD ≤ quiet.length)
    (hspan : g1.tail.length + g2.ticks.length + g3.ticks.length ≤ HIST)
    (htails : ∀ t1 t2 t3, t1.length ≤ (g1.rel + 7) / 8 → t2.length ≤ (g2.rel + 7) / 8 →
      t3.length ≤ (g3.rel + 7) / 8 →
      lrunBursts c ls0 (transmission g1 g2 g3 quiet) = [H ++ t1, H ++ t2, H ++ t3] →
      TailsNoDash H t1 t2 t3)
    (hsamp : ∀ i, i < (transmission g1 g2 g3 quiet).length →
      samples i ≤ smax ∧ smax ≤ samples i + TIMEOUT rate) :
    DecodedOnce (chain c rate ls0 {} sym0 samples (transmission g1 g2 g3 quiet))
      samples (transmission g1 g2 g3 quiet).length H off := by
  have hc := payloadCond_of_header c H _ hcan hall hfits
  have d1 := deliversT_of_observed_r c hE hP H hc g1 h1 ls0 hls w1 n1
  have d2 := deliversT_of_observed_r c hE hP H hc g2 h2 _ d1.quiescent.ready
    (by have := d1.quiescent.warm; omega) n2
  have d3 := deliversT_of_observed_r c hE hP H hc g3 h3 _ d2.quiescent.ready
    (by have := d2.quiescent.warm; omega) n3
  refine (transmission_decoded_timed c rate sym0 smax samples H off hcan hall hfits g1 g2 g3 quiet ls0
    d1 d2 d3 _ (segBusy_void c _ g3) hq hqlen hspan htails hsamp).toDecodedOnce ?_
  have := h3.tail_len
  simp only [transmission, List.length_append, g3.ticks_length]
  omega

/-- `Chain.transmission_decoded`, from quiescent states under `Spec.BurstObserved`, as an instance -/
theorem transmission_decoded_old (c : LCfg) (hE : c.maxErrors ≤ 6) (hP : c.fc.maxPrefixErr ≤ 7)
    (rate sym0 smax : Nat) (samples : Nat → Nat) (H : List Byte) (off : Nat)
    (hcan : checkHeader H = some (off, H.length))
    (hall : ∀ b ∈ H, isAllowed b = true)
    (hfits : H.length ≤ Gen.MAX_BURST_LENGTH)
    (g1 g2 g3 : Seg) (h1 : Observed H g1) (h2 : Observed H g2) (h3 : Observed H g3)
    (quiet : List Tick) (hq : ∀ x ∈ quiet, x.1.openOk = false) (hqlen : HOLD ≤ quiet.length)
    (hspan : g1.tail.length + g2.ticks.length + g3.ticks.length ≤ HIST)
    (ls0 : LState) (hls : Quiescent ls0)
    (htails : ∀ t1 t2 t3, t1.length ≤ (g1.rel + 7) / 8 → t2.length ≤ (g2.rel + 7) / 8 →
      t3.length ≤ (g3.rel + 7) / 8 →
      lrunBursts c ls0 (transmission g1 g2 g3 quiet) = [H ++ t1, H ++ t2, H ++ t3] →
      TailsNoDash H t1 t2 t3)
    (hsamp : ∀ i, i < (transmission g1 g2 g3 quiet).length →
      samples i ≤ smax ∧ smax ≤ samples i + TIMEOUT rate) :
    DecodedOnce (chain c rate ls0 {} sym0 samples (transmission g1 g2 g3 quiet))
      samples (transmission g1 g2 g3 quiet).length H off :=
  transmission_decoded c hE hP rate sym0 smax samples H off hcan hall hfits g1 g2 g3 h1 h2 h3 quiet hq
    hqlen hspan ls0 hls htails hsamp

/-- **C01, digital chain, realistic assumptions, observational form.**
    `stream`: everything the front end delivered, from the first symbol tick on.  `g1 g2 g3`: the
    positions (`o`, `acq`, `rel`) of three bursts of the canonical header `H`.  If the stream meets
    `Spec.StreamObserved` (with the link model's sync budget) — a decidable condition on the stream
    alone, the one `Spec.streamObservedB` evaluates on tapped real runs —, the third minimal tail is
    followed by at least `HOLD` ticks, and the three bursts fit the assembler's history window,
    then the composed run of link model, receiver glue and assembler, all from their initial
    states, yields exactly one message event: StartOfMessage, text exactly `H`. -/
theorem stream_decoded (c : LCfg) (hE : c.maxErrors ≤ 6) (hP : c.fc.maxPrefixErr ≤ 7)
    (rate sym0 smax : Nat) (samples : Nat → Nat) (H : List Byte) (off : Nat)
    (hcan : checkHeader H = some (off, H.length))
    (hall : ∀ b ∈ H, isAllowed b = true)
    (hfits : H.length ≤ Gen.MAX_BURST_LENGTH)
    (stream : List Tick) (g1 g2 g3 : BurstSpec)
    (hp1 : g1.payload = H) (hp2 : g2.payload = H) (hp3 : g3.payload = H)
    (hobs : StreamObserved c.maxErrors stream [g1, g2, g3])
    (hqlen : g3.stop + HOLD ≤ stream.length)
    (hspan : g3.stop ≤ g1.e + HIST)
    (htails : ∀ t1 t2 t3, t1.length ≤ (g1.rel + 7) / 8 → t2.length ≤ (g2.rel + 7) / 8 →
      t3.length ≤ (g3.rel + 7) / 8 →
      lrunBursts c {} stream = [H ++ t1, H ++ t2, H ++ t3] → TailsNoDash H t1 t2 t3)
    (hsamp : ∀ i, i < stream.length → samples i ≤ smax ∧ smax ≤ samples i + TIMEOUT rate) :
    DecodedOnce (chain c rate {} {} sym0 samples stream) samples stream.length H off := by
  have hc := payloadCond_of_header c H _ hcan hall hfits
  have hpc : ∀ g ∈ [g1, g2, g3], PayloadCond c g.payload := by
    simp only [List.mem_cons, List.not_mem_nil, or_false, forall_eq_or_imp, forall_eq, hp1, hp2, hp3]
    exact ⟨hc, hc, hc⟩
  obtain ⟨s1, s2, s3, s4⟩ := C01s.stream_segments c stream [g1, g2, g3] hobs hpc
  -- the three segments and the quiet rest
  have hL : lastStop 0 [g1, g2, g3] = g3.stop := rfl
  rw [hL] at s2 s3 s4
  obtain ⟨_, k1, w1, n1, _, k2, _, n2, _, k3, _, n3, _⟩ := s1
  simp only [segsOf, List.flatMap_cons, List.flatMap_nil, List.append_nil] at s2
  rw [hp1] at k1; rw [hp2] at k2; rw [hp3] at k3
  have hstream : transmission (segOf stream 0 g1) (segOf stream g1.stop g2) (segOf stream g2.stop g3)
      (stream.drop g3.stop) = stream := by
    unfold transmission
    rw [List.append_assoc (segOf stream 0 g1).ticks, ← s2, List.take_append_drop]
  -- the lengths
  obtain ⟨_, ⟨_, ho2, ho3, _⟩, _⟩ := hobs
  have a1 := g1.stop_eq
  have a2 := g2.stop_eq
  have a3 := g3.stop_eq
  have c2 := g2.e_eq
  have c3 := g3.e_eq
  obtain ⟨_, _, u1, _⟩ := segOf_lengths stream 0 g1 (Nat.zero_le _) (by omega)
  obtain ⟨_, _, _, l2⟩ := segOf_lengths stream g1.stop g2 ho2 (by omega)
  obtain ⟨_, _, _, l3⟩ := segOf_lengths stream g2.stop g3 ho3 s3
  have hq' : QuietNoHit c (lrunState c (lrunState c (lrunState c {} (segOf stream 0 g1).ticks)
      (segOf stream g1.stop g2).ticks) (segOf stream g2.stop g3).ticks) (stream.drop g3.stop) := by
    rw [← lrunState_append, ← lrunState_append, ← s2]
    exact s4
  have := transmission_decoded_r c hE hP rate sym0 smax samples H off hcan hall hfits
    (segOf stream 0 g1) (segOf stream g1.stop g2) (segOf stream g2.stop g3) (stream.drop g3.stop)
    {} ready_init k1 w1 n1 k2 n2 k3 n3 hq' (by rw [List.length_drop]; omega) (by omega)
    (by rw [hstream]; exact htails) (by rw [hstream]; exact hsamp)
  rw [hstream] at this
  exact this

section Demo
open SameVerif.C01

/-! ## non-vacuity

  (1) the demo stream of `Thm/Chain.lean`, processed from the INITIAL link state `{}`;
  (2) a stream that violates every one of the clauses `lead_closed`, `open_late`, `tail_closed` of
      `Spec.BurstObserved` (and its silence condition): the open threshold is met at EVERY tick, the
      lead-ins, tails and the final stretch carry a noise bit pattern — and still meets
      `StreamObserved`, so the chain theorem applies to it. -/

/-- (1) by `transmission_decoded_r`, link model started in `{}` -/
theorem demo_decoded_init :
    DecodedOnce (chain ⟨2, ⟨2, 5⟩⟩ 22050 {} {} 0 (fun i => 42 * i)
        (transmission demoSeg demoSeg demoSeg (demoLead 700)))
      (fun i => 42 * i) 2362 demoHeader 19 := by
  have hc := demoHeader_canonical
  have hl := demoSeg_lengths
  have ho := demoSeg_observed
  have := transmission_decoded_r ⟨2, ⟨2, 5⟩⟩ (by decide) (by decide) 22050 0 (42 * 2362) (fun i => 42 * i)
    demoHeader 19 hc.1 hc.2.1 hc.2.2 demoSeg demoSeg demoSeg (demoLead 700) {} ready_init
    ho.weaken (by decide) (ho.noFalseHits _ _) ho.weaken (ho.noFalseHits _ _) ho.weaken (ho.noFalseHits _ _)
    (fun t _ => noHitAt_of_closed _ _ _ t (fun x h => demoQuiet_closed x (List.mem_of_getElem? h)))
    (by rw [show (demoLead 700).length = 700 from List.length_replicate]; decide)
    (by rw [hl.1, hl.2.1]; decide)
    (fun _ _ _ _ _ _ hb => demo_htails (demo_bursts _ (.inr rfl)) hb)
    (by rw [hl.2.2]; exact demo_hsamp 2362 (by decide))
  rwa [hl.2.2] at this

/-- (2) tick `i` of the realistic demo stream: three periods of `L` lead-in ticks, `n` body ticks,
    `rel + 40` tail ticks, then noise.  The open threshold is met at EVERY tick; lead-in, tail and
    the final stretch carry the bit pattern `100100…`; the bits are right from the first
    transmitted bit (`acq = 0`, as on most real bursts); the close threshold is arbitrary outside
    body and tail. -/
def demo2Tk (H : List Byte) (L n rel : Nat) (garb : Byte) (i : Nat) : Tick :=
  let P := L + n + (rel + 40)
  let k := i % P
  if i / P < 3 then
    if k < L then (⟨k % 3 = 0, true, k % 2 = 0⟩, garb)
    else if k < L + n then
      let j := k - L
      (⟨frameBit (frameOf H) j, true, true⟩,
        if j % 8 = 7 ∧ 3 ≤ j / 8 then (frameOf H).getD (j / 8 - 3) 0 else garb)
    else
      let t := k - L - n
      (⟨t % 3 = 0, true, decide (t < rel)⟩,
        if t % 8 = 7 ∧ t / 8 < 3 then (frameOf H).getD ((frameOf H).length - 3 + t / 8) 0 else garb)
  else (⟨i % 3 = 0, true, i % 5 = 0⟩, garb)

def demo2Stream : List Tick := (List.range (3 * 574 + 700)).map (demo2Tk demoHeader 60 464 10 0x41)

def demo2Segs : List BurstSpec :=
  [⟨60, demoHeader, 0, 10⟩, ⟨574 + 60, demoHeader, 0, 10⟩, ⟨2 * 574 + 60, demoHeader, 0, 10⟩]

/-- the threshold clauses of `Spec.BurstObserved` all fail on this stream: the open threshold is
    met at every tick -/
theorem demo2_open_everywhere : ∀ x ∈ demo2Stream, x.1.openOk = true := by
  intro x hx
  obtain ⟨i, _, rfl⟩ := List.mem_map.1 hx
  unfold demo2Tk
  simp only
  split
  · split
    · rfl
    · split <;> rfl
  · rfl

/-- a stream whose open threshold is met at every tick has no segmentation with a non-empty
    lead-in that satisfies `Spec.BurstObserved` -/
theorem not_burstObserved_of_open (stream : List Tick) (hopen : ∀ x ∈ stream, x.1.openOk = true)
    (pl : List Byte) (lead body tail : List Tick) (acq rel : Nat) (x : Tick)
    (hx : x ∈ lead) (hsub : ∀ y ∈ lead, y ∈ stream) :
    ¬ BurstObserved pl lead body tail acq rel := by
  intro H
  have := H.lead_closed x hx
  rw [hopen x (hsub x hx)] at this
  cases this

theorem demo2_not_old (pl : List Byte) (lead body tail : List Tick) (acq rel : Nat) (x : Tick)
    (hx : x ∈ lead) (hsub : ∀ y ∈ lead, y ∈ demo2Stream) :
    ¬ BurstObserved pl lead body tail acq rel :=
  not_burstObserved_of_open demo2Stream demo2_open_everywhere pl lead body tail acq rel x hx hsub

theorem demo2Tk_body (H : List Byte) (L n rel : Nat) (garb : Byte) (p j : Nat) (hp : p < 3) (hj : j < n) :
    demo2Tk H L n rel garb ((L + n + (rel + 40)) * p + (L + j))
      = (⟨frameBit (frameOf H) j, true, true⟩,
         if j % 8 = 7 ∧ 3 ≤ j / 8 then (frameOf H).getD (j / 8 - 3) 0 else garb) := by
  have hP : L + j < L + n + (rel + 40) := by omega
  unfold demo2Tk
  simp only [Nat.mul_add_div (Nat.zero_lt_of_lt hP), Nat.div_eq_of_lt hP, Nat.mul_add_mod, Nat.mod_eq_of_lt hP,
    Nat.add_zero, hp, if_true, if_neg (Nat.not_lt.2 (Nat.le_add_right L j)), Nat.add_lt_add_iff_left, hj,
    Nat.add_sub_cancel_left]

theorem demo2Tk_tail (H : List Byte) (L n rel : Nat) (garb : Byte) (p t : Nat) (hp : p < 3) (ht : t < rel + 40) :
    demo2Tk H L n rel garb ((L + n + (rel + 40)) * p + (L + n + t))
      = (⟨t % 3 = 0, true, decide (t < rel)⟩,
         if t % 8 = 7 ∧ t / 8 < 3 then (frameOf H).getD ((frameOf H).length - 3 + t / 8) 0 else garb) := by
  have hP : L + n + t < L + n + (rel + 40) := by omega
  unfold demo2Tk
  simp only [Nat.mul_add_div (Nat.zero_lt_of_lt hP), Nat.div_eq_of_lt hP, Nat.mul_add_mod, Nat.mod_eq_of_lt hP,
    Nat.add_zero, hp, if_true, if_neg (show ¬ L + n + t < L by omega), if_neg (show ¬ L + n + t < L + n by omega),
    show L + n + t - L - n = t by omega]

/-- the clauses of `BurstAtF` for the burst of period `p` hold by construction of `demo2Tk`, on any
    tick function that is `demo2Tk` over the three periods -/
theorem demo2Tk_burstAt (tk : Nat → Tick) (len : Nat) (H : List Byte) (L n rel : Nat) (garb : Byte)
    (hn : n = 8 * (frameOf H).length) (htk : ∀ i, i < 3 * (L + n + (rel + 40)) → tk i = demo2Tk H L n rel garb i)
    (hlen : 3 * (L + n + (rel + 40)) ≤ len) (p : Nat) (hp : p < 3) :
    BurstAtF tk len ⟨(L + n + (rel + 40)) * p + L, H, 0, rel⟩ := by
  have hF : 16 ≤ (frameOf H).length := by simp [frameOf]
  have hmul : (L + n + (rel + 40)) * p + (L + n + (rel + 40)) ≤ 3 * (L + n + (rel + 40)) := by
    rw [← Nat.mul_succ, Nat.mul_comm 3]
    exact Nat.mul_le_mul_left _ hp
  have body (j : Nat) (hj : j < n) : tk ((L + n + (rel + 40)) * p + L + j)
      = (⟨frameBit (frameOf H) j, true, true⟩,
         if j % 8 = 7 ∧ 3 ≤ j / 8 then (frameOf H).getD (j / 8 - 3) 0 else garb) := by
    rw [Nat.add_assoc, htk _ (by omega), demo2Tk_body H L n rel garb p j hp hj]
  have tail (t : Nat) (ht : t < rel + 40) : tk ((L + n + (rel + 40)) * p + L + n + t)
      = (⟨t % 3 = 0, true, decide (t < rel)⟩,
         if t % 8 = 7 ∧ t / 8 < 3 then (frameOf H).getD ((frameOf H).length - 3 + t / 8) 0 else garb) := by
    rw [Nat.add_assoc, Nat.add_assoc, ← Nat.add_assoc L, htk _ (by omega), demo2Tk_tail H L n rel garb p t hp ht]
  unfold BurstAtF BurstSpec.stop BurstSpec.e BurstSpec.n
  simp only [← hn]
  refine ⟨by omega, by omega, ?_, ?_, ?_, ?_, ?_, ?_, ?_⟩
  · intro j hj _; rw [body j hj]
  · intro j hj _; rw [body j hj]
  · intro j hj _; rw [body j hj]
  · intro m hm
    rw [body _ (by omega), if_pos (by omega), show (8 * (m + 3) + 7) / 8 - 3 = m by omega]
  · intro m hm
    rw [tail _ (by omega), if_pos (by omega), show (8 * m + 7) / 8 = m by omega]
  · intro k hk; rw [tail k (by omega)]; exact decide_eq_true hk
  · intro k hk hr; rw [tail k hk]; exact decide_eq_false (by omega)

theorem getD_map_range (f : Nat → Tick) (N i : Nat) :
    ((List.range N).map f).getD i dfltTick = if i < N then f i else dfltTick := by
  rw [List.getD_eq_getElem?_getD, List.getElem?_map]
  by_cases h : i < N
  · rw [List.getElem?_range h, if_pos h]
    rfl
  · rw [List.getElem?_eq_none (by rw [List.length_range]; omega), if_neg h]
    rfl

/-- the ticks at which the open threshold is met and the window is within 2 of the sync word: the
    byte-aligned windows over the preamble, from body tick 31 on (one pass over the stream) -/
theorem demo2_potHits :
    potHitsE 2 0 0 demo2Stream
      = [91, 99, 107, 115, 123, 131, 139, 147, 155, 163, 171, 179, 187,
         665, 673, 681, 689, 697, 705, 713, 721, 729, 737, 745, 753, 761,
         1239, 1247, 1255, 1263, 1271, 1279, 1287, 1295, 1303, 1311, 1319, 1327, 1335] := by
  unfold demo2Stream demo2Tk
  simp only [frameBit_eq_testBit, getD_eq_packNat]
  decide +kernel

/-- … and it meets the realistic assumptions (default sync budget 2): the burst clauses by
    construction, and every potential hit lies in a synchronised stretch -/
theorem demo2_observed : StreamObserved 2 demo2Stream demo2Segs := by
  have hlen : demo2Stream.length = 2422 := by
    unfold demo2Stream; rw [List.length_map, List.length_range]
  have hb := demo2Tk_burstAt (fun i => demo2Stream.getD i dfltTick) demo2Stream.length demoHeader 60 464 10 0x41
    (by decide) (fun i hi => by rw [demo2Stream, getD_map_range, if_pos (by omega)]) (by rw [hlen]; decide)
  refine streamObserved_of_hits 2 _ _ ?_ (by decide) ?_
  · intro g hg
    simp only [demo2Segs, List.mem_cons, List.not_mem_nil, or_false] at hg
    rcases hg with rfl | rfl | rfl
    · exact hb 0 (by decide)
    · exact hb 1 (by decide)
    · exact hb 2 (by decide)
  · rw [demo2_potHits]
    decide

theorem demo2_link :
    Forall₂ (fun g b => ∃ t, b = g.payload ++ t ∧ t.length ≤ (g.rel + 7) / 8) demo2Segs
      (lrunBursts ⟨2, ⟨2, 5⟩⟩ {} demo2Stream) := by
  have hc := demoHeader_canonical
  have hpc := payloadCond_of_header ⟨2, ⟨2, 5⟩⟩ demoHeader _ hc.1 hc.2.1 hc.2.2
  refine (C01s.stream_bursts ⟨2, ⟨2, 5⟩⟩ (by decide) (by decide) demo2Stream demo2Segs demo2_observed ?_).1
  intro g hg
  simp only [demo2Segs, List.mem_cons, List.not_mem_nil, or_false] at hg
  rcases hg with rfl | rfl | rfl <;> exact hpc

theorem demo2_bursts :
    lrunBursts ⟨2, ⟨2, 5⟩⟩ {} demo2Stream
      = [demoHeader ++ [0x41, 0x41], demoHeader ++ [0x41, 0x41], demoHeader ++ [0x41, 0x41]] := by
  rw [lrunBursts_eq_lrunE _ _ _ rfl]
  unfold demo2Stream demo2Tk
  simp only [frameBit_eq_testBit, getD_eq_packNat]
  decide +kernel

/-- **The chain on the realistic demo stream**, by `stream_decoded`: everything from the initial
    states; only the bursts' tails are evaluated, to discharge `htails`. -/
theorem demo2_decoded :
    DecodedOnce (chain ⟨2, ⟨2, 5⟩⟩ 22050 {} {} 0 (fun i => 42 * i) demo2Stream)
      (fun i => 42 * i) 2422 demoHeader 19 := by
  have hc := demoHeader_canonical
  have hlen : demo2Stream.length = 2422 := by
    unfold demo2Stream; rw [List.length_map, List.length_range]
  have := stream_decoded ⟨2, ⟨2, 5⟩⟩ (by decide) (by decide) 22050 0 (42 * 2422) (fun i => 42 * i)
    demoHeader 19 hc.1 hc.2.1 hc.2.2 demo2Stream ⟨60, demoHeader, 0, 10⟩ ⟨574 + 60, demoHeader, 0, 10⟩
    ⟨2 * 574 + 60, demoHeader, 0, 10⟩ rfl rfl rfl demo2_observed
    (by rw [hlen]; decide) (by decide)
    (fun _ _ _ _ _ _ hb => demo_htails demo2_bursts hb)
    (by rw [hlen]; exact demo_hsamp 2422 (by decide))
  rwa [hlen] at this

end Demo

end SameVerif.Chain
