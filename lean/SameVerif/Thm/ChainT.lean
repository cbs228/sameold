import SameVerif.Thm.ChainR
import SameVerif.Thm.C01t
import SameVerif.Thm.ChainLatency
/-
  The digital chain on the GENERALISED realistic assumptions `Spec.StreamObserved2` (early,
  wrong-phase and dropped first sync hits allowed; the last adjusting hit at the correct phase).

  * `stream_decoded2`        : one tick stream from the initial states that meets the decidable
    condition `Spec.StreamObserved2` for three bursts of one canonical header, followed by at
    least the hold time of ticks: exactly one message event, `StartOfMessage`, text exactly `H`
    (`stream_decoded2_latency`, `Thm/ChainLatency.lean`, without the timing);
  * non-vacuity on a stream with a wrong-phase first hit, an early (not yet all-correct) adjusting
    hit, dropped hits in the lead-in, the open threshold met at every tick, and the close
    threshold met again after the release.
-/
namespace SameVerif.Chain
open SameVerif SameVerif.Spec SameVerif.Asm

/-- **C01, digital chain, generalised realistic assumptions, observational form.** -/
theorem stream_decoded2 (c : LCfg) (hE : c.maxErrors ≤ 6) (hP : c.fc.maxPrefixErr ≤ 7)
    (rate sym0 smax : Nat) (samples : Nat → Nat) (H : List Byte) (off : Nat)
    (hcan : checkHeader H = some (off, H.length))
    (hall : ∀ b ∈ H, isAllowed b = true)
    (hfits : H.length ≤ Gen.MAX_BURST_LENGTH)
    (stream : List Tick) (g1 g2 g3 : BurstSpec2)
    (hp1 : g1.payload = H) (hp2 : g2.payload = H) (hp3 : g3.payload = H)
    (hobs : StreamObserved2 c.maxErrors stream [g1, g2, g3])
    (hqlen : g3.stop + HOLD ≤ stream.length)
    (hspan : g3.stop ≤ g1.e + HIST)
    (htails : ∀ t1 t2 t3, t1.length ≤ (g1.rel + 7) / 8 → t2.length ≤ (g2.rel + 7) / 8 →
      t3.length ≤ (g3.rel + 7) / 8 →
      lrunBursts c {} stream = [H ++ t1, H ++ t2, H ++ t3] → TailsNoDash H t1 t2 t3)
    (hsamp : ∀ i, i < stream.length → samples i ≤ smax ∧ smax ≤ samples i + TIMEOUT rate) :
    DecodedOnce (chain c rate {} {} sym0 samples stream) samples stream.length H off := by
  have := g3.stop_eq
  exact (stream_decoded2_latency c hE hP rate sym0 smax samples H off hcan hall hfits stream g1 g2 g3
    hp1 hp2 hp3 hobs hqlen hspan htails hsamp).toDecodedOnce (by omega)

section Demo
open SameVerif.C01

/-! ## non-vacuity: a stream with the phenomena of real front ends -/

/-- bit `i` of the endless preamble `AB AB …` (LSb first) -/
def abBit (i : Nat) : Bool := bitOf 0xAB (i % 8)

/-- tick `i`: three periods of 60 lead-in ticks, the body, `rel + 40` tail ticks; then noise.
    * lead-in: a preamble-like stretch at a wrong phase (while the close threshold is not yet met:
      hits it causes are dropped), noise, and a second wrong-phase stretch that runs 10 ticks into
      the body — the first hit of the burst, at body tick 8, is at a WRONG phase;
    * the bits are right from body tick 10 (`acq = 10`); the hit that adjusts the byte clock comes
      at body tick 39, two ticks BEFORE the window is all-correct;
    * the open threshold is met at EVERY tick; the close threshold is met again 5 ticks after the
      release. -/
def demo3Tk (H : List Byte) (rel : Nat) (garb : Byte) (i : Nat) : Tick :=
  let n := 8 * (frameOf H).length
  let P := 60 + n + (rel + 40)
  let k := i % P
  if i / P < 3 then
    if k < 60 then
      (⟨if k < 32 then abBit (k + 5) else if k < 38 then k % 3 = 0 else abBit (k + 3), true, decide (20 ≤ k)⟩, garb)
    else if k < 60 + n then
      let j := k - 60
      (⟨if j < 10 then abBit (60 + j + 3) else frameBit (frameOf H) j, true, true⟩,
        if j % 8 = 7 ∧ 3 ≤ j / 8 then (frameOf H).getD (j / 8 - 3) 0 else garb)
    else
      let t := k - 60 - n
      (⟨t % 3 = 0, true, decide (t < rel) || decide (rel + 5 ≤ t)⟩,
        if t % 8 = 7 ∧ t / 8 < 3 then (frameOf H).getD ((frameOf H).length - 3 + t / 8) 0 else garb)
  else (⟨i % 3 = 0, true, i % 5 = 0⟩, garb)

def demo3Stream : List Tick := (List.range (3 * 574 + 700)).map (demo3Tk demoHeader 10 0x41)

def demo3Segs : List BurstSpec2 :=
  [⟨60, demoHeader, 10, 39, 10⟩, ⟨574 + 60, demoHeader, 10, 39, 10⟩, ⟨2 * 574 + 60, demoHeader, 10, 39, 10⟩]

theorem demo3Tk_body (H : List Byte) (rel : Nat) (garb : Byte) (n P p j : Nat)
    (hn : n = 8 * (frameOf H).length) (hP : P = 60 + n + (rel + 40)) (hp : p < 3) (hj : j < n) :
    demo3Tk H rel garb (P * p + (60 + j))
      = (⟨if j < 10 then abBit (60 + j + 3) else frameBit (frameOf H) j, true, true⟩,
         if j % 8 = 7 ∧ 3 ≤ j / 8 then (frameOf H).getD (j / 8 - 3) 0 else garb) := by
  have hlt : 60 + j < P := by omega
  unfold demo3Tk
  simp only [← hn, ← hP, Nat.mul_add_div (Nat.zero_lt_of_lt hlt), Nat.div_eq_of_lt hlt, Nat.mul_add_mod,
    Nat.mod_eq_of_lt hlt, Nat.add_zero, hp, if_true, if_neg (Nat.not_lt.2 (Nat.le_add_right 60 j)),
    Nat.add_lt_add_iff_left, hj, Nat.add_sub_cancel_left]

theorem demo3Tk_tail (H : List Byte) (rel : Nat) (garb : Byte) (n P p t : Nat)
    (hn : n = 8 * (frameOf H).length) (hP : P = 60 + n + (rel + 40)) (hp : p < 3) (ht : t < rel + 40) :
    demo3Tk H rel garb (P * p + (60 + n + t))
      = (⟨t % 3 = 0, true, decide (t < rel) || decide (rel + 5 ≤ t)⟩,
         if t % 8 = 7 ∧ t / 8 < 3 then (frameOf H).getD ((frameOf H).length - 3 + t / 8) 0 else garb) := by
  have hlt : 60 + n + t < P := by omega
  unfold demo3Tk
  simp only [← hn, ← hP, Nat.mul_add_div (Nat.zero_lt_of_lt hlt), Nat.div_eq_of_lt hlt, Nat.mul_add_mod,
    Nat.mod_eq_of_lt hlt, Nat.add_zero, hp, if_true, if_neg (show ¬ 60 + n + t < 60 by omega),
    if_neg (show ¬ 60 + n + t < 60 + n by omega), show 60 + n + t - 60 - n = t by omega]

/-- the tracking clauses for the burst of period `p` hold by construction of `demo3Tk`, on any tick
    function that is `demo3Tk` over three periods from tick `base` on -/
theorem demo3Tk_trackAt (tk : Nat → Tick) (len base : Nat) (H : List Byte) (rel : Nat) (garb : Byte) (n P : Nat)
    (hn : n = 8 * (frameOf H).length) (hP : P = 60 + n + (rel + 40))
    (htk : ∀ i, i < 3 * P → tk (base + i) = demo3Tk H rel garb i) (hlen : base + 3 * P ≤ len)
    (p : Nat) (hp : p < 3) (o : Nat) (ho : o = base + (P * p + 60)) :
    TrackAt2F tk len ⟨o, H, 10, 39, rel⟩ := by
  subst ho
  have hF : 16 ≤ (frameOf H).length := by simp [frameOf]
  have hmul : P * p + P ≤ 3 * P := by
    rw [← Nat.mul_succ, Nat.mul_comm 3]
    exact Nat.mul_le_mul_left _ hp
  have body (j : Nat) (hj : j < n) : tk (base + (P * p + 60) + j)
      = (⟨if j < 10 then abBit (60 + j + 3) else frameBit (frameOf H) j, true, true⟩,
         if j % 8 = 7 ∧ 3 ≤ j / 8 then (frameOf H).getD (j / 8 - 3) 0 else garb) := by
    rw [Nat.add_assoc, Nat.add_assoc, htk _ (by omega), demo3Tk_body H rel garb n P p j hn hP hp hj]
  have tail (t : Nat) (ht : t < rel + 40) : tk (base + (P * p + 60) + n + t)
      = (⟨t % 3 = 0, true, decide (t < rel) || decide (rel + 5 ≤ t)⟩,
         if t % 8 = 7 ∧ t / 8 < 3 then (frameOf H).getD ((frameOf H).length - 3 + t / 8) 0 else garb) := by
    rw [show base + (P * p + 60) + n + t = base + (P * p + (60 + n + t)) by omega, htk _ (by omega),
      demo3Tk_tail H rel garb n P p t hn hP hp ht]
  unfold TrackAt2F BurstSpec2.stop BurstSpec2.e BurstSpec2.n
  simp only [← hn]
  refine ⟨by omega, by omega, ?_, ?_, ?_, ?_, ?_, ?_⟩
  · intro j hj h10; rw [body j hj, if_neg (by omega)]
  · intro j hj _; rw [body j hj]
  · intro m hm
    rw [body _ (by omega)]
    show (if _ then _ else _) = _
    rw [if_pos (by omega), show (8 * (m + 3) + 7) / 8 - 3 = m by omega]
  · intro m hm
    rw [tail _ (by omega)]
    show (if _ then _ else _) = _
    rw [if_pos (by omega), show (8 * m + 7) / 8 = m by omega]
  · intro k hk; rw [tail k (by omega)]; exact Bool.or_eq_true_iff.2 (.inl (decide_eq_true hk))
  · rw [tail rel (by omega)]
    exact Bool.or_eq_false_iff.2 ⟨decide_eq_false (by omega), decide_eq_false (by omega)⟩

/-- the ticks at which the open threshold is met and the window is within 2 of the sync word (one
    pass over the stream).  Per period: a wrong-phase hit in the lead-in stretch (body tick 8, phase
    0; in the later periods also lead-in tick 26, dropped 5 ticks later), the adjusting hit at body
    tick 39 (phase 7, before `acq + 31 = 41`), then the byte-aligned windows over the preamble. -/
theorem demo3_potHits :
    potHitsE 2 0 0 demo3Stream
      = [68, 99, 107, 115, 123, 131, 139, 147, 155, 163, 171, 179, 187,
         600, 642, 673, 681, 689, 697, 705, 713, 721, 729, 737, 745, 753, 761,
         1174, 1216, 1247, 1255, 1263, 1271, 1279, 1287, 1295, 1303, 1311, 1319, 1327, 1335] := by
  unfold demo3Stream demo3Tk
  simp only [frameBit_eq_testBit, getD_eq_packNat]
  decide +kernel

/-- the phenomena are there: potential hits (open threshold met, window within 2 of the sync word)
    at global ticks 68 (body tick 8: phase 0, wrong) and 99 (body tick 39: phase 7, before
    `acq + 31 = 41`), and in the second lead-in at tick 600, dropped 5 ticks later -/
theorem demo3_hits :
    (List.range 700).filter (fun t => decide (31 ≤ t) &&
        potHit 2 (fun i => if i < 2422 then demo3Tk demoHeader 10 0x41 i else dfltTick) t)
      = [68, 99, 107, 115, 123, 131, 139, 147, 155, 163, 171, 179, 187, 600, 642, 673, 681, 689, 697] := by
  have htk : (fun i => if i < 2422 then demo3Tk demoHeader 10 0x41 i else dfltTick)
      = (fun i => demo3Stream.getD i dfltTick) := by
    funext i
    rw [demo3Stream, getD_map_range]
  have hp : (fun t => decide (31 ≤ t) && potHit 2 (fun i => demo3Stream.getD i dfltTick) t)
      = (fun t => decide (31 ≤ t) && (maskOf (potHitsE 2 0 0 demo3Stream)).testBit t) := by
    funext t
    by_cases h31 : 31 ≤ t
    · rw [testBit_maskOf, contains_potHitsE 2 _ t h31]
    · rw [decide_eq_false h31, Bool.false_and, Bool.false_and]
  rw [htk, hp, demo3_potHits]
  decide +kernel

/-- it meets the generalised assumptions (default sync budget 2): the tracking clauses by
    construction, the rest a condition on the potential hits -/
theorem demo3_observed : StreamObserved2 2 demo3Stream demo3Segs := by
  have hlen : demo3Stream.length = 2422 := by
    unfold demo3Stream; rw [List.length_map, List.length_range]
  have ht := demo3Tk_trackAt (fun i => demo3Stream.getD i dfltTick) demo3Stream.length 0 demoHeader 10 0x41
    464 574 (by decide) (by decide)
    (fun i hi => by rw [demo3Stream, getD_map_range, Nat.zero_add, if_pos (show i < 2422 by omega)])
    (by rw [hlen]; decide)
  refine streamObserved2_of_hits 2 _ _ ?_ ?_
  · intro g hg
    simp only [demo3Segs, List.mem_cons, List.not_mem_nil, or_false] at hg
    rcases hg with rfl | rfl | rfl
    · exact ht 0 (by decide) _ (by decide)
    · exact ht 1 (by decide) _ (by decide)
    · exact ht 2 (by decide) _ (by decide)
  · rw [demo3_potHits]
    simp only [demo3Stream, getD_map_range]
    decide +kernel

theorem demo3_link :
    Forall₂ (fun g b => ∃ t, b = g.payload ++ t ∧ t.length ≤ (g.rel + 7) / 8) demo3Segs
      (lrunBursts ⟨2, ⟨2, 5⟩⟩ {} demo3Stream) := by
  have hc := demoHeader_canonical
  have hpc := payloadCond_of_header ⟨2, ⟨2, 5⟩⟩ demoHeader _ hc.1 hc.2.1 hc.2.2
  refine (C01t.stream_bursts2 ⟨2, ⟨2, 5⟩⟩ (by decide) (by decide) demo3Stream demo3Segs demo3_observed ?_).1
  intro g hg
  simp only [demo3Segs, List.mem_cons, List.not_mem_nil, or_false] at hg
  rcases hg with rfl | rfl | rfl <;> exact hpc

theorem demo3_bursts :
    lrunBursts ⟨2, ⟨2, 5⟩⟩ {} demo3Stream
      = [demoHeader ++ [0x41, 0x41], demoHeader ++ [0x41, 0x41], demoHeader ++ [0x41, 0x41]] := by
  rw [lrunBursts_eq_lrunE _ _ _ rfl]
  unfold demo3Stream demo3Tk
  simp only [frameBit_eq_testBit, getD_eq_packNat]
  decide +kernel

/-- **the latency theorem on that stream**, by `stream_decoded2_latency`: second burst reported in
    `[1129, 1139]`, third in `[1703, 1713]`, its adjusting sync hit at tick 1247 -/
theorem demo3_timed :
    TimedOnce (chain ⟨2, ⟨2, 5⟩⟩ 22050 {} {} 0 (fun i => 42 * i) demo3Stream) (fun i => 42 * i)
      (lrun ⟨2, ⟨2, 5⟩⟩ {} demo3Stream) demoHeader 19 1129 1139 1247 1703 1713 := by
  have hc := demoHeader_canonical
  have hlen : demo3Stream.length = 2422 := by
    unfold demo3Stream; rw [List.length_map, List.length_range]
  exact stream_decoded2_latency ⟨2, ⟨2, 5⟩⟩ (by decide) (by decide) 22050 0 (42 * 2422) (fun i => 42 * i)
    demoHeader 19 hc.1 hc.2.1 hc.2.2 demo3Stream ⟨60, demoHeader, 10, 39, 10⟩
    ⟨574 + 60, demoHeader, 10, 39, 10⟩ ⟨2 * 574 + 60, demoHeader, 10, 39, 10⟩ rfl rfl rfl demo3_observed
    (by rw [hlen]; decide) (by decide) (fun _ _ _ _ _ _ hb => demo_htails demo3_bursts hb)
    (by rw [hlen]; exact demo_hsamp 2422 (by decide))

/-- **the chain on that stream**: the timed conclusion without the timing -/
theorem demo3_decoded :
    DecodedOnce (chain ⟨2, ⟨2, 5⟩⟩ 22050 {} {} 0 (fun i => 42 * i) demo3Stream)
      (fun i => 42 * i) 2422 demoHeader 19 :=
  demo3_timed.toDecodedOnce (by decide)

end Demo

end SameVerif.Chain
