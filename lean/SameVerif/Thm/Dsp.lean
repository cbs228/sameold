/-
  Theorems about the front-end DSP control structure (`Model/Dsp.lean`).

  Tier A: order-only facts, generic in the number type `F` under `OrderLaws F`
          (a total strict weak order with `0 ≤ 1`, `0 ≤ 1/2`, `-1/2 ≤ 1/2`, `-1 ≤ 1`; no ring laws).
  Tier B: real-number semantics over core `Rat` (`instance : Arith Rat` in Lemmas/DspLaws.lean).

  Helper lemmas, the law class, run functions and invariants are in Lemmas/DspLaws.lean.
-/
import SameVerif.Lemmas.DspLaws

namespace SameVerif.DspThm

open SameVerif.Dsp Arith

/-! ## Tier A: order-only, generic in `F` -/

section TierA
variable {F : Type} [Arith F] [OrderLaws F]

omit [OrderLaws F] in
/-- `clamp` panics exactly when `min > max` -/
theorem clamp_none_iff (x lo hi : F) : clamp x lo hi = none ↔ le lo hi = false :=
  Dsp.clamp_none_iff x lo hi

theorem clamp_some_iff (x lo hi : F) : (∃ y, clamp x lo hi = some y) ↔ le lo hi = true := by
  constructor
  · rintro ⟨y, h⟩; exact (clamp_bounds' h).1
  · exact clamp_isSome_of_le

/-- what `clamp` returns lies between the limits -/
theorem clamp_bounds {x lo hi y : F} (h : clamp x lo hi = some y) : le lo y = true ∧ le y hi = true :=
  (clamp_bounds' h).2

/-! ### the AGC panics exactly when `min_gain > max_gain` -/

omit [OrderLaws F] in
theorem agc_input_none_iff (a : Agc F) (x : F) :
    a.input x = none ↔ le a.minGain a.maxGain = false :=
  agc_input_none_iff' a x

/-! ### `Agc::new` -/

theorem agc_new_total (bw lo hi : F) : ∃ a0, Agc.new bw lo hi = some a0 := by
  obtain ⟨bw', _, h⟩ := agc_new_some bw lo hi
  exact ⟨_, h⟩

theorem agc_initialGain_in_range {lo hi : F} (h : le lo hi = true) :
    le lo (Agc.initialGain lo hi) = true ∧ le (Agc.initialGain lo hi) hi = true :=
  initialGain_bounds h

/-! ### the gain never leaves `[min_gain, max_gain]` and the AGC never panics -/

theorem agc_gain_in_range {bw lo hi : F} {a0 : Agc F}
    (hnew : Agc.new bw lo hi = some a0) (hle : le lo hi = true) (ops : List (AgcOp F)) :
    ∃ a outs, agcRun a0 ops = some (a, outs) ∧
      le lo a.gain = true ∧ le a.gain hi = true ∧
      a.minGain = lo ∧ a.maxGain = hi ∧ a.bandwidth = a0.bandwidth := by
  obtain ⟨a, outs, h, hinv⟩ := agcInv_run hle ops a0 (agcInv_new hnew hle).1
  exact ⟨a, outs, h, hinv.lo_le, hinv.le_hi, hinv.minGain, hinv.maxGain, hinv.bandwidth⟩

/-- the converse: an AGC built with `min_gain > max_gain` panics on its first input -/
theorem agc_panics_when_min_gt_max {bw lo hi : F} {a0 : Agc F}
    (hnew : Agc.new bw lo hi = some a0) (hle : le lo hi = false) (x : F) (ops : List (AgcOp F)) :
    agcRun a0 (.input x :: ops) = none := by
  obtain ⟨bw', _, h⟩ := agc_new_some bw lo hi
  rw [h] at hnew; cases hnew
  have : Agc.input (⟨bw', lo, hi, false, Agc.initialGain lo hi⟩ : Agc F) x = none :=
    (agc_input_none_iff _ x).2 hle
  simp [agcRun, this]

/-! ### `reset` restores exactly the newly built AGC -/

theorem agc_reset_eq_new {bw lo hi : F} {a0 a : Agc F} {outs : List F}
    (hnew : Agc.new bw lo hi = some a0) (hle : le lo hi = true) (ops : List (AgcOp F))
    (hrun : agcRun a0 ops = some (a, outs)) : a.reset = a0 := by
  obtain ⟨h0, hl, hg⟩ := agcInv_new hnew hle
  obtain ⟨a', outs', h, hinv⟩ := agcInv_run hle ops a0 h0
  rw [h] at hrun; cases hrun
  exact agcInv_reset_eq h0 hl hg hinv

/-! ### the timing loop never panics; `period_avg` stays in `[period_min, period_max]` -/

/-- `TimingLoop::new` cannot panic (needs `0 ≤ 1/2`) -/
theorem tl_new_total (sps alpha beta maxDev : F) : ∃ l, TimingLoop.new sps alpha beta maxDev = some l := by
  obtain ⟨_, _, h⟩ := tl_new_some sps alpha beta maxDev
  exact ⟨_, h⟩

/-- `advance_loop` cannot panic when `period_min ≤ period_max`; the configuration is untouched -/
theorem tl_advance_total (l : TimingLoop F) (h : le l.periodMin l.periodMax = true) (o : F)
    (sym : Option (SymEst F)) :
    ∃ l', l.advance o sym = some l' ∧ l'.periodMin = l.periodMin ∧ l'.periodMax = l.periodMax ∧
      l'.samplesPerTed = l.samplesPerTed ∧ l'.alpha = l.alpha ∧ l'.beta = l.beta ∧ l'.ted = l.ted := by
  cases sym with
  | none =>
    obtain ⟨_, _, e⟩ := tl_advance_nosym l o
    exact ⟨_, e, rfl, rfl, rfl, rfl, rfl, rfl⟩
  | some s =>
    obtain ⟨_, _, _, _, _, _, e⟩ := tl_advance_sym l o s h
    exact ⟨_, e, rfl, rfl, rfl, rfl, rfl, rfl⟩

/-- `advance_loop` panics exactly when a symbol is ready and `period_min > period_max` -/
theorem tl_advance_none_iff (l : TimingLoop F) (o : F) (sym : Option (SymEst F)) :
    l.advance o sym = none ↔ (sym.isSome = true ∧ le l.periodMin l.periodMax = false) := by
  cases sym with
  | none =>
    obtain ⟨_, _, e⟩ := tl_advance_nosym l o
    simp [e]
  | some s =>
    cases h : le l.periodMin l.periodMax with
    | true =>
      obtain ⟨_, _, _, _, _, _, e⟩ := tl_advance_sym l o s h
      simp [e]
    | false =>
      obtain ⟨o', h1⟩ := clamp_isSome_of_le (x := o) (OrderLaws.neg_half_le_half (F := F))
      obtain ⟨err, h2⟩ := clamp_isSome_of_le (x := sub s.err (div o' l.samplesPerTed))
        (OrderLaws.neg_one_le_one (F := F))
      have h3 := (Dsp.clamp_none_iff (add l.periodAvg (mul l.beta err)) l.periodMin l.periodMax).2 h
      simp [TimingLoop.advance, h1, h2, h3]

/-- `TimingLoop::input` cannot panic when `period_min ≤ period_max`; the configuration is untouched -/
theorem tl_input_total (l : TimingLoop F) (h : le l.periodMin l.periodMax = true) (x o : F) :
    ∃ l' u sym, l.input x o = some (l', u, sym) ∧ u = l'.periodInst ∧ sym = (l.ted.input x).2 ∧
      l'.periodMin = l.periodMin ∧ l'.periodMax = l.periodMax ∧ l'.samplesPerTed = l.samplesPerTed := by
  obtain ⟨l', e, h1, h2, h3, _⟩ :=
    tl_advance_total { l with ted := (l.ted.input x).1 } h o (l.ted.input x).2
  refine ⟨l', l'.periodInst, (l.ted.input x).2, ?_, rfl, rfl, h1, h2, h3⟩
  unfold TimingLoop.input
  simp only [e, Option.map_some]

/-- whenever a symbol is processed the new `period_avg` is inside `[period_min, period_max]` -/
theorem tl_period_avg_in_range {l l' : TimingLoop F} {o : F} {s : SymEst F}
    (h : l.advance o (some s) = some l') :
    le l.periodMin l'.periodAvg = true ∧ le l'.periodAvg l.periodMax = true := by
  have hle : le l.periodMin l.periodMax = true := by
    cases hle : le l.periodMin l.periodMax with
    | true => rfl
    | false => rw [(tl_advance_none_iff l o (some s)).2 ⟨rfl, hle⟩] at h; cases h
  obtain ⟨_, _, avg, _, _, h3, e⟩ := tl_advance_sym l o s hle
  rw [e] at h; cases h
  exact (clamp_bounds' h3).2

/-- the invariant over arbitrary operation lists: from any state whose nominal period and running
    average are inside the limits, no operation ever panics, the configuration is constant and
    `period_avg` stays inside the limits -/
theorem tl_run_total {l : TimingLoop F}
    (h1 : le l.periodMin l.samplesPerTed = true) (h2 : le l.samplesPerTed l.periodMax = true)
    (h3 : le l.periodMin l.periodAvg = true) (h4 : le l.periodAvg l.periodMax = true)
    (ops : List (TlOp F)) :
    ∃ l' outs, tlRun l ops = some (l', outs) ∧
      l'.periodMin = l.periodMin ∧ l'.periodMax = l.periodMax ∧ l'.samplesPerTed = l.samplesPerTed ∧
      le l.periodMin l'.periodAvg = true ∧ le l'.periodAvg l.periodMax = true := by
  obtain ⟨l', outs, e, hinv⟩ := tl_run_inv h1 h2 ops l ⟨rfl, rfl, rfl, h3, h4⟩
  exact ⟨l', outs, e, hinv.periodMin, hinv.periodMax, hinv.samplesPerTed, hinv.min_le_avg, hinv.avg_le_max⟩

end TierA

/-! ### moving average and DC blocker: structure only (no laws at all) -/

section TierA'
variable {F : Type} [Arith F]

/-- `DCBlocker::new` panics exactly for length 0 -/
theorem dc_new_none_iff (len : Nat) : (DcBlock.new len : Option (DcBlock F)) = none ↔ len = 0 :=
  dc_new_none_iff' len

theorem movavg_new_none_iff (len : Nat) : (MovAvg.new len : Option (MovAvg F)) = none ↔ len = 0 := by
  unfold MovAvg.new; split <;> simp_all

/-- `filter` and `reset` preserve the window length -/
theorem movavg_window_length (m : MovAvg F) :
    m.reset.window.length = m.window.length ∧
    ∀ x m' y, m.filter x = some (m', y) → m'.window.length = m.window.length :=
  ⟨(movavg_reset_length m).1, fun _ _ _ h => (movavg_filter_length h).1⟩

/-- the `pop_front().unwrap()` panics exactly on an empty window -/
theorem movavg_filter_none_iff (m : MovAvg F) (x : F) : m.filter x = none ↔ m.window = [] := by
  cases hw : m.window with
  | nil => simp [MovAvg.filter, hw]
  | cons aged rest => simp [movavg_filter_cons m x aged rest hw]

/-- a moving average built by `new` never panics, whatever it is fed -/
theorem movavg_never_panics {len : Nat} {m0 : MovAvg F} (h : MovAvg.new len = some m0) (xs : List F) :
    ∃ m outs, movavgRun m0 xs = some (m, outs) ∧ m.window.length = len ∧ outs.length = xs.length := by
  obtain ⟨hl, rfl⟩ := movavg_new_eq_some_iff.1 h
  obtain ⟨m, outs, e, h1, _, h3⟩ := movavg_run_some xs
    (⟨List.replicate len zero, div one (ofNat len), zero⟩ : MovAvg F) (by simpa using hl)
  exact ⟨m, outs, e, by simpa using h1, h3⟩

/-- a DC blocker built by `new` never panics, whatever it is fed and whenever it is reset -/
theorem dc_never_panics {len : Nat} {d0 : DcBlock F} (h : DcBlock.new len = some d0)
    (xs : List (Option F)) :
    ∃ d outs, dcRun d0 xs = some (d, outs) ∧ d.ff.window.length = len ∧ d.fb.window.length = len := by
  obtain ⟨hl, hinv⟩ := dcInv_new h
  obtain ⟨d, outs, e, hd⟩ := dcInv_run hl xs d0 hinv
  exact ⟨d, outs, e, hd.ff_len, hd.fb_len⟩

/-- `reset` restores exactly the newly built DC blocker -/
theorem dc_reset_eq_new {len : Nat} {d0 d : DcBlock F} {outs : List F}
    (h : DcBlock.new len = some d0) (xs : List (Option F)) (hrun : dcRun d0 xs = some (d, outs)) :
    d.reset = d0 := by
  obtain ⟨hl, hinv⟩ := dcInv_new h
  obtain ⟨d', outs', e, hd⟩ := dcInv_run hl xs d0 hinv
  rw [e] at hrun; cases hrun
  rw [dcInv_reset_eq hd, (dc_new_eq_some_iff.1 h).2]

end TierA'

/-! ## Tier B: real-number semantics (`F = Rat`) -/

section TierB

/-! ### the sample clock always fires: no wedge -/

/-- For every value `u` returned by the timing loop the clock fires after a first `n ≥ 1` samples,
    `n < max 1 (u + 1/2) + 1`, and the remainder carried into the next interval is `< 1/2`
    (and `≥ -1/2` when `u ≥ 3/2`). -/
theorem clock_fires (u : Rat) :
    ∃ n : Nat, 1 ≤ n ∧
      (∀ fuel, n ≤ fuel → clockNext u fuel 1 = some n) ∧
      clockFires u n = true ∧
      (∀ m, 1 ≤ m → m < n → clockFires u m = false) ∧
      (n : Rat) < max 1 (u + 1 / 2) + 1 ∧
      clockRemaining u n < 1 / 2 ∧
      (3 / 2 ≤ u → -(1 / 2) ≤ clockRemaining u n) := by
  -- some `K ≥ 1` at which the clock fires
  have hK : clockFires u (u.ceil.toNat + 1) = true := by
    rw [clockFires_rat, natCast_succ_rat]
    have := le_natCast_ceil_toNat u
    grind
  obtain ⟨n, _, h1, _, hf, hmin⟩ :=
    clockNext_spec u (u.ceil.toNat + 1) 1 (u.ceil.toNat + 1) (by omega) (by omega) hK
  -- unless `n = 1`, the clock did not fire one sample earlier
  have hprev : n ≠ 1 → 1 / 2 ≤ u - ((n : Rat) - 1) := by
    intro hn
    have hp := (clockFires_rat_false u (n - 1)).1 (hmin (n - 1) (by omega) (by omega))
    have hc : ((n - 1 + 1 : Nat) : Rat) = ((n - 1 : Nat) : Rat) + 1 := natCast_succ_rat _
    rw [show n - 1 + 1 = n by omega] at hc
    grind
  refine ⟨n, h1, ?_, hf, hmin, ?_, ?_, ?_⟩
  · intro fuel hfuel
    obtain ⟨m, e, b1, b2, b3, _⟩ := clockNext_spec u fuel 1 n h1 (by omega) hf
    have : m = n := by
      by_cases hlt : m < n
      · rw [hmin m b1 hlt] at b3; cases b3
      · omega
    rw [e, this]
  · by_cases h1' : n = 1
    · subst h1'; have : (1 : Rat) ≤ max 1 (u + 1 / 2) := by grind
      grind
    · have hp := hprev h1'
      have : u + 1 / 2 ≤ max 1 (u + 1 / 2) := by grind
      grind
  · rw [clockRemaining_rat]; exact (clockFires_rat u n).1 hf
  · intro hu
    rw [clockRemaining_rat]
    have hn1 : n ≠ 1 := by
      intro e; subst e
      have := (clockFires_rat u 1).1 hf
      grind
    have hp := hprev hn1
    grind

/-- `clock_fires` with an upper bound `B ≥ 3/2` on `u`: the low-rate processing runs again after at
    most `B + 3/2` high-rate samples -/
theorem clock_no_wedge' (u B : Rat) (hu : u ≤ B) (hB : 1 / 2 ≤ B) :
    ∃ n : Nat, 1 ≤ n ∧ (∀ fuel, n ≤ fuel → clockNext u fuel 1 = some n) ∧ (n : Rat) < B + 3 / 2 := by
  obtain ⟨n, h1, h2, _, _, h3, _⟩ := clock_fires u
  refine ⟨n, h1, h2, ?_⟩
  have : max 1 (u + 1 / 2) ≤ B + 1 / 2 := by grind
  grind

example : clockNext (42 : Rat) 100 1 = some 42 := by decide +kernel
example : clockNext (42336269 / 1000000 : Rat) 100 1 = some 42 := by decide +kernel
example : clockNext (-3 : Rat) 100 1 = some 1 := by decide +kernel

/-! ### every timing loop that `new` builds has ordered, non-negative period limits -/

theorem tl_new_bounds (sps alpha beta maxDev : Rat) (h : 0 ≤ sps) :
    ∃ l, TimingLoop.new sps alpha beta maxDev = some l ∧
      l.samplesPerTed = sps / 2 ∧ l.periodAvg = sps / 2 ∧ l.periodInst = sps / 2 ∧
      l.alpha = alpha ∧ l.beta = beta ∧ l.ted = Ted.init ∧
      0 ≤ l.periodMin ∧ l.periodMin ≤ l.samplesPerTed ∧ l.samplesPerTed ≤ l.periodMax ∧
      l.periodMax ≤ sps ∧
      (0 ≤ maxDev → maxDev ≤ 1 / 2 →
        l.periodMin = sps / 2 - sps * maxDev ∧ l.periodMax = sps / 2 + sps * maxDev) := by
  obtain ⟨l, dev, e, d1, d2, d3, rfl, p1, p2⟩ := tl_new_rat sps alpha beta maxDev h
  refine ⟨_, e, rfl, rfl, rfl, rfl, rfl, rfl, ?_, ?_, ?_, ?_, ?_⟩ <;> dsimp only
  · grind
  · grind
  · grind
  · grind
  · intro a b; rw [d3 a b]; exact ⟨rfl, rfl⟩

/-- a timing loop built by `new` (non-negative samples per symbol) never panics, whatever the
    inputs, resets and bandwidth changes -/
theorem tl_never_panics {sps alpha beta maxDev : Rat} {l0 : TimingLoop Rat} (h : 0 ≤ sps)
    (hnew : TimingLoop.new sps alpha beta maxDev = some l0) (ops : List (TlOp Rat)) :
    ∃ l outs, tlRun l0 ops = some (l, outs) ∧
      l.periodMin = l0.periodMin ∧ l.periodMax = l0.periodMax ∧ l.samplesPerTed = l0.samplesPerTed ∧
      l0.periodMin ≤ l.periodAvg ∧ l.periodAvg ≤ l0.periodMax := by
  obtain ⟨l, e, h1, h2, _, _, _, _, _, h3, h4, _⟩ := tl_new_bounds sps alpha beta maxDev h
  rw [e] at hnew; cases hnew
  obtain ⟨l', outs, e', a, b, c, d1, d2⟩ := tl_run_total (l := l0)
    ((rat_le_iff _ _).2 h3) ((rat_le_iff _ _).2 h4)
    ((rat_le_iff _ _).2 (h2 ▸ h1 ▸ h3)) ((rat_le_iff _ _).2 (h2 ▸ h1 ▸ h4)) ops
  exact ⟨l', outs, e', a, b, c, (rat_le_iff _ _).1 d1, (rat_le_iff _ _).1 d2⟩

/-- without `0 ≤ sps` the limits are reversed and the first symbol panics -/
example : (TimingLoop.new (-4 : Rat) 0 0 (1 / 4)).isSome = true ∧
    ((TimingLoop.new (-4 : Rat) 0 0 (1 / 4)).bind fun l0 => tlRun l0 [.input 1 0]).isNone = true := by
  decide +kernel

/-! ### the value handed to the sample clock is bounded: per step -/

/-- the TED yields a symbol exactly when its new counter is 1, and the counter alternates -/
theorem ted_alternates {F : Type} [Arith F] (t : Ted F) (x : F) :
    (t.input x).1.counter = (t.counter + 1) % 2 ∧
    ((t.input x).2.isSome = true ↔ (t.input x).1.counter = 1) ∧
    (Ted.init : Ted F).counter = 0 :=
  ⟨ted_input_counter t x, ted_input_isSome t x, rfl⟩

/-- from the reset state the TED yields a symbol on the 1st, 3rd, 5th … sample and nothing in
    between (`samples_per_ted` is half a symbol: two TED inputs per symbol) -/
theorem ted_run_alternates {F : Type} [Arith F] (xs : List F) :
    (tedRun (Ted.init : Ted F) xs).1.counter = xs.length % 2 ∧
    (tedRun (Ted.init : Ted F) xs).2.length = xs.length ∧
    ∀ k, k < xs.length → ∃ o, (tedRun (Ted.init : Ted F) xs).2[k]? = some o ∧
      (o.isSome = true ↔ k % 2 = 0) := by
  obtain ⟨h1, h2, h3⟩ := ted_run_spec xs (Ted.init : Ted F) (by simp [Ted.init])
  refine ⟨by simpa [Ted.init] using h1, h2, ?_⟩
  intro k hk
  obtain ⟨o, e, ho⟩ := h3 k hk
  exact ⟨o, e, by simpa [Ted.init] using ho⟩

/-- when a symbol was processed, `input` returns a value in `[0, period_max + |alpha| + 1/2]` -/
theorem tl_period_inst_bounds {l l' : TimingLoop Rat} {x o u : Rat} {s : SymEst Rat}
    (h0 : 0 ≤ l.periodMin) (hle : l.periodMin ≤ l.periodMax)
    (h : l.input x o = some (l', u, some s)) :
    u = l'.periodInst ∧ 0 ≤ u ∧ u ≤ l.periodMax + l.alpha.abs + 1 / 2 := by
  obtain ⟨_, rfl, e⟩ := tl_input_eq_some h
  obtain ⟨avg, inst, e', _, _, a3, a4⟩ := tl_advance_sym_rat { l with ted := (l.ted.input x).1 } o s h0 hle
  cases e'.symm.trans e
  exact ⟨rfl, a3, a4⟩

/-- when no symbol was processed, `input` returns the previous value plus the offset limited to ±1/2 -/
theorem tl_period_inst_step {l l' : TimingLoop Rat} {x o u : Rat}
    (h : l.input x o = some (l', u, none)) :
    u = l'.periodInst ∧ ∃ o', -(1 / 2) ≤ o' ∧ o' ≤ 1 / 2 ∧ (-(1 / 2) ≤ o → o ≤ 1 / 2 → o' = o) ∧
      u = l.periodInst + o' := by
  obtain ⟨_, rfl, e⟩ := tl_input_eq_some h
  obtain ⟨o', a1, a2, a3, e'⟩ := tl_advance_nosym_rat { l with ted := (l.ted.input x).1 } o
  cases e'.symm.trans e
  exact ⟨rfl, o', a1, a2, a3, rfl⟩

/-- a newly built loop (`sps ≥ 0`) satisfies the rational invariant with its own period limits -/
theorem tlRInv_new {sps alpha beta maxDev A : Rat} {l0 : TimingLoop Rat} (h : 0 ≤ sps)
    (hnew : TimingLoop.new sps alpha beta maxDev = some l0) (hA : alpha.abs ≤ A) :
    TlRInv l0.samplesPerTed l0.periodMin l0.periodMax A l0 := by
  obtain ⟨l, e, h1, h2, _, h5, _, h6, _, h3, h4, _⟩ := tl_new_bounds sps alpha beta maxDev h
  rw [e] at hnew; cases hnew
  exact ⟨⟨rfl, rfl, rfl, (rat_le_iff _ _).2 (h2 ▸ h1 ▸ h3), (rat_le_iff _ _).2 (h2 ▸ h1 ▸ h4)⟩,
    h5 ▸ hA, by rw [h6]; decide, by rw [h6]; intro hc; cases hc⟩

/-! ### combined with the alternation: every value ever returned by `input` is bounded -/

/-- Along any list of inputs, resets and bandwidth changes from a newly built loop (`sps ≥ 0`), with
    `A` a bound on `|alpha|` of all gains in force: the loop never panics and every value returned by
    `input` lies in `[-1/2, period_max + A + 1]` (in `[0, period_max + A + 1/2]` when a symbol was
    produced). -/
theorem tl_input_bounds {sps alpha beta maxDev A : Rat} {l0 : TimingLoop Rat} (h : 0 ≤ sps)
    (hnew : TimingLoop.new sps alpha beta maxDev = some l0) (hA : alpha.abs ≤ A)
    (ops : List (TlOp Rat)) (hops : ∀ op ∈ ops, TlOp.gainBounded A op) :
    ∃ l outs, tlRun l0 ops = some (l, outs) ∧
      ∀ p ∈ outs, -(1 / 2) ≤ p.1 ∧ p.1 ≤ l0.periodMax + A + 1 ∧
        (p.2.isSome = true → 0 ≤ p.1 ∧ p.1 ≤ l0.periodMax + A + 1 / 2) := by
  have hinv := tlRInv_new h hnew hA
  obtain ⟨l, e, _, _, _, _, _, _, h7, h3, h4, _⟩ := tl_new_bounds sps alpha beta maxDev h
  rw [e] at hnew; cases hnew
  obtain ⟨l', outs, e', _, hout⟩ := tlR_run h7 h3 h4 ops l0 hinv hops
  exact ⟨l', outs, e', hout⟩

/-- **No wedge of the sample clock**: after every call of `input` the low-rate processing runs again
    after a first `n ≥ 1` high-rate samples with `n < period_max + A + 5/2`. -/
theorem clock_no_wedge {sps alpha beta maxDev A : Rat} {l0 l : TimingLoop Rat}
    {outs : List (Rat × Option (SymEst Rat))} (h : 0 ≤ sps)
    (hnew : TimingLoop.new sps alpha beta maxDev = some l0) (hA : alpha.abs ≤ A)
    (ops : List (TlOp Rat)) (hops : ∀ op ∈ ops, TlOp.gainBounded A op)
    (hrun : tlRun l0 ops = some (l, outs)) :
    ∀ p ∈ outs, ∃ n : Nat, 1 ≤ n ∧ (∀ fuel, n ≤ fuel → clockNext p.1 fuel 1 = some n) ∧
      (n : Rat) < l0.periodMax + A + 5 / 2 := by
  obtain ⟨l', outs', e, hout⟩ := tl_input_bounds h hnew hA ops hops
  rw [e] at hrun; cases hrun
  obtain ⟨_, e0, _, _, _, _, _, _, h7, h3, h4, _⟩ := tl_new_bounds sps alpha beta maxDev h
  rw [e0] at hnew; cases hnew
  have hA0 : 0 ≤ A := Rat.le_trans Rat.abs_nonneg hA
  intro p hp
  obtain ⟨_, b, _⟩ := hout p hp
  obtain ⟨n, n1, n2, n3⟩ := clock_no_wedge' p.1 (l0.periodMax + A + 1) b (by grind)
  exact ⟨n, n1, n2, by grind⟩

/-! ### the AGC output and the locked AGC -/

/-- the output sample is always the input times the gain *before* the update (any number type) -/
theorem agc_output_eq {F : Type} [Arith F] {a a' : Agc F} {x y : F} (h : a.input x = some (a', y)) :
    y = mul x a.gain ∧ a'.minGain = a.minGain ∧ a'.maxGain = a.maxGain ∧
      a'.bandwidth = a.bandwidth ∧ a'.locked = a.locked :=
  Dsp.agc_output_eq h

/-- a locked AGC whose gain is inside its limits is frozen: the state does not change at all -/
theorem agc_locked_gain_frozen {a : Agc Rat} (hl : a.locked = true)
    (h1 : a.minGain ≤ a.gain) (h2 : a.gain ≤ a.maxGain) (x : Rat) :
    a.input x = some (a, x * a.gain) := by
  obtain ⟨y, e, _, _, hy⟩ := clamp_rat (x := a.gain) (Rat.le_trans h1 h2)
  have hy := hy h1 h2; subst hy
  have hg : add a.gain (mul (mul (ofBool (!a.locked)) (sub one (abs (mul x a.gain)))) a.bandwidth)
      = a.gain := by
    simp only [hl, ofBool, rat_add, rat_mul, rat_zero]
    grind
  unfold Agc.input
  dsimp only
  rw [hg, e]
  rfl

/-! ### the moving average is exact -/

/-- After feeding `xs` to a new moving average of length `len`: the window holds the last `len`
    inputs (zero-padded), `sum` is exactly the window's sum, the `k`-th returned average is the sum of
    the `len` inputs up to `xs[k]` times `1/len`, and the second output is the input delayed by
    `len - 1` samples (zero-padded). -/
theorem movavg_exact {len : Nat} {m0 : MovAvg Rat} (h : MovAvg.new len = some m0) (xs : List Rat) :
    ∃ m outs, movavgRun m0 xs = some (m, outs) ∧
      m.window = (List.replicate len 0 ++ xs).drop xs.length ∧
      m.sum = m.window.sum ∧
      outs.length = xs.length ∧
      ∀ k, k < xs.length → outs[k]? =
        some ((((List.replicate len 0 ++ xs).drop (k + 1)).take len).sum * (1 / (len : Rat)),
              ((List.replicate (len - 1) 0 ++ xs)[k]?).getD 0) := by
  obtain ⟨hl, rfl⟩ := movavg_new_eq_some_iff.1 h
  obtain ⟨m, outs, e, w, s', _, l, o⟩ := movavg_run_exact xs
    (⟨List.replicate len zero, div one (ofNat len), zero⟩ : MovAvg Rat) (by simpa using hl)
    (movGood_new len).sum
  refine ⟨m, outs, e, w, s', l, ?_⟩
  intro k hk
  rw [o k hk]
  obtain ⟨n, rfl⟩ : ∃ n, len = n + 1 := ⟨len - 1, by omega⟩
  simp [List.replicate_succ]

example : ∃ m0 : MovAvg Rat, MovAvg.new 3 = some m0 ∧
    (movavgRun m0 [3, 6, 9, 12]).map (·.2) = some [(1, 0), (3, 0), (6, 3), (9, 6)] :=
  ⟨_, rfl, by decide +kernel⟩

/-! ### the DC blocker -/

/-- a DC blocker of length 1 is a no-op: the outputs are the inputs (resets, `none`, change nothing) -/
theorem dc_len1_identity {d0 : DcBlock Rat} (h : DcBlock.new 1 = some d0) (xs : List (Option Rat)) :
    ∃ d, dcRun d0 xs = some (d, xs.filterMap id) := by
  obtain ⟨_, hinv⟩ := dcInv_new h
  obtain ⟨d, e, _⟩ := dc_len1_run xs d0 hinv
  exact ⟨d, e⟩

/-- a DC blocker of length `len > 1` removes a constant exactly: from the initial state every output
    from the `(2*len - 1)`-th on is `0` -/
theorem dc_removes_constant {len : Nat} {d0 : DcBlock Rat} (h : DcBlock.new len = some d0)
    (hl : 1 < len) (c : Rat) (k : Nat) :
    ∃ d outs, dcRun d0 (List.replicate k (some c)) = some (d, outs) ∧ outs.length = k ∧
      (∀ i, 2 * len - 2 ≤ i → i < k → outs[i]? = some 0) ∧
      (2 * len - 1 ≤ k → outs.getLast? = some 0) := by
  obtain ⟨_, rfl⟩ := dc_new_eq_some_iff.1 h
  obtain ⟨d, outs, e, _, l, o⟩ := dcConst_run (by omega) (Or.inl hl) k 0 _
    (dcConst_start (d := ⟨_, _⟩) (movGood_new len) (movGood_new len) c)
  refine ⟨d, outs, e, l, fun i h1 h2 => o i h2 (by omega), ?_⟩
  intro hk
  rw [List.getLast?_eq_getElem?, l]
  exact o (k - 1) (by omega) (by omega)

example : ∃ d0 : DcBlock Rat, DcBlock.new 3 = some d0 ∧
    (dcRun d0 (List.replicate 6 (some 7))).map (·.2) = some [-7 / 9, -7 / 3, 7 / 3, 7 / 9, 0, 0] :=
  ⟨_, rfl, by decide +kernel⟩

/-! ### non-vacuity: the general theorems at the values the receiver uses -/

/-- `agc_gain_in_range` at the default AGC limits `[1/32767, 1/200]` (bandwidth 1/100) and a concrete op list -/
example : ∃ a0 a outs, Agc.new (1 / 100 : Rat) (1 / 32767) (1 / 200) = some a0 ∧
    agcRun a0 [.input 20000, .lock true, .input (-3), .reset, .lock false, .input 0] = some (a, outs) ∧
    1 / 32767 ≤ a.gain ∧ a.gain ≤ 1 / 200 := by
  obtain ⟨a0, h0⟩ := agc_new_total (1 / 100 : Rat) (1 / 32767) (1 / 200)
  obtain ⟨a, outs, e, h1, h2, _⟩ := agc_gain_in_range h0 (by decide +kernel)
    [.input 20000, .lock true, .input (-3), .reset, .lock false, .input 0]
  exact ⟨a0, a, outs, h0, e, (rat_le_iff _ _).1 h1, (rat_le_iff _ _).1 h2⟩

/-- the converse at swapped limits: the first input panics -/
example : ∃ a0, Agc.new (1 / 100 : Rat) (1 / 200) (1 / 32767) = some a0 ∧
    agcRun a0 [.input 1] = none := by
  obtain ⟨a0, h0⟩ := agc_new_total (1 / 100 : Rat) (1 / 200) (1 / 32767)
  exact ⟨a0, h0, agc_panics_when_min_gt_max h0 (by decide +kernel) 1 []⟩

/-- `tl_new_bounds`, `tl_input_bounds` and `clock_no_wedge` at 22050 Hz: `sps = 22050 / 520.83`, `max_deviation = 0.125`, with `|alpha| ≤ 1` -/
example (alpha beta : Rat) (hA : alpha.abs ≤ 1) (ops : List (TlOp Rat))
    (hops : ∀ op ∈ ops, TlOp.gainBounded 1 op) :
    ∃ l0 l outs, TimingLoop.new (2205000 / 52083) alpha beta (1 / 8) = some l0 ∧
      l0.periodMax = 2205000 / 52083 / 2 + 2205000 / 52083 * (1 / 8) ∧
      tlRun l0 ops = some (l, outs) ∧
      ∀ p ∈ outs, -(1 / 2) ≤ p.1 ∧ p.1 ≤ l0.periodMax + 1 + 1 ∧
        ∃ n : Nat, 1 ≤ n ∧ (∀ fuel, n ≤ fuel → clockNext p.1 fuel 1 = some n) ∧ n ≤ 29 := by
  have hs : (0 : Rat) ≤ 2205000 / 52083 := by decide +kernel
  obtain ⟨l0, e0, _, _, _, _, _, _, _, _, _, _, hd⟩ := tl_new_bounds (2205000 / 52083) alpha beta (1 / 8) hs
  obtain ⟨_, hmax⟩ := hd (by decide +kernel) (by decide +kernel)
  obtain ⟨l, outs, e, hb⟩ := tl_input_bounds hs e0 hA ops hops
  refine ⟨l0, l, outs, e0, hmax, e, ?_⟩
  intro p hp
  obtain ⟨b1, b2, _⟩ := hb p hp
  obtain ⟨n, n1, n2, n3⟩ := clock_no_wedge hs e0 hA ops hops e p hp
  refine ⟨b1, b2, n, n1, n2, ?_⟩
  rw [hmax] at n3
  have : (n : Rat) < ((30 : Nat) : Rat) := by
    have : (2205000 / 52083 / 2 + 2205000 / 52083 * (1 / 8) + 1 + 5 / 2 : Rat) ≤ ((30 : Nat) : Rat) := by
      decide +kernel
    grind
  have := Rat.natCast_lt_natCast.1 this
  omega

end TierB

end SameVerif.DspThm
