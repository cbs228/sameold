/-
  Theorems about the whole-receiver model (`Model/FullRx.lean`): `SameReceiver::process()` sample
  by sample, float front end included.

  G1  `lstep` looks at the equalizer's byte only at byte ticks.
  G2  one symbol of the whole-receiver model is exactly one `lstep` then one `rTick`, on the
      observation `obsOf` and byte `byteOf` the float part produced (refinement, symbol level).
  G3  a whole run's event list IS the event list of the discrete chain (`chain` of
      Model/Chain.lean: `lrun` then `rRun`) on the tick stream the float part produced
      (`FullRx.trace`); hence every theorem about `chain` applies to whole-receiver runs whose
      derived tick stream meets its hypotheses (`run_stream_decoded`: `Chain.stream_decoded`).
  G4  the whole receiver never panics (generic in `F` under `OrderLaws F`); `FullRx.new` panics
      exactly for `dcLen = 0`.
  G5  the input sample counter and the event timestamps.

  Helper definitions (`obsOf`, `byteOf`, `front`, `trace`, `stampedTicks`, `stampsOf`, `RxInv`) and
  lemmas are in Lemmas/FullRxFacts.lean.  Nothing here is about `Float32` rounding: the float
  part is generic in `F`, and G1–G3, G5 need no law about `F` at all.
-/
import SameVerif.Lemmas.FullRxFacts
import SameVerif.Thm.Dsp
import SameVerif.Thm.ChainR

namespace SameVerif.FullRxThm

open SameVerif SameVerif.Dsp Arith

/-! ## G1 `lstep` ignores the byte off byte ticks -/

/-- whether a tick is a byte tick, and its resync flag, do not depend on the byte -/
theorem lstep_bytetick_indep (c : LCfg) (s : LState) (o : Obs) (b b' : Byte) :
    (lstep c s o b).2.2 = (lstep c s o b').2.2 :=
  SameVerif.lstep_bytetick_indep c s o b b'

/-- off byte ticks the byte is not looked at, at all -/
theorem lstep_byte_irrelevant (c : LCfg) (s : LState) (o : Obs) (b b' : Byte) :
    (lstep c s o b).2.2 = none → lstep c s o b' = lstep c s o b :=
  SameVerif.lstep_byte_irrelevant c s o b b'

theorem lstep_nsym (c : LCfg) (s : LState) (o : Obs) (b : Byte) :
    (lstep c s o b).1.nsym = s.nsym + 1 :=
  SameVerif.lstep_nsym c s o b

section Generic
variable {F : Type} [Arith F]

/-! ## G2 symbol level: the whole-receiver model refines the discrete chain -/

/-- One symbol of the whole-receiver model is one `lstep` on `(obsOf, byteOf)` followed by one
    `rTick` on the input sample counter, the new symbol count and the reported link state; the
    configuration and the input sample counter are untouched. -/
theorem symbol_refines (r : FullRx F) (s : SymEst F) :
    (r.symbol s).1.link = (lstep r.cfg.lcfg r.link (r.obsOf s) (r.byteOf s)).1 ∧
    (r.symbol s).2 = (rTick r.cfg.rate r.rx r.inputCounter
      (lstep r.cfg.lcfg r.link (r.obsOf s) (r.byteOf s)).1.nsym
      (lstep r.cfg.lcfg r.link (r.obsOf s) (r.byteOf s)).2.1).2 ∧
    (r.symbol s).1.rx = (rTick r.cfg.rate r.rx r.inputCounter
      (lstep r.cfg.lcfg r.link (r.obsOf s) (r.byteOf s)).1.nsym
      (lstep r.cfg.lcfg r.link (r.obsOf s) (r.byteOf s)).2.1).1 ∧
    (r.symbol s).1.cfg = r.cfg ∧ (r.symbol s).1.inputCounter = r.inputCounter :=
  FullRx.symbol_refines r s

/-- `byteOf` is the equalizer's byte exactly at byte ticks -/
theorem byteOf_eq (r : FullRx F) (s : SymEst F) :
    r.byteOf s =
      match (lstep r.cfg.lcfg r.link (r.obsOf s) (r.byteOf s)).2.2 with
      | none => 0
      | some adjusted => ((r.eqAt adjusted).input ((r.histOf s).take 16)).2 := by
  rw [SameVerif.lstep_bytetick_indep r.cfg.lcfg r.link (r.obsOf s) (r.byteOf s) 0]
  rfl

end Generic

section Run
variable {F : Type} [Arith F] [Hypot F]

/-! ## G5 the input sample counter and the event timestamps -/

/-- every sample increments the input sample counter by one, and every event pushed while the
    sample is processed carries the new value (`Event.stamp`) -/
theorem sample_counter {r r' : FullRx F} {x : F} {evs : List Event}
    (h : r.sample x = some (r', evs)) :
    r'.inputCounter = r.inputCounter + 1 ∧ ∀ e ∈ evs, e.stamp = r.inputCounter + 1 :=
  FullRx.sample_counter h

/-- over a run: the counter advances by the number of samples, every timestamp is in
    `(counter before, counter after]`, and timestamps are non-decreasing -/
theorem run_timestamps {r r' : FullRx F} {xs : List F} {evs : List Event}
    (h : FullRx.run r xs = some (r', evs)) :
    r'.inputCounter = r.inputCounter + xs.length ∧
    (∀ e ∈ evs, r.inputCounter < e.stamp ∧ e.stamp ≤ r.inputCounter + xs.length) ∧
    evs.Pairwise (fun a b => a.stamp ≤ b.stamp) :=
  FullRx.run_timestamps xs r r' evs h

/-! ## G3 run level: the events of a whole run are the events of the discrete chain -/

/-- one sample: either nothing reaches the discrete part, or exactly one tick `tickAt` does -/
theorem sample_refines {r r' : FullRx F} {x : F} {evs : List Event}
    (h : r.sample x = some (r', evs)) :
    (r.tickAt x).length ≤ 1 ∧ r'.cfg = r.cfg ∧
    evs = (rRun r.cfg.rate r.rx (stampedTicks r.cfg.lcfg r.link (r.tickAt x))).2 ∧
    r'.rx = (rRun r.cfg.rate r.rx (stampedTicks r.cfg.lcfg r.link (r.tickAt x))).1 ∧
    r'.link = lrunState r.cfg.lcfg r.link ((r.tickAt x).map (·.2)) := by
  refine ⟨?_, FullRx.sample_refines h⟩
  unfold FullRx.tickAt
  split
  · exact Nat.le_refl 1
  · exact Nat.zero_le 1

/-- **The whole-receiver model refines the discrete chain.**  The event list of a run that does not
    panic is `chain` (Model/Chain.lean: `lrun`, then `rRun` on `mkTicks`) on the tick stream
    `tr.map (·.2)` the float part produced, from the run's initial link and receiver states; tick `i`
    carries the stamp `stampsOf tr i` and the symbol count `r.link.nsym + 1 + i`. -/
theorem run_refines_chain {r r' : FullRx F} {xs : List F} {evs : List Event}
    (h : FullRx.run r xs = some (r', evs)) :
    ∃ tr, FullRx.trace r xs = some (r', tr) ∧
      evs = chain r.cfg.lcfg r.cfg.rate r.link r.rx r.link.nsym (stampsOf tr) (tr.map (·.2)) ∧
      r'.link = lrunState r.cfg.lcfg r.link (tr.map (·.2)) ∧
      r'.rx = (rRun r.cfg.rate r.rx
        (chainTicks r.cfg.lcfg r.link r.link.nsym (stampsOf tr) (tr.map (·.2)))).1 ∧
      r'.cfg = r.cfg := by
  obtain ⟨tr, t, c, e, x, l⟩ := FullRx.run_trace xs r r' evs h
  rw [stampedTicks_eq] at e x
  exact ⟨tr, t, e, l, x, c⟩

/-- the same, with the receiver ticks spelled out tick by tick (`stampedTicks`: the stamp, the
    symbol count after `lstep`, the link state `lstep` reported) instead of through `mkTicks` -/
theorem run_refines_chain' {r r' : FullRx F} {xs : List F} {evs : List Event}
    (h : FullRx.run r xs = some (r', evs)) :
    ∃ tr, FullRx.trace r xs = some (r', tr) ∧
      evs = (rRun r.cfg.rate r.rx (stampedTicks r.cfg.lcfg r.link tr)).2 ∧
      r'.rx = (rRun r.cfg.rate r.rx (stampedTicks r.cfg.lcfg r.link tr)).1 ∧
      r'.link = lrunState r.cfg.lcfg r.link (tr.map (·.2)) := by
  obtain ⟨tr, t, _, e, x, l⟩ := FullRx.run_trace xs r r' evs h
  exact ⟨tr, t, e, x, l⟩

theorem trace_stamps {r r' : FullRx F} {xs : List F} {tr : List (Nat × Tick)}
    (h : FullRx.trace r xs = some (r', tr)) :
    (∀ p ∈ tr, r.inputCounter < p.1 ∧ p.1 ≤ r.inputCounter + xs.length) ∧
    tr.Pairwise (fun a b => a.1 < b.1) ∧ tr.length ≤ xs.length :=
  FullRx.trace_stamps xs r r' tr h

theorem run_message_events {r r' : FullRx F} {xs : List F} {evs : List Event}
    (h : FullRx.run r xs = some (r', evs)) :
    ∃ tr, FullRx.trace r xs = some (r', tr) ∧
      msgEvents evs
        = msgEvents (chain r.cfg.lcfg r.cfg.rate r.link r.rx r.link.nsym (stampsOf tr) (tr.map (·.2))) := by
  obtain ⟨tr, t, e, _⟩ := run_refines_chain h
  exact ⟨tr, t, by rw [e]⟩

end Run

/-! ## G3, composed: an existing chain theorem, about whole-receiver runs -/

section Composed
variable {F : Type} [Arith F] [Hypot F]
open SameVerif.Spec SameVerif.Asm SameVerif.Chain

/-- **`Chain.stream_decoded` for the whole receiver.**  A receiver built by `FullRx.new` runs over
    the samples `xs` without panic.  If the tick stream its float part produced (`FullRx.trace`)
    meets `Spec.StreamObserved` for three bursts of one canonical header `H` followed by the hold
    time, the bursts fit the assembler's window, the forced end-of-message timer cannot fire within
    the run, and the (unconstrained) tail bytes do not forge a dash, then the run's events contain
    exactly one message event: StartOfMessage with text exactly `H`, stamped with the input sample
    counter of one of the symbol ticks. -/
theorem run_stream_decoded {cfg : RxCfg F} {r0 r' : FullRx F} {xs : List F} {evs : List Event}
    (hnew : FullRx.new cfg = some r0) (hrun : FullRx.run r0 xs = some (r', evs))
    (hE : cfg.lcfg.maxErrors ≤ 6) (hP : cfg.lcfg.fc.maxPrefixErr ≤ 7)
    (smax : Nat) (H : List Byte) (off : Nat)
    (hcan : checkHeader H = some (off, H.length))
    (hall : ∀ b ∈ H, isAllowed b = true)
    (hfits : H.length ≤ Gen.MAX_BURST_LENGTH) :
    ∃ tr, FullRx.trace r0 xs = some (r', tr) ∧
      ∀ (g1 g2 g3 : BurstSpec),
        g1.payload = H → g2.payload = H → g3.payload = H →
        StreamObserved cfg.lcfg.maxErrors (tr.map (·.2)) [g1, g2, g3] →
        g3.stop + HOLD ≤ (tr.map (·.2)).length →
        g3.stop ≤ g1.e + HIST →
        (∀ t1 t2 t3, t1.length ≤ (g1.rel + 7) / 8 → t2.length ≤ (g2.rel + 7) / 8 →
          t3.length ≤ (g3.rel + 7) / 8 →
          lrunBursts cfg.lcfg {} (tr.map (·.2)) = [H ++ t1, H ++ t2, H ++ t3] → TailsNoDash H t1 t2 t3) →
        (∀ i, i < (tr.map (·.2)).length →
          stampsOf tr i ≤ smax ∧ smax ≤ stampsOf tr i + TIMEOUT cfg.rate) →
        DecodedOnce evs (stampsOf tr) (tr.map (·.2)).length H off := by
  obtain ⟨hc, hl, hr, _⟩ := FullRx.new_fields hnew
  obtain ⟨tr, t, e, _⟩ := run_refines_chain hrun
  refine ⟨tr, t, ?_⟩
  intro g1 g2 g3 hp1 hp2 hp3 hobs hqlen hspan htails hsamp
  rw [e, hc, hl, hr]
  exact stream_decoded cfg.lcfg hE hP cfg.rate _ smax (stampsOf tr) H off hcan hall hfits (tr.map (·.2))
    g1 g2 g3 hp1 hp2 hp3 hobs hqlen hspan htails hsamp

end Composed

/-! ## G4 the whole receiver never panics -/

section NeverPanics
variable {F : Type} [Arith F] [OrderLaws F]

/-- `SameReceiver::from(&builder)` panics exactly when the DC blocker's length is 0 (every other
    constructor is total: their `clamp` limits are `0 ≤ 1` and `0 ≤ 1/2`) -/
theorem fullrx_new_none_iff (cfg : RxCfg F) : FullRx.new cfg = none ↔ cfg.dcLen = 0 :=
  FullRx.new_none_iff cfg

/-- **C17/C10 at model level.**  A receiver that `new` built with `agc_min ≤ agc_max` and a timing
    loop whose nominal period is inside its limits never panics, whatever samples it is fed; the
    DC windows keep their length, the AGC and loop limits stay as built, the AGC gain and the
    loop's average period stay inside their limits. -/
theorem fullrx_never_panics' [Hypot F] {cfg : RxCfg F} {r0 : FullRx F}
    (hnew : FullRx.new cfg = some r0) (hle : le cfg.agcMin cfg.agcMax = true)
    (h1 : le r0.tl.periodMin r0.tl.samplesPerTed = true)
    (h2 : le r0.tl.samplesPerTed r0.tl.periodMax = true) (xs : List F) :
    ∃ r evs, FullRx.run r0 xs = some (r, evs) ∧
      RxInv cfg.dcLen cfg.agcMin cfg.agcMax r0.agc.bandwidth
        r0.tl.samplesPerTed r0.tl.periodMin r0.tl.periodMax r := by
  obtain ⟨hl, hinv⟩ := FullRx.new_inv hnew hle h1 h2
  exact FullRx.run_total hl hle h1 h2 xs r0 hinv

theorem fullrx_never_panics [Hypot F] {cfg : RxCfg F} {r0 : FullRx F}
    (hnew : FullRx.new cfg = some r0) (hle : le cfg.agcMin cfg.agcMax = true)
    (htl : le r0.tl.periodMin r0.tl.samplesPerTed = true ∧
      le r0.tl.samplesPerTed r0.tl.periodMax = true) (xs : List F) :
    FullRx.run r0 xs ≠ none := by
  obtain ⟨r, evs, e, _⟩ := fullrx_never_panics' hnew hle htl.1 htl.2 xs
  rw [e]; exact Option.some_ne_none _

/-- the AGC hypothesis cannot be dropped: built with `agc_min > agc_max`, the first sample panics -/
theorem fullrx_panics_when_agc_reversed [Hypot F] {cfg : RxCfg F} {r0 : FullRx F}
    (hnew : FullRx.new cfg = some r0) (hle : le cfg.agcMin cfg.agcMax = false) (x : F) (xs : List F) :
    FullRx.run r0 (x :: xs) = none := by
  obtain ⟨_, _, _, _, hdc, hagc, _⟩ := FullRx.new_fields hnew
  obtain ⟨_, _, e⟩ := agc_new_some cfg.agcBw cfg.agcMin cfg.agcMax
  rw [e] at hagc
  have hin : ∀ y, r0.agc.input y = none := fun y => by
    rw [agc_input_none_iff', ← Option.some.inj hagc]; exact hle
  have hf : r0.front x = none := by
    cases hf : r0.front x with
    | none => rfl
    | some p =>
      obtain ⟨_, y, _, _, _, e2, _⟩ := FullRx.front_eq_some_iff.1 hf
      rw [hin y] at e2; cases e2
  rw [FullRx.run, FullRx.sample_eq, hf]
  rfl

end NeverPanics

/-! ### over the rationals: `0 ≤ sps` and `agc_min ≤ agc_max` suffice -/

/-- `0 ≤ sps`: the nominal period of the loop `new` builds is inside its limits -/
theorem new_tl_ordered_rat {cfg : RxCfg Rat} {r0 : FullRx Rat} (hnew : FullRx.new cfg = some r0)
    (hsps : 0 ≤ cfg.sps) :
    le r0.tl.periodMin r0.tl.samplesPerTed = true ∧ le r0.tl.samplesPerTed r0.tl.periodMax = true := by
  obtain ⟨_, _, _, _, _, _, htl⟩ := FullRx.new_fields hnew
  obtain ⟨l, e, _, _, _, _, _, _, _, b1, b2, _⟩ :=
    DspThm.tl_new_bounds cfg.sps cfg.alphaU cfg.betaU cfg.maxDev hsps
  rw [e] at htl; cases htl
  exact ⟨(rat_le_iff _ _).2 b1, (rat_le_iff _ _).2 b2⟩

theorem fullrx_never_panics_rat [Hypot Rat] {cfg : RxCfg Rat} {r0 : FullRx Rat}
    (hnew : FullRx.new cfg = some r0) (hsps : 0 ≤ cfg.sps) (hagc : cfg.agcMin ≤ cfg.agcMax)
    (xs : List Rat) : FullRx.run r0 xs ≠ none :=
  fullrx_never_panics hnew ((rat_le_iff _ _).2 hagc) (new_tl_ordered_rat hnew hsps) xs

theorem fullrx_new_rat {cfg : RxCfg Rat} (h : cfg.dcLen ≠ 0) : ∃ r0, FullRx.new cfg = some r0 := by
  cases hn : FullRx.new cfg with
  | none => exact absurd ((fullrx_new_none_iff cfg).1 hn) h
  | some r0 => exact ⟨r0, rfl⟩

/-! ## non-vacuity: a concrete small receiver over `Rat` -/

section Demo

/-- for the examples only: `|a| + |b|` in place of `hypot` (the theorems hold for ANY `Hypot Rat`) -/
local instance demoHypot : Hypot Rat := ⟨fun a b => a.abs + b.abs⟩

/-- 8000 Hz, two samples per symbol (so that a handful of samples reaches `symbol`), DC blocker of
    length 2, two-tap matched filters, the default AGC limits and link-layer budgets -/
def demoCfg : RxCfg Rat :=
  { rate := 8000, sps := 2, dcLen := 2, agcBw := 1 / 100, agcMin := 1 / 32767, agcMax := 1 / 200,
    mark := [(1, 0), (0, 1)], space := [(1, 0), (0, -1)],
    alphaU := 1 / 10, betaU := 1 / 100, alphaL := 1 / 20, betaL := 1 / 200, maxDev := 1 / 8,
    powerOpen := 1 / 10, powerClose := 1 / 20, squelchBw := 1 / 10,
    nff := 2, nfb := 2, relax := 1 / 5, reg := 1 / 100000, lcfg := ⟨2, ⟨2, 5⟩⟩ }

example : (FullRx.new demoCfg).isSome = true := by decide +kernel

/-- the hypotheses of the generic G4 hold for it, by evaluation -/
example : ∃ r0, FullRx.new demoCfg = some r0 ∧ le demoCfg.agcMin demoCfg.agcMax = true ∧
    le r0.tl.periodMin r0.tl.samplesPerTed = true ∧ le r0.tl.samplesPerTed r0.tl.periodMax = true := by
  obtain ⟨r0, h⟩ := fullrx_new_rat (cfg := demoCfg) (by decide)
  have e : ((FullRx.new demoCfg).map fun r0 =>
      le r0.tl.periodMin r0.tl.samplesPerTed && le r0.tl.samplesPerTed r0.tl.periodMax) = some true := by
    decide +kernel
  rw [h] at e
  simp only [Option.map_some, Option.some.injEq, Bool.and_eq_true] at e
  exact ⟨r0, h, by decide +kernel, e.1, e.2⟩

example (r0 : FullRx Rat) (h : FullRx.new demoCfg = some r0) (xs : List Rat) : FullRx.run r0 xs ≠ none :=
  fullrx_never_panics_rat h (by decide +kernel) (by decide +kernel) xs

example : ∃ r0, FullRx.new demoCfg = some r0 ∧ FullRx.run r0 [1000, -2000, 1500, 300] ≠ none := by
  obtain ⟨r0, h⟩ := fullrx_new_rat (cfg := demoCfg) (by decide)
  exact ⟨r0, h, fullrx_never_panics_rat h (by decide +kernel) (by decide +kernel) _⟩

/-- by evaluation: these four samples reach `symbol` twice (input samples 1 and 3), so the
    refinement theorems are about non-empty tick streams -/
example : ((FullRx.new demoCfg).bind fun r0 => FullRx.trace r0 [1000, -2000, 1500, 300]).map
    (fun p => p.2.map (·.1)) = some [1, 3] := by decide +kernel

example : ∃ r0, FullRx.new { demoCfg with agcMin := 1 / 200, agcMax := 1 / 32767 } = some r0 ∧
    FullRx.run r0 [1000, -2000] = none := by
  obtain ⟨r0, h⟩ := fullrx_new_rat (cfg := { demoCfg with agcMin := 1 / 200, agcMax := 1 / 32767 })
    (by decide)
  exact ⟨r0, h, fullrx_panics_when_agc_reversed h (by decide +kernel) _ _⟩

example : FullRx.new { demoCfg with dcLen := 0 } = none := (fullrx_new_none_iff _).2 rfl

/-! ### a run with a non-empty event list: 48 preamble bits, two samples per bit

  `demoCfg2`: DC blocker of length 1 (identity), loop gains 0 (the sample clock fires on every
  sample, the TED yields a symbol on every other one), matched filters "sum" and "difference" of
  two samples: a bit is sent as `(200, 200)` (one) or `(200, -200)` (zero), which the AGC (initial
  gain 1/200) scales to ±1.  After 32 symbols the correlator holds the sync word: the squelch
  synchronises at input sample 65, the equalizer — trained — decides the preamble byte at the byte
  ticks, and `process()` reports `Searching`. -/

def demoCfg2 : RxCfg Rat :=
  { demoCfg with dcLen := 1, alphaU := 0, betaU := 0, alphaL := 0, betaL := 0, mark := [(1, 0), (1, 0)], space := [(1, 0), (-1, 0)] }

def demoSig : List Rat :=
  0 :: ((List.range 48).map fun i => (0xABABABABABAB : Nat).testBit i).flatMap fun b =>
    if b then [200, 200] else [200, -200]

/-- by evaluation: 97 samples, 49 symbol ticks, byte ticks at input samples 65, 81, 97 with the
    equalizer's byte `0xAB`, and exactly one event, stamped 65 -/
theorem demo2_eval :
    (((FullRx.new demoCfg2).bind fun r0 => FullRx.run r0 demoSig).map fun p => p.2.map Event.stamp)
      = some [65] ∧
    (((FullRx.new demoCfg2).bind fun r0 => FullRx.trace r0 demoSig).map fun p =>
      (p.2.length, (p.2.filter fun t => t.2.2 != 0).map fun t => (t.1, t.2.2)))
      = some (49, [(65, 171), (81, 171), (97, 171)]) := by
  constructor <;> decide +kernel

/-- G4 and G3 on this run, by the general theorems: it does not panic, and its (non-empty) event
    list is the discrete chain's on the 49 ticks of the trace -/
example : ∃ r0 r' evs tr, FullRx.new demoCfg2 = some r0 ∧
    FullRx.run r0 demoSig = some (r', evs) ∧ FullRx.trace r0 demoSig = some (r', tr) ∧
    evs = chain demoCfg2.lcfg 8000 {} {} 0 (stampsOf tr) (tr.map (·.2)) ∧
    evs.map Event.stamp = [65] ∧ tr.length = 49 := by
  obtain ⟨r0, h⟩ := fullrx_new_rat (cfg := demoCfg2) (by decide)
  obtain ⟨hc, hl, hr, _⟩ := FullRx.new_fields h
  cases hrun : FullRx.run r0 demoSig with
  | none => exact absurd hrun (fullrx_never_panics_rat h (by decide +kernel) (by decide +kernel) _)
  | some p =>
    obtain ⟨r', evs⟩ := p
    obtain ⟨tr, t, e, _⟩ := run_refines_chain hrun
    rw [hc, hl, hr] at e
    obtain ⟨e1, e2⟩ := demo2_eval
    rw [h] at e1 e2
    simp only [Option.bind_some, hrun, t, Option.map_some, Option.some.injEq, Prod.mk.injEq] at e1 e2
    exact ⟨r0, r', evs, tr, h, hrun, t, e, e1, e2.1⟩

end Demo

end SameVerif.FullRxThm
