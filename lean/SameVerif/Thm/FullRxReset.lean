/-
  C18 for the whole-receiver model (`Model/FullRx.lean`): `SameReceiver::reset()`.

  "After reset(), whatever audio was processed before and at whatever point it was called, the
  receiver produces for any subsequent audio exactly the same events, with the same timestamps, as
  a freshly built receiver with the same configuration."

  R1  `Reach r0 r`: `r` is reachable from `r0` by samples and resets, in any order.
  R2  `reset_eq_new`: in every reachable state, `reset()` restores EXACTLY the freshly built state,
      field by field, except for the two fields the code leaves alone: the equalizer's `mode`
      (`Equalizer::reset` does not touch it) and its image `LState.train` in the link model.
  R3  the two surviving fields are dead while the byte clock is stopped: two states that differ only
      in them (`LiveEq`) produce the same events sample by sample, and stay `LiveEq`
      (the first byte tick is a synchronisation, which overwrites both without reading them).
  R4  `reset_behaves_as_new`: after `reset()` in any reachable state, any further audio produces
      exactly the events — timestamps included — of a freshly built receiver.
  R5  non-vacuity on a concrete receiver over `Rat`.

  Everything is generic in the number type `F`: NO law about its arithmetic is used, and R4 has no
  hypothesis about the configuration at all.  R2 as an exact state equality needs the matched
  filter to be non-empty (`cfg.mark ≠ []`; see the remark at `reset_eq_new`; `reset_eq_new'` is the
  form without it).  Helper definitions and lemmas: Lemmas/FullRxResetFacts.lean.
-/
import SameVerif.Lemmas.FullRxResetFacts
import SameVerif.Thm.FullRx

set_option linter.unusedSectionVars false

namespace SameVerif.FullRxResetThm

open SameVerif SameVerif.Dsp Arith

section Generic
variable {F : Type} [Arith F] [Hypot F]

/-! ## R1 reachable states -/

/-- the states a receiver can be in: start, then samples (that do not panic) and `reset()` calls,
    in any order — mid-preamble, mid-burst, message pending, … -/
inductive Reach (r0 : FullRx F) : FullRx F → Prop
  | init : Reach r0 r0
  | sample {r r' : FullRx F} {x : F} {evs : List Event} :
      Reach r0 r → r.sample x = some (r', evs) → Reach r0 r'
  | reset {r : FullRx F} : Reach r0 r → Reach r0 r.reset

theorem reach_run {r0 : FullRx F} (xs : List F) : ∀ {r r' : FullRx F} {evs : List Event},
    Reach r0 r → r.run xs = some (r', evs) → Reach r0 r' := by
  induction xs with
  | nil =>
    intro r r' evs hr h
    obtain ⟨rfl, _⟩ := FullRx.run_nil_some.1 h
    exact hr
  | cons x xs ih =>
    intro r r' evs hr h
    obtain ⟨r1, ev, evs', h1, h2, _⟩ := FullRx.run_cons_some.1 h
    exact ih (Reach.sample hr h1) h2

/-! ## R2 `reset()` restores the freshly built state -/

/-- the static part of the receiver (configuration, window lengths, limits, filter taps, NLMS
    parameters: `StaticInv`) is the same in every reachable state -/
theorem reach_static {cfg : RxCfg F} {r0 r : FullRx F} (hnew : FullRx.new cfg = some r0)
    (hr : Reach r0 r) : StaticInv r0 r := by
  induction hr with
  | init => exact StaticInv.new hnew
  | sample _ hs ih => exact ih.sample hs
  | reset _ ih => exact ih.reset

/-- **R2.**  In every reachable state `reset()` yields exactly the freshly built receiver, except
    for the equalizer's mode and the link model's `train`, which it leaves as they are.

    `cfg.mark ≠ []`: with an EMPTY matched filter the model's demodulator window has length 0 when
    built and length 1 after the first sample (`Demod.push` appends), so `reset()` yields the
    window `[0]` instead of `[]` (`reset_eq_new'`).  A degenerate case of the model, not of the
    code (the taps are never empty there), and without consequence: R4 holds regardless. -/
theorem reset_eq_new {cfg : RxCfg F} {r0 r : FullRx F} (hnew : FullRx.new cfg = some r0)
    (hm : cfg.mark ≠ []) (hr : Reach r0 r) :
    r.reset = { r0 with eq := { r0.eq with mode := r.eq.mode },
                        link := { r0.link with train := r.link.train } } := by
  have hp : 0 < r0.demod.window.length := by
    rw [FullRx.new_window hnew, List.length_replicate]
    exact List.length_pos_iff.2 hm
  have h := FullRx.reset_of_static (StaticInv.new hnew) (reach_static hnew hr) hp
  rw [FullRx.reset_new hnew] at h
  exact h

/-- R2 without the hypothesis: the cleared demodulator window has the length the window has, which
    is the built length `cfg.mark.length` up to `len - 1` (i.e. equal unless `cfg.mark = []`) -/
theorem reset_eq_new' {cfg : RxCfg F} {r0 r : FullRx F} (hnew : FullRx.new cfg = some r0)
    (hr : Reach r0 r) :
    r.reset = { r0 with eq := { r0.eq with mode := r.eq.mode },
                        link := { r0.link with train := r.link.train },
                        demod := { r0.demod with window := List.replicate r.demod.window.length zero } } ∧
    r.demod.window.length - 1 = cfg.mark.length - 1 := by
  have hs := reach_static hnew hr
  have h := FullRx.reset_of_static' (StaticInv.new hnew) hs
  rw [FullRx.reset_new hnew] at h
  refine ⟨h, ?_⟩
  have := hs.dm.len
  rw [FullRx.new_window hnew, List.length_replicate] at this
  exact this

/-- in particular, on a receiver that was just built `reset()` changes nothing at all -/
theorem reset_new {cfg : RxCfg F} {r0 : FullRx F} (hnew : FullRx.new cfg = some r0) : r0.reset = r0 :=
  FullRx.reset_new hnew

theorem reset_idem {cfg : RxCfg F} {r0 r : FullRx F} (hnew : FullRx.new cfg = some r0)
    (hr : Reach r0 r) : r.reset.reset = r.reset := by
  rw [(reset_eq_new' hnew (Reach.reset hr)).1, (reset_eq_new' hnew hr).1]
  simp only [List.length_replicate]

/-! ## R3 the two surviving fields are dead: a bisimulation -/

/-- equal, or equal except for `eq.mode` and `link.train` with the byte clock stopped -/
def LiveEq (a b : FullRx F) : Prop :=
  a = b ∨ (a.link.clock = none ∧ b.link.clock = none ∧
    a = { b with eq := { b.eq with mode := a.eq.mode }, link := { b.link with train := a.link.train } })

theorem LiveEq.refl (a : FullRx F) : LiveEq a a := Or.inl rfl

/-- the key fact about the link model: with the byte clock stopped `lstep` does not read `train` —
    either the tick is no byte tick (`train` carried along, clock still stopped) or it is a
    synchronisation (`adjusted = true`), which overwrites `train` -/
theorem lstep_train_dead (c : LCfg) (s : LState) (o : Obs) (hc : s.clock = none) (t : Nat) :
    (∀ b, (lstep c s o b).2.2 = none ∧ (lstep c s o b).1.clock = none ∧
        lstep c { s with train := t } o b = ({ (lstep c s o b).1 with train := t }, (lstep c s o b).2)) ∨
    (∀ b, (lstep c s o b).2.2 = some true ∧ lstep c { s with train := t } o b = lstep c s o b) :=
  SameVerif.lstep_train_dead c s o hc t

/-- **R3, one sample.**  `LiveEq` states produce the same events (and panic together), and their
    successors are `LiveEq` again. -/
theorem liveEq_sample {a b : FullRx F} (h : LiveEq a b) (x : F) :
    (a.sample x).map (·.2) = (b.sample x).map (·.2) ∧
    ∀ a' b' ea eb, a.sample x = some (a', ea) → b.sample x = some (b', eb) → LiveEq a' b' := by
  rcases h with rfl | ⟨_, hb, he⟩
  · refine ⟨rfl, ?_⟩
    intro a' b' ea eb h1 h2
    rw [h1] at h2
    simp only [Option.some.injEq, Prod.mk.injEq] at h2
    exact Or.inl h2.1
  · have he' : a = b.upd a.eq.mode a.link.train := he
    generalize a.eq.mode = m at he'
    generalize a.link.train = t at he'
    subst he'
    obtain ⟨e1, e2⟩ := FullRx.sample_upd b hb m t x
    refine ⟨e1, ?_⟩
    intro a' b' ea eb h1 h2
    rcases e2 a' b' ea eb h1 h2 with rfl | ⟨hc, rfl⟩
    · exact Or.inl rfl
    · exact Or.inr ⟨hc, hc, rfl⟩

/-- **R3, runs.**  `LiveEq` states produce the same events on every input (and panic together). -/
theorem liveEq_run (xs : List F) : ∀ {a b : FullRx F}, LiveEq a b →
    (a.run xs).map (·.2) = (b.run xs).map (·.2) :=
  FullRx.run_events_congr LiveEq (fun _ _ h x => liveEq_sample h x) xs

/-! ## R4 after `reset()` the receiver behaves as a freshly built one -/

theorem upd_liveEq_new {cfg : RxCfg F} {r0 : FullRx F} (hnew : FullRx.new cfg = some r0)
    (m : EqMode) (t : Nat) : LiveEq (r0.upd m t) r0 := by
  obtain ⟨_, hl, _⟩ := FullRx.new_fields hnew
  have hc : r0.link.clock = none := by rw [hl]
  exact Or.inr ⟨hc, hc, rfl⟩

theorem reset_liveEq_new {cfg : RxCfg F} {r0 r : FullRx F} (hnew : FullRx.new cfg = some r0)
    (hm : cfg.mark ≠ []) (hr : Reach r0 r) : LiveEq r.reset r0 := by
  rw [reset_eq_new hnew hm hr]
  exact upd_liveEq_new hnew _ _

/-- R4 for any state with the static part of `r0` (all that is used of reachability) -/
theorem reset_behaves_as_new_of_static {cfg : RxCfg F} {r0 r : FullRx F}
    (hnew : FullRx.new cfg = some r0) (hs : StaticInv r0 r) (ys : List F) :
    (r.reset.run ys).map (·.2) = (r0.run ys).map (·.2) := by
  have h := FullRx.reset_of_static' (StaticInv.new hnew) hs
  rw [FullRx.reset_new hnew] at h
  rw [h, FullRx.run_updW (r0.upd r.eq.mode r.link.train) _ (FullRx.reset_window_drop (r0 := r0) hnew hs)]
  exact liveEq_run ys (upd_liveEq_new hnew _ _)

/-- **R4 (C18 for the whole-receiver model).**  Let `r0` be the receiver `new` builds from `cfg`, and
    `r` any state reachable from it by audio and resets.  Then for every further audio `ys` the
    receiver after `reset()` produces exactly the event list — timestamps included — that the
    freshly built receiver produces on `ys` (and it panics iff that one does).

    No hypothesis on `cfg` or on `F`.  (For an empty matched filter, where `reset()` leaves a
    one-entry window instead of the built empty one: the front end pushes the new sample and drops
    the oldest entry before anything reads the window, `FullRx.front_updW`.) -/
theorem reset_behaves_as_new {cfg : RxCfg F} {r0 r : FullRx F} (hnew : FullRx.new cfg = some r0)
    (hr : Reach r0 r) (ys : List F) :
    (r.reset.run ys).map (·.2) = (r0.run ys).map (·.2) :=
  reset_behaves_as_new_of_static hnew (reach_static hnew hr) ys

/-- audio, `reset()`, more audio: the second event list is that of a fresh receiver on the second
    piece of audio alone -/
theorem runResetRun_eq {cfg : RxCfg F} {r0 r1 : FullRx F} {xs : List F} {e1 : List Event}
    (hnew : FullRx.new cfg = some r0) (hrun : r0.run xs = some (r1, e1))
    (ys : List F) :
    r0.runResetRun xs ys = (r0.run ys).map fun p => (e1, p.2) := by
  have e : r0.runResetRun xs ys = ((r1.reset.run ys).map (·.2)).map fun e2 => (e1, e2) := by
    unfold FullRx.runResetRun
    rw [hrun]
    dsimp only
    cases r1.reset.run ys <;> rfl
  rw [e, reset_behaves_as_new hnew (reach_run xs Reach.init hrun) ys, Option.map_map]
  rfl

end Generic

/-! ## R5 non-vacuity: the concrete receiver `demoCfg2` on the signal `demoSig` of Thm/FullRx.lean -/

section Demo
open FullRxThm

/-- for the examples only (the theorems hold for ANY `Hypot`) -/
local instance : Hypot Rat := FullRxThm.demoHypot

/-- by evaluation: after the 97 samples of `demoSig` (48 preamble bits) the receiver is
    synchronised — byte clock running, equalizer in training with 24 of 32 symbols done, one byte of
    training to come, input sample counter 97 — and has reported `Searching` at sample 65 -/
theorem demo_state :
    (((FullRx.new demoCfg2).bind fun r0 => FullRx.run r0 demoSig).map
      (fun p => ((p.1.link.clock, p.1.link.train, p.1.inputCounter), p.1.eq.mode))
      = some ((some 1, 1, 97), .training (SYNC_WORD >>> 24) 24)) ∧
    (((FullRx.new demoCfg2).bind fun r0 => FullRx.run r0 demoSig).map (fun p => p.2.map Event.linkView)
      = some [some (65, .searching)]) := by
  -- one evaluation of the run for both parts
  have h : ((FullRx.new demoCfg2).bind fun r0 => FullRx.run r0 demoSig).map
      (fun p => (((p.1.link.clock, p.1.link.train, p.1.inputCounter), p.1.eq.mode),
        p.2.map Event.linkView))
      = some (((some 1, 1, 97), .training (SYNC_WORD >>> 24) 24), [some (65, .searching)]) := by
    decide +kernel
  generalize ((FullRx.new demoCfg2).bind fun r0 => FullRx.run r0 demoSig) = o at h ⊢
  cases o with
  | none => cases h
  | some p =>
    simp only [Option.map_some, Option.some.injEq, Prod.mk.injEq] at h ⊢
    exact h

/-- a reachable state in which `reset()` is NOT the identity, and R2, R4 applied to it: after the
    demo signal the byte clock runs and the sample counter is 97; `reset()` yields the freshly
    built receiver up to the two dead fields (which here do differ from the fresh ones: the
    equalizer is in training, `train = 1`), and from there every continuation produces the events
    of a fresh receiver -/
theorem demo_reset : ∃ r0 r1 e1, FullRx.new demoCfg2 = some r0 ∧ r0.run demoSig = some (r1, e1) ∧
    Reach r0 r1 ∧ r1.link.clock = some 1 ∧ r1.inputCounter = 97 ∧ r1.reset ≠ r1 ∧
    r1.reset ≠ r0 ∧
    r1.reset = { r0 with eq := { r0.eq with mode := .training (SYNC_WORD >>> 24) 24 },
                         link := { r0.link with train := 1 } } ∧
    ∀ ys, (r1.reset.run ys).map (·.2) = (r0.run ys).map (·.2) := by
  obtain ⟨r0, h⟩ := fullrx_new_rat (cfg := demoCfg2) (by decide)
  have hm : demoCfg2.mark ≠ [] := List.cons_ne_nil _ _
  obtain ⟨e, _⟩ := demo_state
  rw [h] at e
  cases hrun : FullRx.run r0 demoSig with
  | none => rw [Option.bind_some, hrun] at e; cases e
  | some p =>
    obtain ⟨r1, e1⟩ := p
    simp only [Option.bind_some, hrun, Option.map_some, Option.some.injEq, Prod.mk.injEq] at e
    obtain ⟨⟨c1, c2, c3⟩, c4⟩ := e
    have hr : Reach r0 r1 := reach_run demoSig Reach.init hrun
    have hreset := reset_eq_new h hm hr
    rw [c2, c4] at hreset
    refine ⟨r0, r1, e1, h, hrun, hr, c1, c3, ?_, ?_, hreset, reset_behaves_as_new h hr⟩
    · intro hh
      have : r1.reset.inputCounter = r1.inputCounter := by rw [hh]
      rw [c3] at this
      cases this
    · intro hh
      have : r1.reset.link.train = r0.link.train := by rw [hh]
      rw [(FullRx.new_fields h).2.1] at this
      have h1 : r1.reset.link.train = 1 := c2
      rw [h1] at this
      cases this

/-- by evaluation, independently of the theorems: audio (`demoSig`), `reset()`, the same audio again.
    The second pass reports `Searching` at sample 65 again — the event list and timestamps of the
    fresh receiver (`demo_state`) — whereas without the `reset()` the second pass reports nothing
    (the link state does not change any more): `reset()` is observable here. -/
theorem demo_eval :
    (((FullRx.new demoCfg2).bind fun r0 => r0.runResetRun demoSig demoSig).map
      (fun p => (p.1.map Event.linkView, p.2.map Event.linkView))
      = some ([some (65, .searching)], [some (65, .searching)])) ∧
    (((FullRx.new demoCfg2).bind fun r0 => r0.run (demoSig ++ demoSig)).map
      (fun p => p.2.map Event.linkView)
      = some [some (65, .searching)]) := by
  constructor <;> decide +kernel

/-- … and the same through the theorem: `runResetRun_eq` on the demo -/
example (r0 r1 : FullRx Rat) (e1 : List Event) (h : FullRx.new demoCfg2 = some r0)
    (hrun : r0.run demoSig = some (r1, e1)) (ys : List Rat) :
    r0.runResetRun demoSig ys = (r0.run ys).map fun p => (e1, p.2) :=
  runResetRun_eq h hrun ys

/-- why `reset_eq_new` asks for a non-empty matched filter: with `mark = []` the window is `[]` when
    built, one entry long after one sample, and `reset()` keeps that length (by evaluation);
    `reset_behaves_as_new` covers this configuration too -/
example : ((FullRx.new { demoCfg2 with mark := [] }).bind fun r0 =>
      (r0.run [1]).map fun p => (p.1.reset.demod.window.length, r0.demod.window.length))
    = some (1, 0) := by decide +kernel

end Demo

end SameVerif.FullRxResetThm
