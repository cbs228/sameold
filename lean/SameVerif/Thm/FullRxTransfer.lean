/-
  Transfer of the receiver-glue theorems (stated about `rRun` over ARBITRARY tick lists) to every
  run of the whole-receiver model `FullRx` (Model/FullRx.lean) — the model that is compared,
  bit-exactly, with the code.  Each theorem here is "existing theorem ∘ refinement"
  (`FullRxThm.run_refines_chain'`): the events of a whole-receiver run are `rRun` on the receiver
  ticks `stampedTicks cfg.lcfg link tr` that the float part produced (`FullRx.trace`).
  Generic in the number type `F`: no arithmetic law is used.
-/
import SameVerif.Lemmas.FullRxTransferFacts
import SameVerif.Thm.FullRx
import SameVerif.Thm.C04rx
import SameVerif.Thm.C08rx
import SameVerif.Thm.Program

namespace SameVerif.FullRxTransferThm

open SameVerif SameVerif.Dsp Arith SameVerif.C08 SameVerif.C09 SameVerif.C14 SameVerif.RxProv

section Transfer
variable {F : Type} [Arith F] [Hypot F]

/-! ## the refinement, in the form the transfers use -/

/-- `FullRxThm.run_refines_chain'` for a receiver as `FullRx.new` builds it: link and receiver
    states initial, configuration `cfg` -/
theorem run_new_refines {cfg : RxCfg F} {r0 r' : FullRx F} {xs : List F} {evs : List Event}
    (hnew : FullRx.new cfg = some r0) (hrun : FullRx.run r0 xs = some (r', evs)) :
    ∃ tr, FullRx.trace r0 xs = some (r', tr) ∧
      evs = (rRun cfg.rate {} (stampedTicks cfg.lcfg {} tr)).2 ∧
      r'.rx = (rRun cfg.rate {} (stampedTicks cfg.lcfg {} tr)).1 ∧
      r'.link = lrunState cfg.lcfg {} (tr.map (·.2)) := by
  obtain ⟨hc, hl, hr, _⟩ := FullRx.new_fields hnew
  obtain ⟨tr, t, e, x, l⟩ := FullRxThm.run_refines_chain' hrun
  rw [hc, hl, hr] at e x
  rw [hc, hl] at l
  exact ⟨tr, t, e, x, l⟩

/-! ## (C04) provenance of every EndOfMessage event of a whole-receiver run -/

/-- Transfers `RxProv.eom_event_decoded_or_forced` (Thm/C04rx.lean): every EndOfMessage event of a
    whole-receiver run is either a decoded trailer — the link layer reported a burst at that very
    sample and the assembler answered EndOfMessage for it — or the forced one, more than `135·rate`
    samples after a StartOfMessage event that no EndOfMessage event followed. -/
theorem run_eom_decoded_or_forced {cfg : RxCfg F} {r0 r' : FullRx F} {xs : List F} {evs : List Event}
    (hnew : FullRx.new cfg = some r0) (hrun : FullRx.run r0 xs = some (r', evs))
    (pre post : List Event) (smp : Nat)
    (hev : evs = pre ++ Event.transport smp (.message (.ok .eom)) :: post) :
    ∃ tr, FullRx.trace r0 xs = some (r', tr) ∧
      ((∃ trpre t trpost b, tr = trpre ++ (smp, t) :: trpost
          ∧ (lstep cfg.lcfg (lrunState cfg.lcfg {} (trpre.map (·.2))) t.1 t.2).2.1 = .burst b
          ∧ (aAssemble (rRun cfg.rate {} (stampedTicks cfg.lcfg {} trpre)).1.asm b
                (lstep cfg.lcfg (lrunState cfg.lcfg {} (trpre.map (·.2))) t.1 t.2).1.nsym).2
              = .message (.ok .eom))
       ∨ (∃ pre1 smp0 h pre2,
          pre = pre1 ++ Event.transport smp0 (.message (.ok (.som h))) :: pre2
          ∧ (∀ e ∈ pre2, ∀ smp', e ≠ Event.transport smp' (.message (.ok .eom)))
          ∧ smp0 + Gen.MAX_MESSAGE_DURATION_SECS * cfg.rate < smp)) := by
  obtain ⟨tr, t, e, _⟩ := run_new_refines hnew hrun
  refine ⟨tr, t, ?_⟩
  rcases eom_event_decoded_or_forced cfg.rate _ pre post smp (e.symm.trans hev) with
    ⟨tpre, sym, b, tpost, hsplit, hb⟩ | h
  · left
    obtain ⟨trpre, p, trpost, rfl, rfl, hx, _⟩ := stampedTicks_split _ _ _ _ _ _ hsplit
    obtain ⟨n, tk⟩ := p
    simp only [rtickOf, Prod.mk.injEq] at hx
    obtain ⟨rfl, rfl, hls⟩ := hx
    exact ⟨trpre, tk, trpost, b, rfl, hls.symm, hb⟩
  · exact Or.inr h

/-- Transfers `RxProv.no_som_event_no_forced` (Thm/C04rx.lean).  A whole-receiver run (from
    `FullRx.new`) whose events contain no StartOfMessage contains no forced EndOfMessage: every
    EndOfMessage event is a decoded trailer (a `.burst` entry of the trace at that very sample). -/
theorem run_no_som_no_forced {cfg : RxCfg F} {r0 r' : FullRx F} {xs : List F} {evs : List Event}
    (hnew : FullRx.new cfg = some r0) (hrun : FullRx.run r0 xs = some (r', evs))
    (hno : ∀ e ∈ evs, ∀ smp0 h, e ≠ Event.transport smp0 (.message (.ok (.som h))))
    (pre post : List Event) (smp : Nat)
    (hev : evs = pre ++ Event.transport smp (.message (.ok .eom)) :: post) :
    ∃ tr, FullRx.trace r0 xs = some (r', tr) ∧
      ∃ trpre t trpost b, tr = trpre ++ (smp, t) :: trpost
        ∧ (lstep cfg.lcfg (lrunState cfg.lcfg {} (trpre.map (·.2))) t.1 t.2).2.1 = .burst b
        ∧ (aAssemble (rRun cfg.rate {} (stampedTicks cfg.lcfg {} trpre)).1.asm b
              (lstep cfg.lcfg (lrunState cfg.lcfg {} (trpre.map (·.2))) t.1 t.2).1.nsym).2
            = .message (.ok .eom) := by
  obtain ⟨tr, t, h⟩ := run_eom_decoded_or_forced hnew hrun pre post smp hev
  refine ⟨tr, t, ?_⟩
  rcases h with h | ⟨pre1, smp0, h, pre2, hp, _, _⟩
  · exact h
  · exact absurd rfl (hno _ (by rw [hev, hp]; simp) smp0 h)

/-- Transfers `RxProv.no_som_output_timer_off` / `RxProv.timer_provenance` (Thm/C04rx.lean): after
    a whole-receiver run (from `FullRx.new`) the forced end-of-message timer, if armed, reads
    `smp0 + 135·rate` for a StartOfMessage EVENT at `smp0` of this run after which the run reports
    neither an EndOfMessage nor another StartOfMessage. -/
theorem run_timer_provenance {cfg : RxCfg F} {r0 r' : FullRx F} {xs : List F} {evs : List Event}
    (hnew : FullRx.new cfg = some r0) (hrun : FullRx.run r0 xs = some (r', evs)) (T : Nat)
    (hT : r'.rx.forceEomAt = some T) :
    ∃ E1 smp0 h E2, evs = E1 ++ Event.transport smp0 (.message (.ok (.som h))) :: E2
      ∧ T = smp0 + Gen.MAX_MESSAGE_DURATION_SECS * cfg.rate ∧ ∀ e ∈ E2, ¬ Closes e := by
  obtain ⟨tr, _, e, x, _⟩ := run_new_refines hnew hrun
  rw [x] at hT
  rw [e]
  exact timer_provenance_events cfg.rate _ T hT

/-! ## (C09) every StartOfMessage event of a whole-receiver run is closed -/

/-- Transfers `C09.closed_within` / `C09.closed_within_run` (Thm/C09.lean), for a run from ANY
    receiver state.  If the run reports a StartOfMessage event at sample `p` (followed by the
    events `E2`), then for EVERY receiver tick of the run that reports `NoCarrier` at an input
    sample later than `p + 135·rate`, a closing event (EndOfMessage or a newer StartOfMessage) is
    among `E2`, stamped no later than that tick.  (That the tick comes after the StartOfMessage
    need not be assumed: the stamps of a whole-receiver run increase strictly.) -/
theorem run_closed_within {r r' : FullRx F} {xs : List F} {evs : List Event}
    (hrun : FullRx.run r xs = some (r', evs))
    (E1 E2 : List Event) (p : Nat) (h : Header)
    (hev : evs = E1 ++ Event.transport p (.message (.ok (.som h))) :: E2) :
    ∃ tr, FullRx.trace r xs = some (r', tr) ∧
      ∀ tk ∈ stampedTicks r.cfg.lcfg r.link tr, tk.2.2 = .noCarrier →
        p + Gen.MAX_MESSAGE_DURATION_SECS * r.cfg.rate < tk.1 →
        ∃ e ∈ E2, Closes e ∧ e.stamp ≤ tk.1 := by
  obtain ⟨tr, t, e, _⟩ := FullRxThm.run_refines_chain' hrun
  exact ⟨tr, t, closed_within_of_event r.cfg.rate r.rx _ (FullRx.trace_ticks_stamps t).1 E1 E2 p h
    (e.symm.trans hev)⟩

/-! ## (C13) iterator bindings over the whole-receiver step function `progStep` -/

/-- Transfers `C13.schedule_independent_partition` (Thm/C13.lean) to the whole-receiver step
    function `progStep` (Model/Program.lean: `FullRx.sample`, a panic absorbing): consuming the
    samples through ANY partition into iterator bindings yields the same events, final receiver,
    queue and counter as one binding over the whole input. -/
theorem run_schedule_independent (r : PRx F) (src : List F) (chunks : List (List F))
    (hsrc : chunks.flatten = src) (h : chunks ≠ [] ∨ r.queue = []) :
    drainChunks progStep r chunks = drain progStep r src :=
  C13.schedule_independent_partition progStep r src chunks hsrc h

/-- `C13.schedule_independent_partition` ∘ `C13.drain_eq` ∘ `foldEvents_progStep_run`
    (= `ProgramThm.runEvents_eq_run`): if the whole-receiver run does not panic, the events
    delivered through any partition of the samples into bindings ARE the run's event list, the
    receiver ends in the run's final state, and every sample is counted. -/
theorem run_bindings_eq_run {r0 r' : FullRx F} {xs : List F} {evs : List Event}
    (hrun : FullRx.run r0 xs = some (r', evs)) (chunks : List (List F)) (hsrc : chunks.flatten = xs)
    (c : Nat) :
    drainChunks progStep (⟨some r0, [], c⟩ : PRx F) chunks = (evs, ⟨some r', [], c + xs.length⟩) := by
  rw [C13.schedule_independent_partition progStep _ xs chunks hsrc (Or.inr rfl), C13.drain_eq,
    foldEvents_progStep_run xs r0 r' evs hrun]
  rfl

/-- the same, for `ProgramThm.runEvents` (defined also across a panic): whatever the partition,
    the bindings deliver exactly the events of one uninterrupted run -/
theorem run_bindings_eq_runEvents (r0 : FullRx F) (xs : List F) (chunks : List (List F))
    (hsrc : chunks.flatten = xs) (c : Nat) :
    (drainChunks progStep (⟨some r0, [], c⟩ : PRx F) chunks).1 = ProgramThm.runEvents r0 xs := by
  rw [C13.schedule_independent_partition progStep _ xs chunks hsrc (Or.inr rfl), C13.drain_eq]
  rfl

/-- Transfers `C13.drop_binding_loses_nothing` (Thm/C13.lean): call `next()` any number `k` of
    times, drop the binding, drain the rest of the samples in a fresh binding — the events of the
    two phases together are the whole-receiver run's event list. -/
theorem run_drop_binding_loses_nothing {r0 r' : FullRx F} {xs : List F} {evs : List Event}
    (hrun : FullRx.run r0 xs = some (r', evs)) (k c : Nat) :
    (nextN progStep k (⟨some r0, [], c⟩ : PRx F) xs).1
      ++ (drain progStep (nextN progStep k (⟨some r0, [], c⟩ : PRx F) xs).2.1
            (nextN progStep k (⟨some r0, [], c⟩ : PRx F) xs).2.2).1 = evs := by
  rw [(C13.drop_binding_loses_nothing progStep k _ xs).1, C13.drain_eq,
    foldEvents_progStep_run xs r0 r' evs hrun]
  rfl

/-- Transfers `C13.no_read_ahead` (Thm/C13.lean): an event returned by `next()` on an empty queue
    was generated by the LAST sample read; every sample read before it generated nothing. -/
theorem run_no_read_ahead (r r' : PRx F) (src src' : List F) (e : Event) (hq : r.queue = [])
    (h : next progStep r src = (some e, r', src')) :
    ∃ pre x q, src = pre ++ x :: src' ∧ Silent progStep r.st pre
      ∧ progStep (foldEvents progStep r.st pre).2 x = (r'.st, e :: q)
      ∧ r'.queue = q ∧ r'.consumed = r.consumed + pre.length + 1 := by
  rcases C13.no_read_ahead progStep r r' src src' e h with ⟨q, h1, _⟩ | ⟨_, h2⟩
  · rw [hq] at h1; cases h1
  · exact h2

/-- `run_bindings_eq_run` ∘ `FullRxThm.run_timestamps` (the whole-receiver counterpart of
    `C13.timestamps_monotone`, whose `stamp` combinator is not how `progStep` stamps: the events of
    `FullRx` carry the receiver's own input sample counter): whatever the partition into bindings,
    the delivered events carry non-decreasing timestamps, each the 1-based index (counted from the
    receiver's counter) of a sample of the input. -/
theorem run_timestamps_monotone {r0 r' : FullRx F} {xs : List F} {evs : List Event}
    (hrun : FullRx.run r0 xs = some (r', evs)) (chunks : List (List F)) (hsrc : chunks.flatten = xs)
    (c : Nat) :
    (drainChunks progStep (⟨some r0, [], c⟩ : PRx F) chunks).1.Pairwise (fun a b => a.stamp ≤ b.stamp)
      ∧ ∀ e ∈ (drainChunks progStep (⟨some r0, [], c⟩ : PRx F) chunks).1,
          r0.inputCounter < e.stamp ∧ e.stamp ≤ r0.inputCounter + xs.length := by
  rw [run_bindings_eq_run hrun chunks hsrc c]
  obtain ⟨_, h2, h3⟩ := FullRxThm.run_timestamps hrun
  exact ⟨h3, h2⟩

/-! ## (C08) the hold: a pending result is released at the first NoCarrier tick at/after its deadline -/

theorem run_rInv_gen {r r' : FullRx F} {xs : List F} {evs : List Event}
    (hinv : RInv r.rx) (hrun : FullRx.run r xs = some (r', evs)) : RInv r'.rx ∧ r'.cfg = r.cfg := by
  obtain ⟨_, _, _, x, _⟩ := FullRxThm.run_refines_chain' hrun
  obtain ⟨_, _, _, _, _, hc⟩ := FullRxThm.run_refines_chain hrun
  rw [x]
  exact ⟨rInv_run r.cfg.rate r.rx _ hinv, hc⟩

theorem run_rInv {cfg : RxCfg F} {r0 r' : FullRx F} {xs : List F} {evs : List Event}
    (hnew : FullRx.new cfg = some r0) (hrun : FullRx.run r0 xs = some (r', evs)) :
    RInv r'.rx ∧ r'.cfg = cfg := by
  obtain ⟨hc, _, hr, _⟩ := FullRx.new_fields hnew
  have h := run_rInv_gen (by rw [hr]; exact rInv_init) hrun
  rw [hc] at h
  exact h

/-- Transfers `RxProv.hold_releases_run` (Thm/C08rx.lean), for a run from ANY receiver state `r`
    whose receiver-glue part holds the pending result `t` (`Holding r.rx t`).  If no receiver tick
    of the run is a burst, the forced end-of-message timer (if armed) fires on none of them, and
    some tick reports `NoCarrier` with symbol count `≥ t.deadline`, then `.message t.data` is
    reported exactly at the FIRST such tick — whatever Searching / Reading ticks come before —
    and no message event of the run precedes it. -/
theorem run_hold_released_gen {r r' : FullRx F} {xs : List F} {evs : List Event}
    (hrun : FullRx.run r xs = some (r', evs)) (t : Timed MsgResult) (hold : Holding r.rx t) :
    ∃ tr, FullRx.trace r xs = some (r', tr) ∧
      ((∀ tk ∈ stampedTicks r.cfg.lcfg r.link tr, ∀ b, tk.2.2 ≠ .burst b) →
       (∀ T, r.rx.forceEomAt = some T → ∀ tk ∈ stampedTicks r.cfg.lcfg r.link tr, tk.1 ≤ T) →
       (∃ tk ∈ stampedTicks r.cfg.lcfg r.link tr, tk.2.2 = .noCarrier ∧ t.deadline ≤ tk.2.1) →
       ∃ pre sample sym post E1 E2,
         stampedTicks r.cfg.lcfg r.link tr = pre ++ (sample, sym, .noCarrier) :: post
         ∧ t.deadline ≤ sym
         ∧ (∀ x ∈ pre, x.2.2 ≠ .noCarrier ∨ x.2.1 < t.deadline)
         ∧ evs = E1 ++ Event.transport sample (.message t.data) :: E2
         ∧ NoMessage E1) := by
  obtain ⟨tr, tt, e, _⟩ := FullRxThm.run_refines_chain' hrun
  refine ⟨tr, tt, fun hnb hforce hex => ?_⟩
  rw [e]
  exact hold_releases_events r.cfg.rate r.rx t hold _ hnb hforce hex

/-- Transfers `RxProv.hold_releases_run` (Thm/C08rx.lean) to a receiver built by `FullRx.new`:
    after ANY prefix `xs1` of the input, if the assembler holds a pending result `t`, then over the
    rest `xs2` of the input (no burst tick, timer not firing) `.message t.data` is reported at the
    first `NoCarrier` tick whose symbol count is `≥ t.deadline`, and no message event of the rest
    precedes it.  (`Holding` follows from the invariant `RInv`, which every run from `FullRx.new`
    maintains.) -/
theorem run_hold_released {cfg : RxCfg F} {r0 r1 r2 : FullRx F} {xs1 xs2 : List F}
    {evs1 evs2 : List Event}
    (hnew : FullRx.new cfg = some r0) (hrun1 : FullRx.run r0 xs1 = some (r1, evs1))
    (hrun2 : FullRx.run r1 xs2 = some (r2, evs2))
    (t : Timed MsgResult) (hp : r1.rx.asm.pending = some t) :
    ∃ tr, FullRx.trace r1 xs2 = some (r2, tr) ∧
      ((∀ tk ∈ stampedTicks cfg.lcfg r1.link tr, ∀ b, tk.2.2 ≠ .burst b) →
       (∀ T, r1.rx.forceEomAt = some T → ∀ tk ∈ stampedTicks cfg.lcfg r1.link tr, tk.1 ≤ T) →
       (∃ tk ∈ stampedTicks cfg.lcfg r1.link tr, tk.2.2 = .noCarrier ∧ t.deadline ≤ tk.2.1) →
       ∃ pre sample sym post E1 E2,
         stampedTicks cfg.lcfg r1.link tr = pre ++ (sample, sym, .noCarrier) :: post
         ∧ t.deadline ≤ sym
         ∧ (∀ x ∈ pre, x.2.2 ≠ .noCarrier ∨ x.2.1 < t.deadline)
         ∧ evs2 = E1 ++ Event.transport sample (.message t.data) :: E2
         ∧ NoMessage E1) := by
  obtain ⟨hinv, hc⟩ := run_rInv hnew hrun1
  have := run_hold_released_gen hrun2 t (holding_of_rInv _ t hinv hp)
  rw [hc] at this
  exact this

/-- the two runs of `run_hold_released` are one run over `xs1 ++ xs2` -/
theorem run_append {r0 r1 r2 : FullRx F} {xs1 xs2 : List F} {evs1 evs2 : List Event}
    (hrun1 : FullRx.run r0 xs1 = some (r1, evs1)) (hrun2 : FullRx.run r1 xs2 = some (r2, evs2)) :
    FullRx.run r0 (xs1 ++ xs2) = some (r2, evs1 ++ evs2) :=
  FullRx.run_append hrun1 hrun2

/-! ## (C04) a StartOfMessage needs two bursts; burst ticks and Link(Burst) events

  "Fewer than two bursts ⇒ no StartOfMessage" has no counterpart about `rRun` over arbitrary ticks: the
  C04 evidence theorems (`C04.som_has_evidence`, `C04.som_has_evidence_idle`) are about assembler
  states reachable by calls with NON-DECREASING tick counts (`C04.Reach`).  `rRun` over arbitrary
  ticks does not guarantee that; a whole-receiver run does (symbol counts `nsym + 1, nsym + 2, …`:
  `stampedTicks_syms`).  `som_event_has_evidence` (Lemmas/FullRxTransferFacts.lean) is the C04
  theorem for `rRun` over ticks with non-decreasing symbol counts. -/

/-- Transfers `C04.som_has_evidence` / `C04.som_has_evidence_idle` (Thm/C04.lean) through
    `som_event_has_evidence`.  Every StartOfMessage event of a whole-receiver run from `FullRx.new`
    was emitted by a receiver tick `(smp, sym, ls)` of the run, and its header is `combine` of a run
    `r` of two or three consecutive non-empty bursts among the `.burst` link states reported up to
    and including that tick (`burstLog`), which supports every byte of the header; in particular at
    least two ticks up to that one reported a non-empty `.burst`. -/
theorem run_som_needs_two_bursts {cfg : RxCfg F} {r0 r' : FullRx F} {xs : List F} {evs : List Event}
    (hnew : FullRx.new cfg = some r0) (hrun : FullRx.run r0 xs = some (r', evs))
    (smp : Nat) (h : Header) (hev : Event.transport smp (.message (.ok (.som h))) ∈ evs) :
    ∃ tr, FullRx.trace r0 xs = some (r', tr) ∧
      ∃ tpre sym ls tpost r, stampedTicks cfg.lcfg {} tr = tpre ++ (smp, sym, ls) :: tpost
        ∧ Spec.IsRun r (burstLog (tpre ++ [(smp, sym, ls)])) ∧ 2 ≤ r.length
        ∧ combine MAXLEN r = some (.ok (.som h))
        ∧ (∀ (i : Nat) (hi : i < h.text.length), Spec.SupportsByte r i h.text[i])
        ∧ 2 ≤ (burstLog (tpre ++ [(smp, sym, ls)])).length := by
  obtain ⟨tr, t, e, _⟩ := run_new_refines hnew hrun
  refine ⟨tr, t, ?_⟩
  have hpw : (stampedTicks cfg.lcfg {} tr).Pairwise (fun a b => a.2.1 ≤ b.2.1) :=
    (stampedTicks_syms cfg.lcfg tr {}).1.imp (fun h => Nat.le_of_lt h)
  rw [e] at hev
  obtain ⟨tpre, sym, ls, tpost, r, h1, h2, h3, h4, h5⟩ :=
    som_event_has_evidence cfg.rate _ hpw smp h hev
  exact ⟨tpre, sym, ls, tpost, r, h1, h2, h3, h4, h5, Nat.le_trans h3 h2.1.length_le⟩

/-- … hence: a whole-receiver run whose ticks report fewer than two non-empty bursts reports no
    StartOfMessage event -/
theorem run_no_two_bursts_no_som {cfg : RxCfg F} {r0 r' : FullRx F} {xs : List F} {evs : List Event}
    {tr : List (Nat × Tick)}
    (hnew : FullRx.new cfg = some r0) (hrun : FullRx.run r0 xs = some (r', evs))
    (htr : FullRx.trace r0 xs = some (r', tr))
    (hfew : (burstLog (stampedTicks cfg.lcfg {} tr)).length < 2) :
    ∀ e ∈ evs, ∀ smp h, e ≠ Event.transport smp (.message (.ok (.som h))) := by
  intro e he smp h heq
  subst heq
  obtain ⟨tr', t', tpre, sym, ls, tpost, r, h1, _, _, _, _, h6⟩ :=
    run_som_needs_two_bursts hnew hrun smp h he
  rw [htr] at t'
  cases t'
  rw [h1, show tpre ++ (smp, sym, ls) :: tpost = (tpre ++ [(smp, sym, ls)]) ++ tpost by simp,
    burstLog_append, List.length_append] at hfew
  omega

/-- What is true of one tick (from `rTick`'s definition, `link_event_tick`): a tick reporting
    `.burst b` emits the link event `Link(Burst b)` exactly when the link state remembered from the
    previous tick is not that very burst; the remembered link state is always the last one reported
    (`rTick_linkState`).  Two consecutive ticks reporting the identical burst would emit ONE link
    event. -/
theorem burst_tick_emits_link_event (rate : Nat) (s : RState) (sample sym : Nat) (b : List Byte) :
    Event.link sample (.burst b) ∈ (rTick rate s sample sym (.burst b)).2 ↔ s.linkState ≠ .burst b := by
  rw [link_event_tick]
  exact ⟨fun h => fun h' => h.2.2 h'.symm, fun h => ⟨rfl, rfl, fun h' => h h'.symm⟩⟩

/-- Transfers `link_event_is_tick`: every `Link(Burst b)` event of a whole-receiver run (from any
    state) is a receiver tick of the run that reported `.burst b`, at that very sample. -/
theorem run_link_burst_event_is_tick {r r' : FullRx F} {xs : List F} {evs : List Event}
    (hrun : FullRx.run r xs = some (r', evs)) (smp : Nat) (b : List Byte)
    (hev : Event.link smp (.burst b) ∈ evs) :
    ∃ tr, FullRx.trace r xs = some (r', tr) ∧
      ∃ sym, (smp, sym, LinkSt.burst b) ∈ stampedTicks r.cfg.lcfg r.link tr := by
  obtain ⟨tr, t, e, _⟩ := FullRxThm.run_refines_chain' hrun
  rw [e] at hev
  exact ⟨tr, t, link_event_is_tick _ _ _ _ _ hev⟩

/-- Conversely (`burst_tick_emits_link_event` ∘ `rRun_linkState` ∘ refinement): a receiver tick of
    a whole-receiver run that reports `.burst b` emits `Link(Burst b)` unless the tick immediately
    before it (the initial remembered link state, for the first tick) reported the identical burst.
    So the `.burst` ticks and the `Link(Burst)` events of a run correspond one to one except for
    immediate repetitions of an identical burst, which are reported once. -/
theorem run_burst_tick_emits_link_event {r r' : FullRx F} {xs : List F} {evs : List Event}
    {tr : List (Nat × Tick)}
    (hrun : FullRx.run r xs = some (r', evs)) (htr : FullRx.trace r xs = some (r', tr))
    (tpre tpost : List RTick) (smp sym : Nat) (b : List Byte)
    (hsplit : stampedTicks r.cfg.lcfg r.link tr = tpre ++ (smp, sym, .burst b) :: tpost)
    (hprev : (tpre.getLast?.map (·.2.2)).getD r.rx.linkState ≠ .burst b) :
    Event.link smp (.burst b) ∈ evs := by
  obtain ⟨tr', t', e, _⟩ := FullRxThm.run_refines_chain' hrun
  rw [htr] at t'
  cases t'
  rw [e, hsplit, rRun_append, rRun_cons]
  apply List.mem_append_right
  apply List.mem_append_left
  rw [burst_tick_emits_link_event, rRun_linkState]
  exact hprev

/-! ## (C05 / C02 clause) the "report changes only" filter drops no StartOfMessage and no decode error -/

/-- the change filter is lossless in a run from ANY receiver state whose receiver-glue part satisfies
    `RInv` (every state a run from `FullRx.new` passes through does: `run_rInv`) -/
theorem run_change_filter_lossless_gen {r r' : FullRx F} {xs : List F} {evs : List Event}
    (hinv : RInv r.rx) (hrun : FullRx.run r xs = some (r', evs)) :
    ∃ tr, FullRx.trace r xs = some (r', tr) ∧
      ∀ (tpre tpost : List RTick) (smp sym : Nat) (ls : LinkSt) (m : MsgResult),
        stampedTicks r.cfg.lcfg r.link tr = tpre ++ (smp, sym, ls) :: tpost → m ≠ .ok .eom →
        (transportLayer r.cfg.rate (rRun r.cfg.rate r.rx tpre).1 smp sym ls).2 = some (.message m) →
        Event.transport smp (.message m) ∈ evs := by
  obtain ⟨tr, t, e, _⟩ := FullRxThm.run_refines_chain' hrun
  refine ⟨tr, t, ?_⟩
  intro tpre tpost smp sym ls m hsplit hm hout
  have hpre : RInv (rRun r.cfg.rate r.rx tpre).1 := rInv_run r.cfg.rate r.rx tpre hinv
  rw [e, hsplit, rRun_append, rRun_cons]
  apply List.mem_append_right
  apply List.mem_append_left
  rw [mem_tick_transport]
  refine ⟨rfl, hout, ?_⟩
  rw [tl_out_eq] at hout
  exact Chain.msg_out_ne_state _ hpre smp sym ls m hm hout

/-- Transfers `Chain.msg_out_ne_state` (Lemmas/ChainBridge.lean; with `C09.mem_tick_transport` and the
    invariant `RInv`, `rInv_run`).  In a whole-receiver run from `FullRx.new`, whenever the transport
    layer answers a message `m` other than EndOfMessage at a receiver tick (a StartOfMessage or a
    decode error), the change filter of `process()` lets it through: the event is in the run's event
    list, at that tick's sample.  (Only an EndOfMessage answered while EndOfMessage already is the
    reported state can be dropped; the forced one never is: `C09.forced_eom_event`.) -/
theorem run_change_filter_lossless {cfg : RxCfg F} {r0 r' : FullRx F} {xs : List F} {evs : List Event}
    (hnew : FullRx.new cfg = some r0) (hrun : FullRx.run r0 xs = some (r', evs)) :
    ∃ tr, FullRx.trace r0 xs = some (r', tr) ∧
      ∀ (tpre tpost : List RTick) (smp sym : Nat) (ls : LinkSt) (m : MsgResult),
        stampedTicks cfg.lcfg {} tr = tpre ++ (smp, sym, ls) :: tpost → m ≠ .ok .eom →
        (transportLayer cfg.rate (rRun cfg.rate {} tpre).1 smp sym ls).2 = some (.message m) →
        Event.transport smp (.message m) ∈ evs := by
  obtain ⟨hc, hl, hr, _⟩ := FullRx.new_fields hnew
  have h := run_change_filter_lossless_gen (by rw [hr]; exact rInv_init) hrun
  rw [hc, hl, hr] at h
  exact h

end Transfer

/-! ## non-vacuity: the kernel-evaluable run `demoCfg2` / `demoSig` of Thm/FullRx.lean -/

section Demo
open SameVerif.FullRxThm

/-- for the examples only (as in Thm/FullRx.lean; the theorems hold for ANY `Hypot Rat`) -/
local instance : Hypot Rat := FullRxThm.demoHypot

def isSomEvent : Event → Bool
  | .transport _ (.message (.ok (.som _))) => true
  | _ => false

theorem isSomEvent_false {e : Event} (h : isSomEvent e = false) (smp0 : Nat) (hd : Header) :
    e ≠ Event.transport smp0 (.message (.ok (.som hd))) := by
  intro he; subst he; cases h

/-- by evaluation: the run over the 97 samples of `demoSig` reports one event (the link event
    `Searching` at input sample 65, `FullRxThm.demo2_eval`) and no StartOfMessage -/
theorem demo2_no_som :
    (((FullRx.new demoCfg2).bind fun r0 => FullRx.run r0 demoSig).map fun p =>
      (p.2.length, p.2.any isSomEvent)) = some (1, false) := by decide +kernel

/-- `run_no_som_no_forced`, `run_timer_provenance` and `run_bindings_eq_run` on this
    run, by the general theorems: the hypothesis "no StartOfMessage event" holds by evaluation;
    hence every EndOfMessage event of the run would be a decoded trailer, the forced
    end-of-message timer is NOT armed at the end of the run (concluded, not evaluated), and the
    run's single event is what ANY partition of the 97 samples into iterator bindings delivers. -/
example : ∃ r0 r' evs, FullRx.new demoCfg2 = some r0 ∧ FullRx.run r0 demoSig = some (r', evs) ∧
    evs.length = 1 ∧
    (∀ e ∈ evs, ∀ smp0 h, e ≠ Event.transport smp0 (.message (.ok (.som h)))) ∧
    (∀ pre post smp, evs = pre ++ Event.transport smp (.message (.ok .eom)) :: post →
      ∃ tr, FullRx.trace r0 demoSig = some (r', tr) ∧
        ∃ trpre t trpost b, tr = trpre ++ (smp, t) :: trpost
          ∧ (lstep demoCfg2.lcfg (lrunState demoCfg2.lcfg {} (trpre.map (·.2))) t.1 t.2).2.1 = .burst b
          ∧ (aAssemble (rRun demoCfg2.rate {} (stampedTicks demoCfg2.lcfg {} trpre)).1.asm b
                (lstep demoCfg2.lcfg (lrunState demoCfg2.lcfg {} (trpre.map (·.2))) t.1 t.2).1.nsym).2
              = .message (.ok .eom)) ∧
    r'.rx.forceEomAt = none ∧
    (∀ chunks : List (List Rat), chunks.flatten = demoSig →
      (drainChunks progStep (⟨some r0, [], 0⟩ : PRx Rat) chunks).1 = evs) := by
  obtain ⟨r0, h⟩ := fullrx_new_rat (cfg := demoCfg2) (by decide)
  cases hrun : FullRx.run r0 demoSig with
  | none => exact absurd hrun (fullrx_never_panics_rat h (by decide +kernel) (by decide +kernel) _)
  | some p =>
    obtain ⟨r', evs⟩ := p
    have e := demo2_no_som
    rw [h] at e
    simp only [Option.bind_some, hrun, Option.map_some, Option.some.injEq, Prod.mk.injEq] at e
    obtain ⟨hlen, hany⟩ := e
    have hno : ∀ e ∈ evs, ∀ smp0 hd, e ≠ Event.transport smp0 (.message (.ok (.som hd))) := by
      intro e he
      have : isSomEvent e = false := by
        cases hb : isSomEvent e with
        | false => rfl
        | true =>
          have : evs.any isSomEvent = true := List.any_eq_true.2 ⟨e, he, hb⟩
          rw [hany] at this; cases this
      exact isSomEvent_false this
    refine ⟨r0, r', evs, h, hrun, hlen, hno,
      fun pre post smp hev => run_no_som_no_forced h hrun hno pre post smp hev, ?_, ?_⟩
    · cases hT : r'.rx.forceEomAt with
      | none => rfl
      | some T =>
        obtain ⟨E1, smp0, hd, E2, hsplit, _, _⟩ := run_timer_provenance h hrun T hT
        exact absurd rfl (hno _ (by rw [hsplit]; simp) smp0 hd)
    · intro chunks hc
      rw [run_bindings_eq_run hrun chunks hc 0]

end Demo

end SameVerif.FullRxTransferThm
