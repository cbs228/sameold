/-
  Theorems about the whole-program model (`Model/Program.lean`): `samedec` from the bytes of its
  input to the lines it prints and the sample ranges it hands to child processes.

  P1  input conversion: `pcmOfBytes` (length, trailing odd byte, range, chunking at even offsets).
  P3  program level: C11 / C12 restated for `samedec`.
  P2  the `iter_messages` bindings lose nothing and read nothing ahead, for THIS receiver:
      `liveMsgs` = the message events of one uninterrupted run, with their timestamps, and it
      leaves the receiver in that run's final state — without any hypothesis on the run.  (Why the
      fuel of `nextMsg` is `2 * src.length + queue.length + 1`: `src.length + queue.length + 1` is too
      little because one sample can generate two events, `old_fuel_insufficient`.)
  P4  `samedec` fails exactly when `appInputOf` does, and never does under the hypotheses of
      `FullRxThm.fullrx_never_panics`.
  P5  non-vacuity.

  Everything is generic in the number type; no arithmetic law is used except in P4 (`OrderLaws`).
  Helper definitions (`nextMsgG`, `liveMsgsK`, `foldPos`, `owedPos`, `msgsOf`) and
  lemmas are in Lemmas/ProgramFacts.lean.
-/
import SameVerif.Lemmas.ProgramFacts
import SameVerif.Thm.C11
import SameVerif.Thm.C12
import SameVerif.Thm.FullRx

namespace SameVerif.ProgramThm

open SameVerif SameVerif.Dsp Arith

/-! ## P1 input conversion -/

/-- two bytes per sample; what is left over is not a sample -/
theorem pcmOfBytes_length (bs : List UInt8) : (pcmOfBytes bs).length = bs.length / 2 := by
  induction bs using pcmOfBytes.induct with
  | case1 lo hi rest ih =>
    rw [pcmOfBytes_cons2, List.length_cons, ih]
    simp only [List.length_cons]
    omega
  | case2 bs h =>
    obtain ⟨e, hl⟩ := pcmOfBytes_short h
    rw [e, List.length_nil]
    omega

/-- reading in chunks cut at even offsets changes nothing -/
theorem pcmOfBytes_append (bs cs : List UInt8) (h : bs.length % 2 = 0) :
    pcmOfBytes (bs ++ cs) = pcmOfBytes bs ++ pcmOfBytes cs := by
  induction bs using pcmOfBytes.induct with
  | case1 lo hi rest ih =>
    simp only [List.length_cons] at h
    simp only [List.cons_append, pcmOfBytes_cons2]
    rw [ih (by omega)]
  | case2 bs hs =>
    have : bs = [] := List.eq_nil_of_length_eq_zero (by have := (pcmOfBytes_short hs).2; omega)
    subst this
    rfl

/-- a trailing odd byte is dropped -/
theorem pcmOfBytes_odd (bs : List UInt8) (b : UInt8) (h : bs.length % 2 = 0) :
    pcmOfBytes (bs ++ [b]) = pcmOfBytes bs := by
  rw [pcmOfBytes_append bs [b] h, pcmOfBytes_single, List.append_nil]

/-- every sample is an `i16` -/
theorem pcmOfBytes_range (bs : List UInt8) : ∀ v ∈ pcmOfBytes bs, -32768 ≤ v ∧ v ≤ 32767 := by
  induction bs using pcmOfBytes.induct with
  | case1 lo hi rest ih =>
    intro v hv
    rw [pcmOfBytes_cons2] at hv
    rcases List.mem_cons.1 hv with rfl | hv
    · have h1 := lo.toNat_lt
      have h2 := hi.toNat_lt
      split <;> omega
    · exact ih v hv
  | case2 bs h =>
    intro v hv
    rw [(pcmOfBytes_short h).1] at hv
    cases hv

example : pcmOfBytes [0x34, 0x12, 0xFF, 0xFF, 0x00, 0x80, 0x07] = [0x1234, -1, -32768] := by decide

section Prog
variable {F : Type} [Arith F] [Hypot F]

/-! ## P3 program level: C11 and C12 for `samedec` -/

theorem samedec_eq {cfg : RxCfg F} {app : AppCfg} {spawnOk : Nat → Bool} {bytes : List UInt8}
    {out : AppOut} {inp : AppInput}
    (h : samedec cfg app spawnOk bytes = some out) (hi : appInputOf cfg bytes = some inp) :
    out = appRun app spawnOk inp := by
  simp only [samedec, hi, Option.map_some, Option.some.injEq] at h
  exact h.symm

/-- the number of samples: half the number of bytes -/
theorem samedec_n {cfg : RxCfg F} {bytes : List UInt8} {inp : AppInput}
    (hi : appInputOf cfg bytes = some inp) : inp.n = bytes.length / 2 := by
  obtain ⟨_, _, hn, _⟩ := appInputOf_some hi
  rw [hn, List.length_map, pcmOfBytes_length]

/-- not quiet: the printed lines are the messages returned while input lasted, then those of
    the flush, in order, each once -/
theorem samedec_prints {cfg : RxCfg F} {app : AppCfg} {spawnOk : Nat → Bool} {bytes : List UInt8}
    {out : AppOut} {inp : AppInput}
    (h : samedec cfg app spawnOk bytes = some out) (hi : appInputOf cfg bytes = some inp)
    (hq : app.quiet = false) : out.printed = inp.live.map (·.2) ++ inp.flushed := by
  rw [samedec_eq h hi]; exact C11.printed_eq_reference app spawnOk inp hq

/-- quiet: nothing is printed -/
theorem samedec_quiet {cfg : RxCfg F} {app : AppCfg} {spawnOk : Nat → Bool} {bytes : List UInt8}
    {out : AppOut} (h : samedec cfg app spawnOk bytes = some out) (hq : app.quiet = true) :
    out.printed = [] := by
  simp only [samedec, Option.map_eq_some_iff] at h
  obtain ⟨inp, _, rfl⟩ := h
  exact C11.quiet_prints_nothing app spawnOk inp hq

/-- what is printed depends neither on whether a child is configured nor on what the OS does with
    the spawn attempts -/
theorem samedec_child_independent (cfg : RxCfg F) (q hc hc' : Bool) (spawnOk spawnOk' : Nat → Bool)
    (bytes : List UInt8) :
    (samedec cfg ⟨q, hc⟩ spawnOk bytes).map (·.printed)
      = (samedec cfg ⟨q, hc'⟩ spawnOk' bytes).map (·.printed) := by
  have key : ∀ (inp : AppInput) (c : Bool) (s : Nat → Bool),
      (appRun ⟨q, c⟩ s inp).printed = (appRun ⟨q, false⟩ (fun _ => true) inp).printed := by
    intro inp c s
    cases c with
    | true => exact C11.printed_independent_of_child q s _ inp
    | false =>
      rw [← C11.printed_independent_of_child q (fun _ => true) s inp]
      exact C11.printed_independent_of_child q _ _ inp
  simp only [samedec]
  cases appInputOf cfg bytes with
  | none => rfl
  | some inp => simp only [Option.map_some, key inp hc spawnOk, key inp hc' spawnOk']

/-- the positions of the live messages: non-decreasing, within the input (no hypothesis) -/
theorem samedec_positions {cfg : RxCfg F} {bytes : List UInt8} {inp : AppInput}
    (hi : appInputOf cfg bytes = some inp) :
    inp.live.Pairwise (fun a b => a.1 ≤ b.1) ∧ ∀ x ∈ inp.live, x.1 ≤ inp.n := by
  obtain ⟨r0, _, hn, hl, _⟩ := appInputOf_some hi
  rw [hl, hn, liveMsgs_eq_K]
  obtain ⟨h1, h2⟩ := liveMsgsK_pos progStep amsgOfEvent 2
    (((pcmOfBytes bytes).map (ofI16 (F := F))).length + 1) ⟨some r0, [], 0⟩ ((pcmOfBytes bytes).map ofI16)
  refine ⟨h2, fun x hx => ?_⟩
  have := (h1 x hx).2
  simpa using this

/-- C12 for `samedec`: whatever the configuration and the OS, every child's range is well-formed
    and inside the input, `from ≤ to ≤ n`; the ranges do not overlap; and the children are a
    subsequence of the expected ones -/
theorem samedec_children {cfg : RxCfg F} {app : AppCfg} {spawnOk : Nat → Bool} {bytes : List UInt8}
    {out : AppOut} {inp : AppInput}
    (h : samedec cfg app spawnOk bytes = some out) (hi : appInputOf cfg bytes = some inp) :
    (∀ c ∈ out.children, c.2.1 ≤ c.2.2 ∧ c.2.2 ≤ bytes.length / 2) ∧
    out.children.Pairwise (fun a b => a.2.2 ≤ b.2.1) ∧
    out.children.Sublist (expectedChildren inp.n (inp.live ++ inp.flushed.map (fun m => (inp.n, m)))) := by
  obtain ⟨hs, hn⟩ := samedec_positions hi
  obtain ⟨c1, c2, _⟩ := C12.children_contiguous app spawnOk inp hs hn
  rw [samedec_eq h hi, ← samedec_n hi]
  exact ⟨c1, c2, C12.children_sublist_expected app spawnOk inp⟩

/-- a child is configured and every spawn succeeds: exactly one child per StartOfMessage, in
    order, with exactly the expected ranges -/
theorem samedec_children_all {cfg : RxCfg F} {app : AppCfg} {spawnOk : Nat → Bool} {bytes : List UInt8}
    {out : AppOut} {inp : AppInput}
    (h : samedec cfg app spawnOk bytes = some out) (hi : appInputOf cfg bytes = some inp)
    (hc : app.hasChild = true) (hok : ∀ k, spawnOk k = true) :
    out.children = expectedChildren inp.n (inp.live ++ inp.flushed.map (fun m => (inp.n, m))) ∧
    out.children.map (·.1) = (inp.live.map (·.2) ++ inp.flushed).filter AMsg.isSom := by
  rw [samedec_eq h hi]
  exact ⟨C12.children_eq_expected app spawnOk inp hc hok, C12.children_one_per_som app spawnOk inp hc hok⟩

/-- no child configured: no child, no spawn attempt; configured: one attempt per StartOfMessage -/
theorem samedec_spawn_attempts {cfg : RxCfg F} {app : AppCfg} {spawnOk : Nat → Bool} {bytes : List UInt8}
    {out : AppOut} {inp : AppInput}
    (h : samedec cfg app spawnOk bytes = some out) (hi : appInputOf cfg bytes = some inp) :
    (app.hasChild = false → out.children = [] ∧ out.spawnAttempts = 0) ∧
    (app.hasChild = true →
      out.spawnAttempts = (inp.live.map (·.2) ++ inp.flushed).countP AMsg.isSom) := by
  rw [samedec_eq h hi]
  exact ⟨C12.no_child_without_config app spawnOk inp, fun hc => (C12.spawn_attempts_eq_soms app spawnOk inp hc).1⟩

/-! ## P2 the bindings lose nothing and read nothing ahead -/

/-- the events of one uninterrupted run (up to a panic, if there is one) -/
def runEvents (r0 : FullRx F) (xs : List F) : List Event := (foldEvents progStep (some r0) xs).1

theorem runEvents_eq_run {r0 r' : FullRx F} {xs : List F} {evs : List Event}
    (h : FullRx.run r0 xs = some (r', evs)) : runEvents r0 xs = evs := by
  rw [runEvents, foldEvents_progStep_run xs r0 r' evs h]

theorem fold_state_eq_run (r0 : FullRx F) (xs : List F) :
    (foldEvents progStep (some r0) xs).2 = (FullRx.run r0 xs).map (·.1) := by
  cases h : FullRx.run r0 xs with
  | none => rw [foldEvents_progStep_panic xs r0 h]; rfl
  | some p => obtain ⟨r', evs⟩ := p; rw [foldEvents_progStep_run xs r0 r' evs h]; rfl

/-- at most one message per sample (`progStep_msgs_le_one`): a binding that starts with an empty
    queue owes at most as many messages as there are samples -/
theorem live_msgs_le (r0 : FullRx F) (c : Nat) (xs : List F) :
    (msgsOf amsgOfEvent (owedPos progStep (⟨some r0, [], c⟩ : PRx F) xs)).length ≤ xs.length := by
  have := msgsOf_foldPos_le progStep amsgOfEvent progStep_msgs_le_one xs (some r0) c
  simpa only [owedPos, List.map_nil, List.nil_append] using this

/-- **P2.**  The messages `samedec` sees while input lasts, each with the consumed-sample count at
    which the binding returns it, are exactly the message events of one uninterrupted run over the
    same samples, in order, each with its timestamp — however many bindings were created and
    dropped in between, and whether or not the receiver panics on the way.  No hypothesis on the
    run: a sample generates at most two events (`progStep_length_le_two`), which the fuel
    `2 * src.length + queue.length + 1` of `nextMsg` covers, and at most one message
    (`progStep_msgs_le_one`), so an outer fuel of `xs.length` is enough.  (The binding's counter
    starts where the receiver's does.) -/
theorem liveMsgs_eq_fold (r0 : FullRx F) (xs : List F) (fuel : Nat) (hf : xs.length ≤ fuel) :
    (liveMsgs fuel ⟨some r0, [], r0.inputCounter⟩ xs).1
      = (runEvents r0 xs).filterMap (fun e => (amsgOfEvent e).map (fun m => (Event.stamp e, m))) := by
  have ho : owedPos progStep (⟨some r0, [], r0.inputCounter⟩ : PRx F) xs
      = (runEvents r0 xs).map (fun e => (e.stamp, e)) := by
    simp only [owedPos, List.map_nil, List.nil_append, foldPos_progStep, runEvents]
  have hm := live_msgs_le r0 r0.inputCounter xs
  rw [liveMsgs_eq_K, (liveMsgsK_spec progStep amsgOfEvent 2 progStep_length_le_two fuel
    ⟨some r0, [], r0.inputCounter⟩ xs (by omega)).1, ho, msgsOf_stamped]

/-- for a receiver as `FullRx.new` builds it (or after `reset`): the counter starts at 0 -/
theorem liveMsgs_eq_fold_new (r0 : FullRx F) (xs : List F) (fuel : Nat) (h0 : r0.inputCounter = 0)
    (hf : xs.length ≤ fuel) :
    (liveMsgs fuel ⟨some r0, [], 0⟩ xs).1
      = (runEvents r0 xs).filterMap (fun e => (amsgOfEvent e).map (fun m => (Event.stamp e, m))) := by
  rw [← h0]; exact liveMsgs_eq_fold r0 xs fuel hf

theorem liveMsgs_msgs (r0 : FullRx F) (xs : List F) (fuel : Nat) (hf : xs.length ≤ fuel) :
    (liveMsgs fuel ⟨some r0, [], r0.inputCounter⟩ xs).1.map (·.2)
      = (runEvents r0 xs).filterMap amsgOfEvent := by
  rw [liveMsgs_eq_fold r0 xs fuel hf, List.map_filterMap]
  congr 1
  funext e
  cases amsgOfEvent e <;> rfl

/-- **the bindings read the input to its end.**  With an outer fuel of more than `xs.length` (as
    `appInputOf` supplies it) the live loop of `samedec` leaves the receiver in the state one
    uninterrupted run leaves it in (`none` if that run panics), with nothing queued and every sample
    counted — so the flush starts from exactly the state the real program flushes from.  No
    hypothesis on the run. -/
theorem liveMsgs_final (r0 : FullRx F) (xs : List F) (c : Nat) (fuel : Nat) (hf : xs.length < fuel) :
    (liveMsgs fuel ⟨some r0, [], c⟩ xs).2
      = { st := (FullRx.run r0 xs).map (·.1), queue := [], consumed := c + xs.length } := by
  have hm := live_msgs_le r0 c xs
  rw [liveMsgs_eq_K, (liveMsgsK_spec progStep amsgOfEvent 2 progStep_length_le_two fuel
    ⟨some r0, [], c⟩ xs (by omega)).2 (by omega), fold_state_eq_run]

/-- **why the fuel of `nextMsg` in Model/Program.lean is `2 * src.length + queue.length + 1`** (in
    `liveMsgs` and in `flushOnce`; `liveMsgsK` with `k = 2`).  With the fuel
    `src.length + queue.length + 1` (`k = 1`): every sample generates two events, the fifth event is
    the first message; four calls of `next()` do not reach it, and the loop ends without having
    returned it.  The receiver does generate two events on one sample (a link-state change and a
    transport-state change), so with `k = 1` P2 would hold only under a pacing hypothesis; with
    `k = 2` the same input is handled correctly and P2 needs no hypothesis. -/
theorem old_fuel_insufficient :
    (liveMsgsK (fun (s x : Nat) => (s, [x, x])) (fun e => if e = 1 then some e else none) 1
        ([0, 0, 1].length + 1) { st := 0 } [0, 0, 1]).1 = []
    ∧ msgsOf (fun e => if e = 1 then some e else none)
        (owedPos (fun (s x : Nat) => (s, [x, x])) { st := 0 } [0, 0, 1]) = [(3, 1), (3, 1)]
    ∧ (liveMsgsK (fun (s x : Nat) => (s, [x, x])) (fun e => if e = 1 then some e else none) 2
        ([0, 0, 1].length + 1) { st := 0 } [0, 0, 1]).1 = [(3, 1), (3, 1)] := by
  decide

/-- the fuel with `k = 1` can also stop short of the end of the input (two adjacent samples with two
    events each, then a silent one: `3 + 0 + 1` calls are used up by the four events, the third
    sample is never read); with `k = 2` all three are read -/
example :
    (liveMsgsK (fun (s x : Nat) => (s + 1, if x = 0 then [] else [x, x])) (fun _ => (none : Option Nat)) 1
        4 { st := 0 } [2, 2, 0]).2.consumed = 2
    ∧ (liveMsgsK (fun (s x : Nat) => (s + 1, if x = 0 then [] else [x, x])) (fun _ => (none : Option Nat)) 2
        4 { st := 0 } [2, 2, 0]).2.consumed = 3 := by decide

/-- **`flush()`**: one call returns the first message among what is owed on four seconds of zeros
    (queued events first), or nothing if there is none — and then the zeros have been read to
    their end -/
theorem flushOnce_spec (rate : Nat) (r : PRx F) :
    (flushOnce rate r).1
        = ((msgsOf amsgOfEvent (owedPos progStep r (List.replicate (4 * rate) zero))).head?).map (·.2)
    ∧ ((flushOnce rate r).1 = none →
        (flushOnce rate r).2
          = { st := (foldEvents progStep r.st (List.replicate (4 * rate) zero)).2, queue := [],
              consumed := r.consumed + 4 * rate }) := by
  simp only [flushOnce, nextMsg_eq_G]
  rcases nextMsgG_spec progStep amsgOfEvent _ r _
      (owed_lt_fuel progStep 2 progStep_length_le_two r (List.replicate (4 * rate) (zero : F))) with
    ⟨h2, g⟩ | ⟨p, m, rest, r', src', h4, g1, _⟩
  · rw [g, h2]
    simp
  · rw [g1, h4]
    simp

/-- **`samedec` prints exactly the messages the library decodes from those samples, in order**:
    the live part of what is printed is the message events of one uninterrupted run of the
    receiver over the samples (each returned at its timestamp); the rest is what the flush returned. -/
theorem samedec_prints_run {cfg : RxCfg F} {app : AppCfg} {spawnOk : Nat → Bool} {bytes : List UInt8}
    {out : AppOut} {inp : AppInput} {r0 : FullRx F}
    (h : samedec cfg app spawnOk bytes = some out) (hi : appInputOf cfg bytes = some inp)
    (hnew : FullRx.new cfg = some r0) (hq : app.quiet = false) :
    inp.live = (runEvents r0 ((pcmOfBytes bytes).map ofI16)).filterMap
        (fun e => (amsgOfEvent e).map (fun m => (Event.stamp e, m))) ∧
    out.printed = (runEvents r0 ((pcmOfBytes bytes).map ofI16)).filterMap amsgOfEvent ++ inp.flushed := by
  obtain ⟨r0', hn', _, hl, _⟩ := appInputOf_some hi
  rw [hnew] at hn'; cases hn'
  have h0 : r0.inputCounter = 0 := (FullRx.new_fields hnew).2.2.2.1
  have hlive := liveMsgs_eq_fold_new r0 ((pcmOfBytes bytes).map ofI16) _ h0 (Nat.le_succ _)
  have hmsgs := liveMsgs_msgs r0 ((pcmOfBytes bytes).map ofI16) _ (Nat.le_succ _)
  rw [h0] at hmsgs
  exact ⟨by rw [hl, hlive], by rw [samedec_prints h hi hq, hl, hmsgs]⟩

/-- … and the flushed part is what repeated `flush()` calls return starting from the state that
    uninterrupted run ends in (nothing queued, all samples counted) -/
theorem samedec_flushed_run {cfg : RxCfg F} {bytes : List UInt8} {inp : AppInput} {r0 : FullRx F}
    (hi : appInputOf cfg bytes = some inp) (hnew : FullRx.new cfg = some r0) :
    inp.flushed = (flushAll cfg.rate 64
      { st := (FullRx.run r0 ((pcmOfBytes bytes).map ofI16)).map (·.1), queue := [],
        consumed := bytes.length / 2 }).1 := by
  obtain ⟨r0', hn', _, _, hf⟩ := appInputOf_some hi
  rw [hnew] at hn'; cases hn'
  rw [hf, liveMsgs_final r0 _ 0 _ (Nat.lt_succ_self _), Nat.zero_add, List.length_map, pcmOfBytes_length]

/-! ## P4 `samedec` fails exactly when `appInputOf` does: `FullRx.new` fails or the receiver panics -/

theorem samedec_none_iff (cfg : RxCfg F) (app : AppCfg) (spawnOk : Nat → Bool) (bytes : List UInt8) :
    samedec cfg app spawnOk bytes = none ↔ appInputOf cfg bytes = none := by
  simp only [samedec, Option.map_eq_none_iff]

end Prog

section NeverPanics
variable {F : Type} [Arith F] [OrderLaws F] [Hypot F]

/-- under the hypotheses of `FullRxThm.fullrx_never_panics` the receiver state survives every
    sample — the live input and the zeros of every flush alike — so `appInputOf` never fails -/
theorem appInputOf_ne_none {cfg : RxCfg F} {r0 : FullRx F}
    (hnew : FullRx.new cfg = some r0) (hle : le cfg.agcMin cfg.agcMax = true)
    (htl : le r0.tl.periodMin r0.tl.samplesPerTed = true ∧
      le r0.tl.samplesPerTed r0.tl.periodMax = true) (bytes : List UInt8) :
    appInputOf cfg bytes ≠ none := by
  obtain ⟨hl, hinv⟩ := FullRx.new_inv hnew hle htl.1 htl.2
  let P : Option (FullRx F) → Prop := fun s => ∃ rx, s = some rx ∧
    RxInv cfg.dcLen cfg.agcMin cfg.agcMax r0.agc.bandwidth r0.tl.samplesPerTed r0.tl.periodMin r0.tl.periodMax rx
  have hstep : ∀ s x, P s → P (progStep s x).1 := by
    rintro s x ⟨rx, rfl, hrx⟩
    obtain ⟨r', evs, e, hr'⟩ := FullRx.sample_total hrx hl hle htl.1 htl.2 x
    exact ⟨r', by rw [progStep_some_some e], hr'⟩
  intro hnone
  rcases (appInputOf_none_iff cfg bytes).1 hnone with h | ⟨r0', h1, h2⟩
  · rw [hnew] at h; cases h
  · rw [hnew] at h1; cases h1
    have hP := flushAll_pres P hstep cfg.rate 64 _
      (liveMsgs_pres P hstep (((pcmOfBytes bytes).map (ofI16 (F := F))).length + 1) ⟨some r0, [], 0⟩
        ((pcmOfBytes bytes).map ofI16) ⟨r0, rfl, hinv⟩)
    obtain ⟨rx, e, _⟩ := hP
    rw [h2] at e; cases e

/-- **the program model never crashes**, whatever bytes it is fed, whatever the child
    configuration and whatever the OS does -/
theorem samedec_never_panics {cfg : RxCfg F} {r0 : FullRx F}
    (hnew : FullRx.new cfg = some r0) (hle : le cfg.agcMin cfg.agcMax = true)
    (htl : le r0.tl.periodMin r0.tl.samplesPerTed = true ∧
      le r0.tl.samplesPerTed r0.tl.periodMax = true)
    (app : AppCfg) (spawnOk : Nat → Bool) (bytes : List UInt8) :
    samedec cfg app spawnOk bytes ≠ none := by
  rw [ne_eq, samedec_none_iff]; exact appInputOf_ne_none hnew hle htl bytes

end NeverPanics

/-! ### over the rationals: `dcLen ≠ 0`, `0 ≤ sps` and `agc_min ≤ agc_max` suffice -/

theorem samedec_never_panics_rat [Hypot Rat] {cfg : RxCfg Rat} (hdc : cfg.dcLen ≠ 0)
    (hsps : 0 ≤ cfg.sps) (hagc : cfg.agcMin ≤ cfg.agcMax)
    (app : AppCfg) (spawnOk : Nat → Bool) (bytes : List UInt8) :
    samedec cfg app spawnOk bytes ≠ none := by
  obtain ⟨r0, hnew⟩ := FullRxThm.fullrx_new_rat hdc
  exact samedec_never_panics hnew ((rat_le_iff _ _).2 hagc) (FullRxThm.new_tl_ordered_rat hnew hsps)
    app spawnOk bytes

/-! ## P5 non-vacuity -/

section Demo

/-- for the examples only (as in Thm/FullRx.lean; the theorems hold for ANY `Hypot Rat`) -/
local instance : Hypot Rat := FullRxThm.demoHypot

/-- `demoCfg2` of Thm/FullRx.lean with a "sampling rate" of 2 Hz, so that a flush is 8 zeros -/
def demoCfg3 : RxCfg Rat := { FullRxThm.demoCfg2 with rate := 2 }

/-- by evaluation: nine bytes are four samples (1000, -2000, 1500, 300) and a dropped odd byte;
    nothing is decoded, nothing printed, no child -/
theorem demo3_eval :
    (samedec demoCfg3 ⟨false, true⟩ (fun _ => true) [0xE8, 0x03, 0x30, 0xF8, 0xDC, 0x05, 0x2C, 0x01, 0x07]).map
      (fun o => (o.printed, o.children, o.spawnAttempts)) = some ([], [], 0) ∧
    (appInputOf demoCfg3 [0xE8, 0x03, 0x30, 0xF8, 0xDC, 0x05, 0x2C, 0x01, 0x07]).map
      (fun i => (i.n, i.live, i.flushed)) = some (4, [], []) := by
  constructor <;> decide +kernel

/-- … and by the general theorem, for every byte string -/
example (app : AppCfg) (spawnOk : Nat → Bool) (bytes : List UInt8) :
    samedec demoCfg3 app spawnOk bytes ≠ none :=
  samedec_never_panics_rat (by decide) (by decide +kernel) (by decide +kernel) app spawnOk bytes

/-- P2 on the 97 samples of `demoSig` (Thm/FullRx.lean: 48 preamble bits; the receiver reports
    `Searching` at input sample 65).  By evaluation: one event, which is not a message — the loop
    consumes and drops it, returns no message and has counted all 97 samples. -/
theorem demo2_live :
    ((FullRx.new FullRxThm.demoCfg2).map fun r0 =>
      ((runEvents r0 FullRxThm.demoSig).map Event.stamp,
       (liveMsgs 98 ⟨some r0, [], 0⟩ FullRxThm.demoSig).1,
       (liveMsgs 98 ⟨some r0, [], 0⟩ FullRxThm.demoSig).2.consumed)) = some ([65], [], 97) := by
  decide +kernel

/-- … and by the general theorems, which need nothing about the run -/
example : ∃ r0, FullRx.new FullRxThm.demoCfg2 = some r0 ∧
    (runEvents r0 FullRxThm.demoSig).length = 1 ∧
    (liveMsgs 98 ⟨some r0, [], 0⟩ FullRxThm.demoSig).1
      = (runEvents r0 FullRxThm.demoSig).filterMap
          (fun e => (amsgOfEvent e).map (fun m => (Event.stamp e, m))) ∧
    (liveMsgs 98 ⟨some r0, [], 0⟩ FullRxThm.demoSig).2
      = { st := (FullRx.run r0 FullRxThm.demoSig).map (·.1), queue := [], consumed := 0 + 97 } := by
  obtain ⟨r0, h⟩ := FullRxThm.fullrx_new_rat (cfg := FullRxThm.demoCfg2) (by decide)
  have e := demo2_live
  rw [h] at e
  simp only [Option.map_some, Option.some.injEq, Prod.mk.injEq] at e
  have hlen : (runEvents r0 FullRxThm.demoSig).length = 1 := by
    have := congrArg List.length e.1
    simpa using this
  have hl : FullRxThm.demoSig.length = 97 := by decide +kernel
  refine ⟨r0, h, hlen,
    liveMsgs_eq_fold_new r0 _ 98 (FullRx.new_fields h).2.2.2.1 (by rw [hl]; decide), ?_⟩
  rw [liveMsgs_final r0 _ 0 98 (by rw [hl]; decide), hl]

/-- the hypotheses of the P3 theorems can be met: `samedec` and `appInputOf` do return something -/
example : ∃ out inp, samedec demoCfg3 ⟨false, true⟩ (fun _ => true) [1, 2, 3, 4, 5] = some out
    ∧ appInputOf demoCfg3 [1, 2, 3, 4, 5] = some inp ∧ inp.n = 2 := by
  cases hi : appInputOf demoCfg3 [1, 2, 3, 4, 5] with
  | none =>
    exact absurd ((samedec_none_iff demoCfg3 ⟨false, true⟩ (fun _ => true) _).2 hi)
      (samedec_never_panics_rat (by decide) (by decide +kernel) (by decide +kernel) _ _ _)
  | some inp =>
    exact ⟨appRun ⟨false, true⟩ (fun _ => true) inp, inp, by simp [samedec, hi], rfl, samedec_n hi⟩

/-- the conclusions of P3 are not vacuous: an `AppInput` with two live messages and a flushed one,
    through `appRun` — printed in order; one child per StartOfMessage with the expected ranges -/
example :
    let inp : AppInput := ⟨100, [(10, .som [90, 67]), (50, .eom)], [.som [91]]⟩
    (appRun ⟨false, true⟩ (fun _ => true) inp).printed = inp.live.map (·.2) ++ inp.flushed
    ∧ (appRun ⟨false, true⟩ (fun _ => true) inp).printed = [.som [90, 67], .eom, .som [91]]
    ∧ (appRun ⟨false, true⟩ (fun _ => true) inp).children = [(.som [90, 67], 10, 50), (.som [91], 100, 100)]
    ∧ (appRun ⟨true, false⟩ (fun _ => false) inp).printed = [] := by
  decide

/-- the message loop does return messages with their positions, and drops the events that are not
    messages: an abstract step function (sample `x` generates the events `x` and `x + 1`; even events
    are messages) through `liveMsgsK … 2`, which `liveMsgs` is an instance of (`liveMsgs_eq_K`) -/
example :
    (liveMsgsK (fun (s x : Nat) => (s + x, if x = 0 then [] else [x, x + 1]))
        (fun e => if e % 2 = 0 then some e else none) 2 6 { st := 0 } [0, 3, 0, 6, 0]).1
      = [(2, 4), (4, 6)]
    ∧ msgsOf (fun e => if e % 2 = 0 then some e else none)
        (owedPos (fun (s x : Nat) => (s + x, if x = 0 then [] else [x, x + 1])) { st := 0 } [0, 3, 0, 6, 0])
      = [(2, 4), (4, 6)] := by
  decide

end Demo

end SameVerif.ProgramThm
