/-
  Silence returns the receiver to idle, and `flush()` releases a pending message — with the DSP
  INSIDE the model (`Model/FullRx.lean`), over the rationals.

  The theorems about `flush()` (Thm/C14.lean) and about silence (Thm/C10.lean) ASSUME what the float
  front end does on zero samples ("ticks keep coming at the nominal rate", "the power falls below
  the thresholds").  Here these are PROVED for the whole-receiver model with `F = Rat`
  (exact real-number semantics; nothing is claimed about `Float32` rounding), for an ARBITRARY
  `hypot` (only `x - x = 0` is used).

  Z1  `dc_zeros`            the DC blocker forgets: after `2 * len` zeros its state is all-zero, output `0`
  Z2  `front_zeros`         after `2 * dcLen + max 1 mark.length` zeros the front end is empty: AGC output
                            `0`, low-rate samples `0`, soft symbols `0`, estimates `⟨0, 0, 0⟩`
  Z3  `tick_spacing`        ANY input: every `G ≥ 2·periodMax + 2·A + 5/2` consecutive samples contain a
                            symbol tick (`zeros_tick_spacing`: the instance for zeros)
  Z4  `power_decays`, `power_le_one`, `power_below_close`, `default_decay`
  Z5  `zeros_link_idle`, `idle_stays_idle`
  Z6  `flush_from_idle'`, `flush_releases_pending` (what is pending once the receiver has drained),
      `flush_releases_pending_of_no_burst` (what is pending at the START, if the drain reports no burst),
      `flush_budget`; `FlushReleasesPending` (NOT claimed: the case of a frame in progress)

  The invariant `SilInv` (Lemmas/SilenceFacts.lean) holds of every receiver `FullRx.new` builds with
  `0 ≤ sps`, `agcMin ≤ agcMax` (`inv_new`) and is kept by every sample of any input (`sample_keeps_inv`):
  it is the "reachable" of the statements.

  `SilenceAux.no_wedge` and `SilenceAux.LinkInv` (Lemmas/SilenceFacts.lean) are `C10.no_wedge` and the
  invariant of Lemmas/LinkInv.lean, same statements.
-/
import SameVerif.Lemmas.SilenceFacts

namespace SameVerif.SilenceThm

open SameVerif SameVerif.Dsp Arith

/-! ## Z1 the DC blocker on zeros -/

/-- the invariant behind `movavg_exact` ("both running sums are the window sums, both windows have
    length `len`") holds of every DC blocker reachable from `new` by inputs and resets -/
theorem dc_good_reachable {len : Nat} {d0 : DcBlock Rat} (h : DcBlock.new len = some d0)
    (xs : List (Option Rat)) :
    ∃ d outs, dcRun d0 xs = some (d, outs) ∧ MovGood len d.ff ∧ MovGood len d.fb := by
  obtain ⟨hl, rfl⟩ := dc_new_eq_some_iff.1 h
  exact dcGood_run hl xs _ (movGood_new len) (movGood_new len)

/-- **Z1.**  From ANY state with exact running sums and windows of length `len ≥ 1`: `k ≥ 2 * len` zero
    samples never panic, every output from the `2 * len`-th on is `0`, and the final state is the
    all-zero state (windows zero, sums zero). -/
theorem dc_zeros {len : Nat} {d : DcBlock Rat} (hl : 0 < len) (h1 : MovGood len d.ff)
    (h2 : MovGood len d.fb) (k : Nat) (hk : 2 * len ≤ k) :
    ∃ d' outs, dcRun d (List.replicate k (some 0)) = some (d', outs) ∧ outs.length = k ∧
      (∀ i, 2 * len - 1 ≤ i → i < k → outs[i]? = some 0) ∧ DcZero len d' := by
  obtain ⟨d', outs, e, hd, l, o⟩ := dcConst_run hl (Or.inr rfl) k 0 d (dcConst_start h1 h2 0)
  exact ⟨d', outs, e, l, fun i a b => o i b (by omega), dcZero_of_dcConst hd hl (by omega)⟩

/-- the all-zero state is a fixed point: every further zero sample yields `0` -/
theorem dc_zero_fixed {len : Nat} {d : DcBlock Rat} (hl : 0 < len) (h : DcZero len d) :
    ∃ d', d.filter 0 = some (d', 0) ∧ DcZero len d' :=
  dcZero_filter h hl

theorem dcZero_spelled {len : Nat} {d : DcBlock Rat} (h : DcZero len d) :
    d.ff.window = List.replicate len 0 ∧ d.ff.sum = 0 ∧ d.fb.window = List.replicate len 0 ∧ d.fb.sum = 0 :=
  ⟨h.ff.window, h.ff.sum, h.fb.window, h.fb.sum⟩

section Whole
variable [Hypot Rat]

/-! ## the invariant: what "reachable" means below -/

omit [Hypot Rat] in
/-- a receiver built by `new` with `0 ≤ sps`, `agc_min ≤ agc_max` and both proportional loop gains
    bounded by `A` satisfies the invariant, with the period limits `new` computed -/
theorem inv_new {c : RxCfg Rat} {r0 : FullRx Rat} {A : Rat} (hnew : FullRx.new c = some r0)
    (hsps : 0 ≤ c.sps) (hagc : c.agcMin ≤ c.agcMax) (hU : c.alphaU.abs ≤ A) (hL : c.alphaL.abs ≤ A) :
    SilCfg c (c.sps / 2) r0.tl.periodMin r0.tl.periodMax A ∧
      SilInv c (c.sps / 2) r0.tl.periodMin r0.tl.periodMax A r0 ∧ r0.tl.periodMax ≤ c.sps := by
  obtain ⟨dc, agc, tl, pt, e1, e2, e3, e4, rfl⟩ := FullRx.new_eq_some hnew
  obtain ⟨l, e3', t1, t2, t3, t4, _, t6, t7, t8, t9, t10, _⟩ :=
    DspThm.tl_new_bounds c.sps c.alphaU c.betaU c.maxDev hsps
  rw [e3] at e3'; cases e3'
  obtain ⟨hl, rfl⟩ := dc_new_eq_some_iff.1 e1
  obtain ⟨_, _, e2'⟩ := agc_new_some c.agcBw c.agcMin c.agcMax
  rw [e2] at e2'; cases e2'
  obtain ⟨hpt, _⟩ := pt_new_inv e4
  have hA : 0 ≤ A := Rat.le_trans Rat.abs_nonneg hU
  have hg := movGood_new c.dcLen
  have hcfg : SilCfg c (c.sps / 2) tl.periodMin tl.periodMax A :=
    ⟨hl, t7, t1 ▸ t8, t1 ▸ t9, hU, hL⟩
  refine ⟨hcfg, ⟨rfl, hg, hg, hagc, ?_, ?_, hpt, SilenceAux.linkInv_iff.2 linkInv_init, ?_⟩, t10⟩
  · exact t1 ▸ DspThm.tlRInv_new hsps e3 hU
  · have hP := hcfg.pmax0
    unfold tickPot
    simp only [t6, Ted.init]
    rw [if_neg (by omega)]
    have : ((0 : Nat) : Rat) = 0 := rfl
    rw [this]
    grind
  · simp [Demod.new]; omega

/-- every sample of ANY input keeps it (and never panics) -/
theorem sample_keeps_inv {c : RxCfg Rat} {spt pmin pmax A : Rat} {r : FullRx Rat}
    (hc : SilCfg c spt pmin pmax A) (h : SilInv c spt pmin pmax A r) (x : Rat) :
    ∃ r' evs, r.sample x = some (r', evs) ∧ SilInv c spt pmin pmax A r' := by
  obtain ⟨q, sym, _, _, _, e, hinv, _⟩ := sample_R hc h x
  exact ⟨_, _, e, hinv⟩

theorem run_keeps_inv {c : RxCfg Rat} {spt pmin pmax A : Rat} {r : FullRx Rat}
    (hc : SilCfg c spt pmin pmax A) (h : SilInv c spt pmin pmax A r) (xs : List Rat) :
    ∃ r' evs, FullRx.run r xs = some (r', evs) ∧ SilInv c spt pmin pmax A r' := by
  obtain ⟨r', tr, e, h'⟩ := trace_total hc xs r h
  obtain ⟨evs, er, _⟩ := FullRx.trace_run e
  exact ⟨r', evs, er, h'⟩

omit [Hypot Rat] in
theorem inv_spelled {c : RxCfg Rat} {spt pmin pmax A : Rat} {r : FullRx Rat} :
    SilInv c spt pmin pmax A r ↔
      (r.cfg = c ∧ MovGood c.dcLen r.dc.ff ∧ MovGood c.dcLen r.dc.fb ∧ r.agc.minGain ≤ r.agc.maxGain ∧
       TlRInv spt pmin pmax A r.tl ∧ tickPot pmax A r ≤ 2 * pmax + 2 * A + 5 / 2 ∧
       (0 ≤ r.pt.bandwidth ∧ r.pt.bandwidth ≤ 1 ∧ 0 ≤ r.pt.power ∧ r.pt.power ≤ 1) ∧
       SilenceAux.LinkInv r.link ∧ r.demod.window.length ≤ max 1 c.mark.length) :=
  ⟨fun h => ⟨h.cfg, h.ffGood, h.fbGood, h.agc, h.tl, h.pot, ⟨h.pt.bw0, h.pt.bw1, h.pt.pw0, h.pt.pw1⟩, h.link, h.win⟩,
   fun ⟨a, b, c', d, e, f, ⟨g1, g2, g3, g4⟩, i, j⟩ => ⟨a, b, c', d, e, f, ⟨g1, g2, g3, g4⟩, i, j⟩⟩

/-! ## Z2 the front end on zeros -/

/-- **Z2 (a).**  After `N0 = 2 * dcLen + max 1 mark.length` (or more) zero samples the front end is
    empty: DC blocker in its all-zero state, demodulator window all zero. -/
theorem front_zeros {c : RxCfg Rat} {spt pmin pmax A : Rat} {r : FullRx Rat} (hc : SilCfg c spt pmin pmax A)
    (h : SilInv c spt pmin pmax A r) {n : Nat} (hn : 2 * c.dcLen + max 1 c.mark.length ≤ n) :
    ∃ r' tr, FullRx.trace r (zeros n) = some (r', tr) ∧ SilInv c spt pmin pmax A r' ∧
      DcZero c.dcLen r'.dc ∧ (∀ x ∈ r'.demod.window, x = 0) := by
  obtain ⟨r', tr, e, h', hz, _⟩ := zeros_to_quiet hc h hn
  exact ⟨r', tr, e, h', hz.dc, hz.win⟩

/-- **Z2 (b).**  In that state every further zero sample: leaves the state empty; the DC blocker's
    output is `0`, so the AGC's output `y * gain` is `0`; `demod_now()` on the new window is `0`; the
    soft symbol of a symbol estimate is `0`; the TED's newest entry is `0` after the first low-rate
    sample, and from then on every estimate is `⟨0, 0, 0⟩`.  (The timing loop's error input is then
    `clamp (0 - offset / samples_per_ted)`, not `0`: nothing is claimed about the period.) -/
theorem front_zeros_step {c : RxCfg Rat} {spt pmin pmax A : Rat} {r : FullRx Rat}
    (hc : SilCfg c spt pmin pmax A) (h : SilInv c spt pmin pmax A r)
    (hdc : DcZero c.dcLen r.dc) (hwin : ∀ x ∈ r.demod.window, x = 0) :
    ∃ q sym, r.front 0 = some (q, sym) ∧ r.sample 0 = some (FullRx.finish (q, sym)) ∧
      r.dc.filter 0 = some (q.dc, 0) ∧ r.agc.input 0 = some (q.agc, 0) ∧ q.demod.demod = some 0 ∧
      DcZero c.dcLen (FullRx.finish (q, sym)).1.dc ∧
      (∀ x ∈ (FullRx.finish (q, sym)).1.demod.window, x = 0) ∧
      (∀ s, sym = some s → s.sym = 0) ∧
      ((sym ≠ none ∨ r.tl.ted.h2 = 0) → (FullRx.finish (q, sym)).1.tl.ted.h2 = 0) ∧
      (r.tl.ted.h2 = 0 → ∀ s, sym = some s → s = ⟨0, 0, 0⟩) := by
  obtain ⟨q, sym, y, e, hf, es, _⟩ := sample_R hc h 0
  obtain ⟨z1, rfl, z3, z4, z5⟩ := zquiet_step hc h ⟨hdc, hwin⟩ hf
  have hagc := hf.agcEq
  rw [Rat.zero_mul] at hagc
  have hdem : q.demod.demod = some 0 := by
    apply demod_zero
    rw [hf.demod, Rat.zero_mul]
    exact push_all_zero _ hwin
  exact ⟨q, sym, e, es, hf.dcEq, hagc, hdem, z1.dc, z1.win, z3, z4, z5⟩

/-! ## Z3 symbol ticks are never far apart (ANY input) -/

/-- **Z3.**  From any state satisfying the invariant and for ANY input: if `G` (a number of samples)
    is at least `2 * period_max + 2 * A + 5/2`, every `G` consecutive input samples contain a symbol
    tick (a call of `FullRx.symbol`).  `end()` only resets the TED counter, which brings the next tick
    closer. -/
theorem tick_spacing {c : RxCfg Rat} {spt pmin pmax A : Rat} {r : FullRx Rat} (hc : SilCfg c spt pmin pmax A)
    (h : SilInv c spt pmin pmax A r) {G : Nat} (hG : 2 * pmax + 2 * A + 5 / 2 ≤ (G : Rat))
    (xs : List Rat) (hlen : G ≤ xs.length) :
    ∃ r' tr, FullRx.trace r xs = some (r', tr) ∧ 1 ≤ tr.length := by
  obtain ⟨r', tr, e, _⟩ := trace_total hc xs r h
  exact ⟨r', tr, e, ticks_ge hc hG 1 xs r h (by omega) r' tr e⟩

theorem tick_count {c : RxCfg Rat} {spt pmin pmax A : Rat} {r : FullRx Rat} (hc : SilCfg c spt pmin pmax A)
    (h : SilInv c spt pmin pmax A r) {G : Nat} (hG : 2 * pmax + 2 * A + 5 / 2 ≤ (G : Rat))
    (xs : List Rat) (m : Nat) (hlen : m * G ≤ xs.length) :
    ∃ r' tr, FullRx.trace r xs = some (r', tr) ∧ m ≤ tr.length := by
  obtain ⟨r', tr, e, _⟩ := trace_total hc xs r h
  exact ⟨r', tr, e, ticks_ge hc hG m xs r h hlen r' tr e⟩

/-- the sharper, state-dependent form: the tick potential bounds the wait for the next tick -/
theorem next_tick_within {c : RxCfg Rat} {spt pmin pmax A : Rat} {r : FullRx Rat}
    (hc : SilCfg c spt pmin pmax A) (h : SilInv c spt pmin pmax A r) (k : Nat)
    (hk : tickPot pmax A r ≤ (k : Rat)) (xs : List Rat) (hlen : k ≤ xs.length) :
    ∃ r' tr, FullRx.trace r xs = some (r', tr) ∧ 1 ≤ tr.length := by
  obtain ⟨r', tr, e, _⟩ := trace_total hc xs r h
  exact ⟨r', tr, e, tick_within hc xs r k h hk hlen r' tr e⟩

theorem zeros_tick_spacing {c : RxCfg Rat} {spt pmin pmax A : Rat} {r : FullRx Rat}
    (hc : SilCfg c spt pmin pmax A) (h : SilInv c spt pmin pmax A r) {G : Nat}
    (hG : 2 * pmax + 2 * A + 5 / 2 ≤ (G : Rat)) (m : Nat) :
    ∃ r' tr, FullRx.trace r (zeros (m * G)) = some (r', tr) ∧ m ≤ tr.length :=
  tick_count hc h hG _ m (by simp [zeros])

end Whole

/-! ## Z4 the squelch power on zero symbols -/

/-- a zero symbol multiplies the power by `1 - bandwidth` -/
theorem power_decays {p : PowerTracker Rat} (h : PtInv p) (k : Nat) :
    (p.trackZeros k).power = p.power * (1 - p.bandwidth) ^ k ∧
      (p.trackZeros k).power ≤ (1 - p.bandwidth) ^ k := by
  exact ⟨(pt_trackZeros h k).2.2, pt_trackZeros_decay h (Nat.le_refl k)⟩

/-- soft symbols in `[-1, 1]` (what the demodulator's `clamp` guarantees) keep the power in `[0, 1]` -/
theorem power_le_one {p : PowerTracker Rat} (h : PtInv p) {s : Rat} (h1 : -1 ≤ s) (h2 : s ≤ 1) :
    0 ≤ (p.track s).power ∧ (p.track s).power ≤ 1 :=
  ⟨(pt_track_inv h h1 h2).1.pw0, (pt_track_inv h h1 h2).1.pw1⟩

/-- after `k ≥ K` zero symbols both threshold tests fail, when `(1 - bandwidth) ^ K < power_close ≤ power_open`
    (`ge a b` is `b ≤ a`: strictness is needed) -/
theorem power_below_close {p : PowerTracker Rat} (h : PtInv p) {K k : Nat} {pclose popen : Rat}
    (hK : (1 - p.bandwidth) ^ K < pclose) (hco : pclose ≤ popen) (hk : K ≤ k) :
    ge (p.trackZeros k).power popen = false ∧ ge (p.trackZeros k).power pclose = false := by
  have hle := pt_trackZeros_decay h hk
  simp only [ge, rat_le, decide_eq_false_iff_not]
  constructor <;> grind

/-- the defaults: bandwidth `1/8`, `power_close = 1/20`, `power_open = 1/10`: `K = 23` -/
theorem default_decay : ((1 : Rat) - 1 / 8) ^ 23 < 1 / 20 ∧ (1 : Rat) / 20 ≤ 1 / 10 ∧
    ¬ ((1 : Rat) - 1 / 8) ^ 22 < 1 / 20 := by
  refine ⟨by decide +kernel, by decide +kernel, by decide +kernel⟩

section Whole2
variable [Hypot Rat]

/-! ## Z5 silence returns the receiver to idle -/

/-- **Z5.**  From any state satisfying the invariant, `n ≥ N0 + (K + 32) * G` zero samples
    (`N0 = 2 * dcLen + max 1 mark.length`; `K` with `(1 - squelch bandwidth) ^ K < power_close ≤ power_open`;
    `G ≥ 2 * period_max + 2 * A + 5/2`) leave the receiver idle: front end empty, tracked power below
    the closing threshold, link unsynchronised (`clock = none`), unlocked, framer idle. -/
theorem zeros_link_idle {c : RxCfg Rat} {spt pmin pmax A : Rat} {r : FullRx Rat}
    (hc : SilCfg c spt pmin pmax A) (h : SilInv c spt pmin pmax A r) (hco : c.powerClose ≤ c.powerOpen)
    {G K : Nat} (hG : 2 * pmax + 2 * A + 5 / 2 ≤ (G : Rat)) (hK : (1 - r.pt.bandwidth) ^ K < c.powerClose)
    {n : Nat} (hn : 2 * c.dcLen + max 1 c.mark.length + (K + 32) * G ≤ n) :
    ∃ r' tr, FullRx.trace r (zeros n) = some (r', tr) ∧ SilInv c spt pmin pmax A r' ∧ Idle c r' ∧
      r'.link.clock = none ∧ r'.link.lock = false ∧ r'.link.fr = .idle := by
  obtain ⟨r1, t1, e1, h1, z1, b1⟩ := zeros_to_quiet hc h (Nat.le_refl (2 * c.dcLen + max 1 c.mark.length))
  obtain ⟨r2, t2, e2, h2, z2, p2⟩ := zeros_to_lowpower hc h1 z1 hG (b1 ▸ hK) (Nat.le_refl (K * G))
  obtain ⟨r3, t3, e3, h3, i3⟩ := zeros_to_idle hc h2 z2 p2 hco hG (Nat.le_refl (32 * G))
  obtain ⟨r4, t4, e4, h4, i4, _⟩ := Dsp.idle_run hc h3 i3 hco
    (n - (2 * c.dcLen + max 1 c.mark.length + K * G + 32 * G))
  have e := trace_zeros_add (trace_zeros_add (trace_zeros_add e1 e2) e3) e4
  rw [show 2 * c.dcLen + max 1 c.mark.length + K * G + 32 * G +
      (n - (2 * c.dcLen + max 1 c.mark.length + K * G + 32 * G)) = n by
    rw [Nat.add_mul] at hn; omega] at e
  exact ⟨r4, _, e, h4, i4, i4.link.1, i4.link.2.1, i4.link.2.2⟩

/-- **Z5, continued.**  Idle stays idle on zeros, and every further symbol tick reports `NoCarrier`. -/
theorem idle_stays_idle {c : RxCfg Rat} {spt pmin pmax A : Rat} {r : FullRx Rat}
    (hc : SilCfg c spt pmin pmax A) (h : SilInv c spt pmin pmax A r) (hi : Idle c r)
    (hco : c.powerClose ≤ c.powerOpen) (n : Nat) :
    ∃ r' tr, FullRx.trace r (zeros n) = some (r', tr) ∧ SilInv c spt pmin pmax A r' ∧ Idle c r' ∧
      (∀ tk ∈ stampedTicks c.lcfg r.link tr, tk.2.2 = .noCarrier) ∧
      (∀ t ∈ tr, t.2.1 = ⟨true, false, false⟩) := by
  obtain ⟨r', tr, e, h', hi', hnc⟩ := Dsp.idle_run hc h hi hco n
  obtain ⟨_, _, _, z4, z5⟩ := zquiet_run hc n r h hi.quiet r' tr e
  refine ⟨r', tr, e, h', hi', hnc, ?_⟩
  · intro t ht
    have a := z4 t ht
    have b := z5 hi.power hco t.2 (List.mem_map_of_mem ht)
    cases ho : t.2.1 with
    | mk bit o cl => rw [ho] at a b; simp only at a b; rw [a, b.1, b.2]

/-! ## Z6 `flush()` releases a pending message -/

/-- **Z6 from the idle state** (`flush_from_idle`, Lemmas/SilenceFacts.lean): nothing about the front end
    is assumed — ticks keep coming (`tick_spacing`) and report `NoCarrier` (`idle_stays_idle`)
    with consecutive symbol counts, so `C14.flush_releases_consecutive` applies. -/
theorem flush_from_idle' {c : RxCfg Rat} {spt pmin pmax A : Rat} {r : FullRx Rat}
    (hc : SilCfg c spt pmin pmax A) (h : SilInv c spt pmin pmax A r) (hi : Idle c r)
    (hco : c.powerClose ≤ c.powerOpen) {G : Nat} (hG : 2 * pmax + 2 * A + 5 / 2 ≤ (G : Rat))
    (t : Timed MsgResult) (hh : C14.Holding r.rx t) (n : Nat)
    (hforce : ∀ T, r.rx.forceEomAt = some T → r.inputCounter + n ≤ T)
    (hn : max 1 (t.deadline - r.link.nsym) * G ≤ n) :
    ∃ r' evs smp, FullRx.run r (zeros n) = some (r', evs) ∧ SilInv c spt pmin pmax A r' ∧ Idle c r' ∧
      Event.transport smp (.message t.data) ∈ evs :=
  flush_from_idle hc h hi hco hG t hh n hforce hn

/-- **Z6.**  From ANY state satisfying the invariant: the first `n1 = N0 + (K + 32) * G` zero samples
    of the flush leave the receiver idle (Z5), in state `r1` having emitted `ev1`; whatever result `t`
    is pending THEN is emitted by the remaining samples, provided there are `G` of them for every symbol
    count still missing to its deadline (at least `G`) and the forced end-of-message timer does not
    fire within the flush. -/
theorem flush_releases_pending {c : RxCfg Rat} {spt pmin pmax A : Rat} {r : FullRx Rat}
    (hc : SilCfg c spt pmin pmax A) (h : SilInv c spt pmin pmax A r) (hco : c.powerClose ≤ c.powerOpen)
    {G K : Nat} (hG : 2 * pmax + 2 * A + 5 / 2 ≤ (G : Rat)) (hK : (1 - r.pt.bandwidth) ^ K < c.powerClose) :
    ∃ r1 ev1, FullRx.run r (zeros (2 * c.dcLen + max 1 c.mark.length + (K + 32) * G)) = some (r1, ev1) ∧
      SilInv c spt pmin pmax A r1 ∧ Idle c r1 ∧
      r1.inputCounter = r.inputCounter + (2 * c.dcLen + max 1 c.mark.length + (K + 32) * G) ∧
      ∀ (t : Timed MsgResult), C14.Holding r1.rx t → ∀ n2 : Nat,
        (∀ T, r1.rx.forceEomAt = some T →
          r.inputCounter + (2 * c.dcLen + max 1 c.mark.length + (K + 32) * G) + n2 ≤ T) →
        max 1 (t.deadline - r1.link.nsym) * G ≤ n2 →
        ∃ r' ev2 smp,
          FullRx.run r (zeros (2 * c.dcLen + max 1 c.mark.length + (K + 32) * G + n2)) = some (r', ev1 ++ ev2) ∧
          Idle c r' ∧ Event.transport smp (.message t.data) ∈ ev1 ++ ev2 := by
  obtain ⟨r1, t1, e1, h1, i1, _⟩ := zeros_link_idle hc h hco hG hK
    (Nat.le_refl (2 * c.dcLen + max 1 c.mark.length + (K + 32) * G))
  obtain ⟨ev1, er1, _⟩ := FullRx.trace_run e1
  have hcnt := (FullRx.run_timestamps _ r r1 ev1 er1).1
  simp only [zeros, List.length_replicate] at hcnt
  refine ⟨r1, ev1, er1, h1, i1, hcnt, ?_⟩
  intro t hh n2 hforce hn2
  obtain ⟨r', ev2, smp, er2, _, i2, hm⟩ := flush_from_idle hc h1 i1 hco hG t hh n2
    (by intro T hT; rw [hcnt]; exact hforce T hT) hn2
  refine ⟨r', ev2, smp, ?_, i2, List.mem_append_right _ hm⟩
  rw [zeros_add]
  exact FullRx.run_append er1 er2

/-- **Z6, the result pending at the START of the flush.**  From ANY state satisfying the invariant,
    result `t` pending, the timer not firing within the flush.  If the link reports no `Burst` during the
    first `n1 = N0 + (K + 32) * G` samples (no frame was in progress when the flush began, and the
    silence is not taken for one; `Searching`/`Reading`/`NoCarrier` reports are all allowed), then
    `n1 + n2` zero samples emit `.message t.data`, as soon as `n2 ≥ max 1 (deadline - nsym) * G`. -/
theorem flush_releases_pending_of_no_burst {c : RxCfg Rat} {spt pmin pmax A : Rat} {r : FullRx Rat}
    (hc : SilCfg c spt pmin pmax A) (h : SilInv c spt pmin pmax A r) (hco : c.powerClose ≤ c.powerOpen)
    {G K : Nat} (hG : 2 * pmax + 2 * A + 5 / 2 ≤ (G : Rat)) (hK : (1 - r.pt.bandwidth) ^ K < c.powerClose)
    (t : Timed MsgResult) (hh : C14.Holding r.rx t) (n2 : Nat)
    (hforce : ∀ T, r.rx.forceEomAt = some T →
      r.inputCounter + (2 * c.dcLen + max 1 c.mark.length + (K + 32) * G + n2) ≤ T)
    (hn2 : max 1 (t.deadline - r.link.nsym) * G ≤ n2)
    (hnb : ∀ rA trA, FullRx.trace r (zeros (2 * c.dcLen + max 1 c.mark.length + (K + 32) * G)) = some (rA, trA) →
      ∀ tk ∈ stampedTicks c.lcfg r.link trA, ∀ b, tk.2.2 ≠ .burst b) :
    ∃ r' evs smp,
      FullRx.run r (zeros (2 * c.dcLen + max 1 c.mark.length + (K + 32) * G + n2)) = some (r', evs) ∧
      Idle c r' ∧ Event.transport smp (.message t.data) ∈ evs := by
  obtain ⟨rA, trA, eA, hA, iA, _⟩ := zeros_link_idle hc h hco hG hK
    (Nat.le_refl (2 * c.dcLen + max 1 c.mark.length + (K + 32) * G))
  exact flush_no_burst hc h hco hG eA hA iA (hnb rA trA eA) t hh n2 hforce hn2

end Whole2

/-- the sample budget of `flush()` (`4 * rate` samples): if symbol ticks are at most `G` samples apart with
    `G * 1000 ≤ rate * 1000 / 260` (so `4 * rate ≥ 1040 * G`: `C14.flush_ticks`), the front end empties
    within `200 * G` samples, `K ≤ 23` and at most `740` symbol counts are missing to the deadline, then
    the flush is long enough for `flush_releases_pending` -/
theorem flush_budget (rate G N0 K D : Nat) (hg : 0 < G) (hgap : G * 1000 ≤ rate * 1000 / 260)
    (hN0 : N0 ≤ 200 * G) (hK : K ≤ 23) (hD : D ≤ 740) :
    N0 + (K + 32) * G + max 1 D * G ≤ 4 * rate := by
  have h1 := (C14.flush_ticks rate G 0 hg hgap (by omega)).1
  have h2 : 1040 * G ≤ 4 * rate := (Nat.le_div_iff_mul_le hg).1 h1
  have h3 : (K + 32) * G ≤ 55 * G := Nat.mul_le_mul_right G (by omega)
  have h4 : max 1 D * G ≤ 740 * G := Nat.mul_le_mul_right G (by omega)
  omega

/-- NOT claimed: the statement with the pending result held at the START of the flush and NO hypothesis
    on what the link reports while it drains.  `flush_releases_pending_of_no_burst` proves it when no
    `Burst` is reported during the drain.  What is missing is the other case: if a frame was in progress
    the drain reports one `Burst` (`C10.no_wedge_burst_emitted`); that tick goes through `aAssemble`
    and may replace `t` by a better estimate, so the event then carries that estimate's data, not
    `t.data`: with a frame in progress the statement below is not expected to hold as it stands (the
    right conclusion there is "some message whose bursts include those of `t`"). -/
def FlushReleasesPending [Hypot Rat] : Prop :=
  ∀ (c : RxCfg Rat) (spt pmin pmax A : Rat) (r : FullRx Rat) (G K : Nat) (t : Timed MsgResult),
    SilCfg c spt pmin pmax A → SilInv c spt pmin pmax A r → c.powerClose ≤ c.powerOpen →
    2 * pmax + 2 * A + 5 / 2 ≤ (G : Rat) → (1 - r.pt.bandwidth) ^ K < c.powerClose →
    C14.Holding r.rx t → (∀ T, r.rx.forceEomAt = some T → r.inputCounter + 4 * c.rate ≤ T) →
    2 * c.dcLen + max 1 c.mark.length + (K + 32) * G + max 1 (t.deadline - r.link.nsym) * G ≤ 4 * c.rate →
    ∃ r' evs smp, FullRx.run r (zeros (4 * c.rate)) = some (r', evs) ∧
      Event.transport smp (.message t.data) ∈ evs

/-! ## non-vacuity -/

section Demo
open SameVerif.FullRxThm

/-- Z1 by evaluation: a DC blocker of length 3 that heard `7, 7, 7, -2`, then six zeros: the outputs on
    the zeros are `25/9, -11/3, -1/3, 2/9, 0, 0` (zero from the `2 * len - 1`-th zero sample on; `dc_zeros`
    claims it from the `2 * len`-th) and the state is the all-zero one -/
example : ((DcBlock.new 3 : Option (DcBlock Rat)).bind fun d0 =>
      dcRun d0 ([some 7, some 7, some 7, some (-2)] ++ List.replicate 6 (some 0))).map
        (fun p => (p.2.drop 4, p.1.ff.window, p.1.ff.sum, p.1.fb.window, p.1.fb.sum))
      = some ([25 / 9, -11 / 3, -1 / 3, 2 / 9, 0, 0], [0, 0, 0], 0, [0, 0, 0], 0) := by
  decide +kernel

/-- for the examples only: `|a| + |b|` in place of `hypot` (the theorems hold for ANY `Hypot Rat`) -/
local instance demoHypot' : Hypot Rat := ⟨fun a b => a.abs + b.abs⟩

/-- `demoCfg2` (Thm/FullRx.lean: 8000 Hz, 2 samples per symbol, DC blocker of length 1, loop gains 0,
    squelch bandwidth 1/10, thresholds 1/10 and 1/20) meets every hypothesis: `period_max = 5/4`, so
    `G = 5`; `(9/10)^29 < 1/20`, so `K = 29`; `N0 = 4`; `N0 + (K + 32) * G = 309` -/
theorem demo_hyps : ∃ r0, FullRx.new demoCfg2 = some r0 ∧
    SilCfg demoCfg2 (2 / 2) r0.tl.periodMin r0.tl.periodMax 0 ∧
    SilInv demoCfg2 (2 / 2) r0.tl.periodMin r0.tl.periodMax 0 r0 ∧
    2 * r0.tl.periodMax + 2 * 0 + 5 / 2 ≤ ((5 : Nat) : Rat) ∧ r0.pt.bandwidth = 1 / 10 := by
  obtain ⟨r0, h⟩ := fullrx_new_rat (cfg := demoCfg2) (by decide)
  obtain ⟨hc, hi, _⟩ := inv_new (A := 0) h (by decide +kernel) (by decide +kernel) (by decide +kernel)
    (by decide +kernel)
  have e : ((FullRx.new demoCfg2).map fun r0 => (r0.tl.periodMax, r0.pt.bandwidth)) = some (5 / 4, 1 / 10) := by
    decide +kernel
  rw [h] at e
  simp only [Option.map_some, Option.some.injEq, Prod.mk.injEq] at e
  exact ⟨r0, h, hc, hi, by rw [e.1]; decide +kernel, e.2⟩

/-- Z5 by the general theorem: the demo signal (which synchronises the link: `demo2_eval`), then 309
    zeros: the receiver is idle again -/
example : ∃ r0 r1 ev r2 tr, FullRx.new demoCfg2 = some r0 ∧ FullRx.run r0 demoSig = some (r1, ev) ∧
    FullRx.trace r1 (zeros 309) = some (r2, tr) ∧ Idle demoCfg2 r2 ∧
    r2.link.clock = none ∧ r2.link.lock = false ∧ r2.link.fr = .idle ∧ 61 ≤ tr.length := by
  obtain ⟨r0, h0, hc, hi, hG, hb⟩ := demo_hyps
  obtain ⟨r1, tr1, e1, h1⟩ := trace_total hc demoSig r0 hi
  obtain ⟨ev, er, _⟩ := FullRx.trace_run e1
  have hb1 := trace_bw hc _ r0 hi r1 tr1 e1
  obtain ⟨r2, tr, e2, h2, i2, l1, l2, l3⟩ := zeros_link_idle (K := 29) (n := 309) hc h1 (by decide +kernel) hG
    (by rw [hb1, hb]; decide +kernel) (by decide)
  have hlen := ticks_ge hc hG 61 (zeros 309) r1 h1 (by simp only [zeros, List.length_replicate]; omega) r2 tr e2
  exact ⟨r0, r1, ev, r2, tr, h0, er, e2, i2, l1, l2, l3, hlen⟩

/-- … and by evaluation: after the demo signal the byte clock runs; 309 zeros later it is stopped, the
    lock released and the power below the closing threshold — while 60 zeros are not enough -/
example :
    (((FullRx.new demoCfg2).bind fun r0 => FullRx.run r0 demoSig).map fun p =>
      (p.1.link.clock.isSome, decide (p.1.pt.power < 1 / 20))) = some (true, false) ∧
    (((FullRx.new demoCfg2).bind fun r0 => FullRx.run r0 (demoSig ++ zeros 309)).map fun p =>
      (p.1.link.clock, p.1.link.lock, decide (p.1.pt.power < 1 / 20), p.1.demod.window, p.1.dc.ff.window))
        = some (none, false, true, [0, 0], [0]) ∧
    (((FullRx.new demoCfg2).bind fun r0 => FullRx.run r0 (demoSig ++ zeros 60)).map fun p =>
      p.1.link.clock.isSome) = some true := by
  refine ⟨by decide +kernel, by decide +kernel, by decide +kernel⟩

end Demo

end SameVerif.SilenceThm
