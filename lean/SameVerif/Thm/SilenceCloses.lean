/-
  C09, first sentence — "Every StartOfMessage is eventually closed" — for the WHOLE-receiver model
  over the rationals (`Model/FullRx.lean`, DSP inside the model), once the channel goes quiet.

  Thm/C09.lean proves the property for the receiver glue (`rRun`): after a StartOfMessage at sample
  `p`, the first `NoCarrier` tick stamped beyond `p + 135 * rate` forces an EndOfMessage, unless the
  message was closed (or superseded by a newer StartOfMessage) before.  It ASSUMES such a tick comes.
  Finding F9 (Thm/C09.lean `search_restart_unbounded`, Thm/C09busy.lean) shows that a carrier that
  keeps the link busy postpones it for ever: the assumption cannot be dropped, it can only be
  discharged for inputs that go quiet.  Thm/Silence.lean proves what silence does to the whole
  receiver: symbol ticks keep coming (`tick_spacing`, ANY input), `N0 + (K + 32) * G` zero samples
  leave the receiver idle (`zeros_link_idle`), and from then on every tick reports `NoCarrier`
  (`idle_stays_idle`).  Here the two are composed.

  S1  `noCarrier_tick_after`     from any reachable state, enough zeros contain a `NoCarrier` tick
                                 stamped beyond any given deadline `T`
  S2  `som_closed_once_silent`   THE THEOREM: ANY audio whose events contain a StartOfMessage stamped
                                 `p`, ANY further audio, then `n ≥ N0 + (K + 32) * G + G` zeros (the
                                 receiver drains, one more tick) lasting until `G` samples beyond
                                 `p + 135 * rate`: the events after that StartOfMessage contain an
                                 EndOfMessage or a newer StartOfMessage
  S3  `som_closed_from_new`      the same from `FullRx.new cfg`, hypotheses on the configuration only
  S4  non-vacuity                `demoCfg2` meets the hypotheses (`demo_closes`); at the `rRun` level
                                 the conclusion is witnessed by C09's concrete run (forced EndOfMessage),
                                 and without the late `NoCarrier` tick there is no closing event

  `N0 = 2 * dcLen + max 1 mark.length`; `K` with `(1 - squelch bandwidth) ^ K < power_close ≤ power_open`;
  `G ≥ 2 * period_max + 2 * A + 5/2` samples (`A` bounds both proportional loop gains): every `G`
  samples contain a symbol tick.  Exact real-number semantics (`Rat`), arbitrary `hypot`; nothing is
  claimed about `Float32` rounding.
-/
import SameVerif.Lemmas.SilenceClosesFacts

namespace SameVerif.SilenceClosesThm

open SameVerif SameVerif.Dsp Arith SameVerif.SilenceThm

/-- the timeout constant of `closed_within` -/
example : Gen.MAX_MESSAGE_DURATION_SECS = 135 := rfl

/-! ## receiver-glue level (`rRun`): an event comes from a tick; C09 with the tick located -/

theorem event_from_tick (rate : Nat) (T : List RTick) (s : RState) (x : Event) (h : x ∈ (rRun rate s T).2) :
    ∃ pre post smp sym ls, T = pre ++ (smp, sym, ls) :: post ∧
      x ∈ (rTick rate (rRun rate s pre).1 smp sym ls).2 := by
  obtain ⟨a, b, e⟩ := List.append_of_mem h
  obtain ⟨pre, smp, sym, ls, post, u, v, hT, hu, _, _⟩ := RxProv.run_event_split rate T s a x b e
  exact ⟨pre, post, smp, sym, ls, hT, by rw [hu]; simp⟩

/-- `C09.closed_within` with the StartOfMessage located by its POSITION in the event list, and the
    late `NoCarrier` tick in a later run -/
theorem closed_after_event (rate : Nat) (s0 : RState) (T1 mid : List RTick) (a b : List Event)
    (p : Nat) (h : Header) (sample sym : Nat)
    (he : (rRun rate s0 T1).2 = a ++ Event.transport p (.message (.ok (.som h))) :: b)
    (hlate : sample > p + Gen.MAX_MESSAGE_DURATION_SECS * rate) :
    ∃ e ∈ b ++ (rRun rate (rRun rate s0 T1).1 (mid ++ [(sample, sym, .noCarrier)])).2, C09.Closes e := by
  obtain ⟨pre, symp, ls, post, v, hT, hmem, hb⟩ := som_event_tick rate s0 T1 a b p h he
  obtain ⟨e, hmem', hcl⟩ := C09.closed_within rate s0 pre (post ++ mid) p symp ls h sample sym hmem hlate
  refine ⟨e, ?_, hcl⟩
  have hst : (rRun rate s0 T1).1 = (rRun rate (rTick rate (rRun rate s0 pre).1 p symp ls).1 post).1 := by
    rw [hT, rRun_append, rRun_cons]
  rw [List.append_assoc, rRun_append] at hmem'
  dsimp only at hmem'
  rw [hst, hb, List.append_assoc]
  exact List.mem_append_right _ hmem'

section Whole
variable [Hypot Rat]

/-! ## S1 a `NoCarrier` tick beyond any deadline -/

/-- **S1.**  From any state satisfying the invariant and for any deadline `T` (a sample count): `n`
    zero samples with `n ≥ N0 + (K + 32) * G + G` and `counter + n ≥ T + G` never panic, leave the
    receiver idle, and the receiver ticks of the run (`stampedTicks` of the trace: stamp = input
    sample counter, symbol count, reported link state) contain a tick reporting `NoCarrier` whose
    stamp exceeds `T`. -/
theorem noCarrier_tick_after {c : RxCfg Rat} {spt pmin pmax A : Rat} {r : FullRx Rat}
    (hc : SilCfg c spt pmin pmax A) (h : SilInv c spt pmin pmax A r) (hco : c.powerClose ≤ c.powerOpen)
    {G K : Nat} (hG : 2 * pmax + 2 * A + 5 / 2 ≤ (G : Rat)) (hK : (1 - r.pt.bandwidth) ^ K < c.powerClose)
    (T : Nat) {n : Nat} (hn1 : 2 * c.dcLen + max 1 c.mark.length + (K + 32) * G + G ≤ n)
    (hn2 : T + G ≤ r.inputCounter + n) :
    ∃ r' tr, FullRx.trace r (List.replicate n 0) = some (r', tr) ∧ SilInv c spt pmin pmax A r' ∧ Idle c r' ∧
      ∃ stamp sym, (stamp, sym, LinkSt.noCarrier) ∈ stampedTicks c.lcfg r.link tr ∧ T < stamp := by
  obtain ⟨r', tr, e, h', i', tk, hm, hnc, hT⟩ := noCarrier_tick_after_aux hc h hco hG hK T hn1 hn2
  obtain ⟨stamp, sym, st⟩ := tk
  dsimp only at hnc hT
  subst hnc
  exact ⟨r', tr, e, h', i', stamp, sym, hm, hT⟩

/-! ## S2 every StartOfMessage is closed once the channel has gone quiet -/

/-- **S2, THE THEOREM.**  `r0` satisfies the invariant (e.g. freshly built: `inv_new`).  ANY audio `xs`
    is processed, and its event list `e1` is `a ++ StartOfMessage(h) at sample p :: b`.  ANY further
    audio `ys` (the voice message, noise, more bursts) is processed, events `e2`.  Then `n` zero samples
    with

      (a) `n ≥ N0 + (K + 32) * G + G`,
      (b) `r0.inputCounter + |xs| + |ys| + n ≥ p + 135 * rate + G`

    (the silence lasts until `G` samples beyond 135 s after the StartOfMessage) never panic, leave the
    receiver idle, and the events AFTER that StartOfMessage — `b`, `e2`, and the events `e3` of the
    silence — contain an EndOfMessage or a newer StartOfMessage. -/
theorem som_closed_once_silent {c : RxCfg Rat} {spt pmin pmax A : Rat} {r0 r1 r2 : FullRx Rat}
    (hc : SilCfg c spt pmin pmax A) (h0 : SilInv c spt pmin pmax A r0) (hco : c.powerClose ≤ c.powerOpen)
    {G K : Nat} (hG : 2 * pmax + 2 * A + 5 / 2 ≤ (G : Rat)) (hK : (1 - r0.pt.bandwidth) ^ K < c.powerClose)
    {xs ys : List Rat} {e1 e2 : List Event}
    (hx : FullRx.run r0 xs = some (r1, e1)) (hy : FullRx.run r1 ys = some (r2, e2))
    {p : Nat} {h : Header} {a b : List Event}
    (hsom : e1 = a ++ Event.transport p (.message (.ok (.som h))) :: b)
    {n : Nat} (hn1 : 2 * c.dcLen + max 1 c.mark.length + (K + 32) * G + G ≤ n)
    (hn2 : p + Gen.MAX_MESSAGE_DURATION_SECS * c.rate + G ≤ r0.inputCounter + xs.length + ys.length + n) :
    ∃ r3 e3, FullRx.run r2 (List.replicate n 0) = some (r3, e3) ∧ SilInv c spt pmin pmax A r3 ∧ Idle c r3 ∧
      ∃ e ∈ b ++ e2 ++ e3, C09.Closes e := by
  -- the invariant along the way
  obtain ⟨r1', _, hx', h1⟩ := run_keeps_inv hc h0 xs
  rw [hx] at hx'; cases hx'
  obtain ⟨r2', _, hy', h2⟩ := run_keeps_inv hc h1 ys
  rw [hy] at hy'; cases hy'
  obtain ⟨tr1, t1, _, _, l1⟩ := FullRxThm.run_refines_chain' hx
  obtain ⟨tr2, t2, _, _, l2⟩ := FullRxThm.run_refines_chain' hy
  -- squelch bandwidth and sample counter at the start of the silence
  have b1 := trace_bw hc xs r0 h0 r1 tr1 t1
  have b2 := trace_bw hc ys r1 h1 r2 tr2 t2
  have c1 := (FullRxThm.run_timestamps hx).1
  have c2 := (FullRxThm.run_timestamps hy).1
  -- S1: a late `NoCarrier` tick in the silence
  obtain ⟨r3, tr3, t3, h3, i3, stamp, sym, hm, hT⟩ :=
    noCarrier_tick_after hc h2 hco hG (by rw [b2, b1]; exact hK)
      (p + Gen.MAX_MESSAGE_DURATION_SECS * c.rate) hn1 (by rw [c2, c1]; exact hn2)
  obtain ⟨e3, er3, _⟩ := FullRx.trace_run t3
  refine ⟨r3, e3, er3, h3, i3, ?_⟩
  -- the three runs are one run, whose receiver ticks have increasing stamps: `closed_within_of_event`
  have t := FullRx.trace_append (FullRx.trace_append t1 t2) t3
  obtain ⟨tr, t', ev, _⟩ := FullRxThm.run_refines_chain' (FullRx.run_append (FullRx.run_append hx hy) er3)
  rw [t] at t'
  cases t'
  rw [h0.cfg] at ev l1
  rw [h1.cfg] at l2
  have hmem : (stamp, sym, LinkSt.noCarrier) ∈ stampedTicks c.lcfg r0.link (tr1 ++ tr2 ++ tr3) := by
    rw [stampedTicks_append, List.map_append, lrunState_append, ← l1, ← l2]
    exact List.mem_append_right _ hm
  obtain ⟨e, he, hcl, _⟩ := closed_within_of_event c.rate r0.rx _ (h0.cfg ▸ (FullRx.trace_ticks_stamps t).1)
    a (b ++ e2 ++ e3) p h (by rw [← ev, hsom]; simp) _ hmem rfl hT
  exact ⟨e, he, hcl⟩

/-- **S2, membership form**: for ANY StartOfMessage event of the first run there is a position of it
    in the event list after which a closing event follows -/
theorem som_closed_once_silent_mem {c : RxCfg Rat} {spt pmin pmax A : Rat} {r0 r1 r2 : FullRx Rat}
    (hc : SilCfg c spt pmin pmax A) (h0 : SilInv c spt pmin pmax A r0) (hco : c.powerClose ≤ c.powerOpen)
    {G K : Nat} (hG : 2 * pmax + 2 * A + 5 / 2 ≤ (G : Rat)) (hK : (1 - r0.pt.bandwidth) ^ K < c.powerClose)
    {xs ys : List Rat} {e1 e2 : List Event}
    (hx : FullRx.run r0 xs = some (r1, e1)) (hy : FullRx.run r1 ys = some (r2, e2))
    {p : Nat} {h : Header} (hsom : Event.transport p (.message (.ok (.som h))) ∈ e1)
    {n : Nat} (hn1 : 2 * c.dcLen + max 1 c.mark.length + (K + 32) * G + G ≤ n)
    (hn2 : p + Gen.MAX_MESSAGE_DURATION_SECS * c.rate + G ≤ r0.inputCounter + xs.length + ys.length + n) :
    ∃ r3 e3 a b, FullRx.run r2 (List.replicate n 0) = some (r3, e3) ∧ Idle c r3 ∧
      e1 = a ++ Event.transport p (.message (.ok (.som h))) :: b ∧
      ∃ e ∈ b ++ e2 ++ e3, C09.Closes e := by
  obtain ⟨a, b, hab⟩ := List.append_of_mem hsom
  obtain ⟨r3, e3, er, _, i3, hcl⟩ := som_closed_once_silent hc h0 hco hG hK hx hy hab hn1 hn2
  exact ⟨r3, e3, a, b, er, i3, hab, hcl⟩

/-- the special case `ys = []`: silence directly after the audio that contained the StartOfMessage -/
theorem som_closed_silence_follows {c : RxCfg Rat} {spt pmin pmax A : Rat} {r0 r1 : FullRx Rat}
    (hc : SilCfg c spt pmin pmax A) (h0 : SilInv c spt pmin pmax A r0) (hco : c.powerClose ≤ c.powerOpen)
    {G K : Nat} (hG : 2 * pmax + 2 * A + 5 / 2 ≤ (G : Rat)) (hK : (1 - r0.pt.bandwidth) ^ K < c.powerClose)
    {xs : List Rat} {e1 : List Event} (hx : FullRx.run r0 xs = some (r1, e1))
    {p : Nat} {h : Header} {a b : List Event}
    (hsom : e1 = a ++ Event.transport p (.message (.ok (.som h))) :: b)
    {n : Nat} (hn1 : 2 * c.dcLen + max 1 c.mark.length + (K + 32) * G + G ≤ n)
    (hn2 : p + Gen.MAX_MESSAGE_DURATION_SECS * c.rate + G ≤ r0.inputCounter + xs.length + n) :
    ∃ r3 e3, FullRx.run r1 (List.replicate n 0) = some (r3, e3) ∧ Idle c r3 ∧
      ∃ e ∈ b ++ e3, C09.Closes e := by
  obtain ⟨r3, e3, er, _, i3, hcl⟩ := som_closed_once_silent (ys := []) (e2 := []) hc h0 hco hG hK hx rfl hsom hn1
    (by simpa using hn2)
  exact ⟨r3, e3, er, i3, by simpa using hcl⟩

/-- the whole input as ONE run: `xs ++ ys ++ zeros`; its event list is `e1 ++ e2 ++ e3` -/
theorem som_closed_one_run {c : RxCfg Rat} {spt pmin pmax A : Rat} {r0 r1 r2 : FullRx Rat}
    (hc : SilCfg c spt pmin pmax A) (h0 : SilInv c spt pmin pmax A r0) (hco : c.powerClose ≤ c.powerOpen)
    {G K : Nat} (hG : 2 * pmax + 2 * A + 5 / 2 ≤ (G : Rat)) (hK : (1 - r0.pt.bandwidth) ^ K < c.powerClose)
    {xs ys : List Rat} {e1 e2 : List Event}
    (hx : FullRx.run r0 xs = some (r1, e1)) (hy : FullRx.run r1 ys = some (r2, e2))
    {p : Nat} {h : Header} {a b : List Event}
    (hsom : e1 = a ++ Event.transport p (.message (.ok (.som h))) :: b)
    {n : Nat} (hn1 : 2 * c.dcLen + max 1 c.mark.length + (K + 32) * G + G ≤ n)
    (hn2 : p + Gen.MAX_MESSAGE_DURATION_SECS * c.rate + G ≤ r0.inputCounter + xs.length + ys.length + n) :
    ∃ r3 rest, FullRx.run r0 (xs ++ ys ++ List.replicate n 0)
        = some (r3, a ++ Event.transport p (.message (.ok (.som h))) :: rest) ∧ Idle c r3 ∧
      ∃ e ∈ rest, C09.Closes e := by
  obtain ⟨r3, e3, er, _, i3, hcl⟩ := som_closed_once_silent hc h0 hco hG hK hx hy hsom hn1 hn2
  refine ⟨r3, b ++ e2 ++ e3, ?_, i3, hcl⟩
  rw [FullRx.run_append (FullRx.run_append hx hy) er, hsom]
  simp

/-! ## S3 from a freshly built receiver -/

/-- **S3, sharp form.**  A receiver built by `FullRx.new` with `0 ≤ sps`, `agc_min ≤ agc_max`, both
    proportional loop gains bounded by `A`; `G` and `K` in terms of the period limit and squelch
    bandwidth `new` computed.  The sample counter starts at `0`, so (b) reads
    `|xs| + |ys| + n ≥ p + 135 * rate + G`. -/
theorem som_closed_from_new' {cfg : RxCfg Rat} {r0 r1 r2 : FullRx Rat} {A : Rat}
    (hnew : FullRx.new cfg = some r0) (hsps : 0 ≤ cfg.sps) (hagc : cfg.agcMin ≤ cfg.agcMax)
    (hU : cfg.alphaU.abs ≤ A) (hL : cfg.alphaL.abs ≤ A) (hco : cfg.powerClose ≤ cfg.powerOpen)
    {G K : Nat} (hG : 2 * r0.tl.periodMax + 2 * A + 5 / 2 ≤ (G : Rat))
    (hK : (1 - r0.pt.bandwidth) ^ K < cfg.powerClose)
    {xs ys : List Rat} {e1 e2 : List Event}
    (hx : FullRx.run r0 xs = some (r1, e1)) (hy : FullRx.run r1 ys = some (r2, e2))
    {p : Nat} {h : Header} {a b : List Event}
    (hsom : e1 = a ++ Event.transport p (.message (.ok (.som h))) :: b)
    {n : Nat} (hn1 : 2 * cfg.dcLen + max 1 cfg.mark.length + (K + 32) * G + G ≤ n)
    (hn2 : p + Gen.MAX_MESSAGE_DURATION_SECS * cfg.rate + G ≤ xs.length + ys.length + n) :
    ∃ r3 e3, FullRx.run r2 (List.replicate n 0) = some (r3, e3) ∧ Idle cfg r3 ∧
      ∃ e ∈ b ++ e2 ++ e3, C09.Closes e := by
  obtain ⟨hc, hi, _⟩ := inv_new hnew hsps hagc hU hL
  obtain ⟨_, _, _, hcnt, _⟩ := FullRx.new_fields hnew
  obtain ⟨r3, e3, er, _, i3, hcl⟩ := som_closed_once_silent hc hi hco hG hK hx hy hsom hn1
    (by rw [hcnt, Nat.zero_add]; exact hn2)
  exact ⟨r3, e3, er, i3, hcl⟩

omit [Hypot Rat] in
/-- the squelch bandwidth `new` stores is the configured one when that is in `[0, 1]` -/
theorem new_bandwidth {cfg : RxCfg Rat} {r0 : FullRx Rat} (hnew : FullRx.new cfg = some r0)
    (hb0 : 0 ≤ cfg.squelchBw) (hb1 : cfg.squelchBw ≤ 1) : r0.pt.bandwidth = cfg.squelchBw := by
  obtain ⟨dc, agc, tl, pt, _, _, _, e4, rfl⟩ := FullRx.new_eq_some hnew
  obtain ⟨y, ey, _, _, hy⟩ := clamp_rat (x := cfg.squelchBw) (lo := 0) (hi := 1) (by decide +kernel)
  simp only [PowerTracker.new, rat_zero, rat_one, ey, Option.map_some, Option.some.injEq] at e4
  subst e4
  exact hy hb0 hb1

/-- **S3.**  Hypotheses on the configuration only: `0 ≤ sps`, `agc_min ≤ agc_max`, `|alpha| ≤ A` for
    both loop bandwidths, squelch bandwidth in `[0, 1]` with `(1 - bw) ^ K < power_close ≤ power_open`,
    `G ≥ 2 * sps + 2 * A + 5/2` (`period_max ≤ sps`).  (`0 < dcLen` follows from `new` succeeding.) -/
theorem som_closed_from_new {cfg : RxCfg Rat} {r0 r1 r2 : FullRx Rat} {A : Rat}
    (hnew : FullRx.new cfg = some r0) (hsps : 0 ≤ cfg.sps) (hagc : cfg.agcMin ≤ cfg.agcMax)
    (hU : cfg.alphaU.abs ≤ A) (hL : cfg.alphaL.abs ≤ A)
    (hb0 : 0 ≤ cfg.squelchBw) (hb1 : cfg.squelchBw ≤ 1) (hco : cfg.powerClose ≤ cfg.powerOpen)
    {G K : Nat} (hG : 2 * cfg.sps + 2 * A + 5 / 2 ≤ (G : Rat))
    (hK : (1 - cfg.squelchBw) ^ K < cfg.powerClose)
    {xs ys : List Rat} {e1 e2 : List Event}
    (hx : FullRx.run r0 xs = some (r1, e1)) (hy : FullRx.run r1 ys = some (r2, e2))
    {p : Nat} {h : Header} {a b : List Event}
    (hsom : e1 = a ++ Event.transport p (.message (.ok (.som h))) :: b)
    {n : Nat} (hn1 : 2 * cfg.dcLen + max 1 cfg.mark.length + (K + 32) * G + G ≤ n)
    (hn2 : p + Gen.MAX_MESSAGE_DURATION_SECS * cfg.rate + G ≤ xs.length + ys.length + n) :
    ∃ r3 e3, FullRx.run r2 (List.replicate n 0) = some (r3, e3) ∧ Idle cfg r3 ∧
      ∃ e ∈ b ++ e2 ++ e3, C09.Closes e := by
  obtain ⟨_, _, hpm⟩ := inv_new hnew hsps hagc hU hL
  exact som_closed_from_new' hnew hsps hagc hU hL hco (G := G) (K := K) (by grind)
    (by rw [new_bandwidth hnew hb0 hb1]; exact hK) hx hy hsom hn1 hn2

end Whole

/-! ## S4 non-vacuity -/

section Demo
open SameVerif.FullRxThm

/-- for the examples only: `|a| + |b|` in place of `hypot` (the theorems hold for ANY `Hypot Rat`) -/
local instance demoHypot'' : Hypot Rat := ⟨fun a b => a.abs + b.abs⟩

/-- `demoCfg2` (Thm/FullRx.lean: 8000 Hz, 2 samples per symbol) meets every hypothesis of
    `som_closed_from_new'` with `A = 0`, `G = 5`, `K = 29`: `N0 + (K + 32) * G + G = 314`, the timeout is
    `135 * 8000 = 1080000` samples.  So for ANY audio `xs`, `ys` and ANY StartOfMessage at `p` in the
    events of `xs`: `n ≥ 314` zeros reaching sample `p + 1080005` close it. -/
theorem demo_closes {r0 r1 r2 : FullRx Rat} (hnew : FullRx.new demoCfg2 = some r0)
    {xs ys : List Rat} {e1 e2 : List Event}
    (hx : FullRx.run r0 xs = some (r1, e1)) (hy : FullRx.run r1 ys = some (r2, e2))
    {p : Nat} {h : Header} {a b : List Event}
    (hsom : e1 = a ++ Event.transport p (.message (.ok (.som h))) :: b)
    {n : Nat} (hn1 : 314 ≤ n) (hn2 : p + 1080005 ≤ xs.length + ys.length + n) :
    ∃ r3 e3, FullRx.run r2 (List.replicate n 0) = some (r3, e3) ∧ Idle demoCfg2 r3 ∧
      ∃ e ∈ b ++ e2 ++ e3, C09.Closes e := by
  obtain ⟨r0', h0', _, _, hG, hb⟩ := demo_hyps
  rw [hnew] at h0'; cases h0'
  exact som_closed_from_new' (A := 0) (G := 5) (K := 29) hnew (by decide +kernel) (by decide +kernel)
    (by decide +kernel) (by decide +kernel) (by decide +kernel) hG (by rw [hb]; decide +kernel)
    hx hy hsom hn1 hn2

/-- the hypotheses on the runs are satisfiable too: the receiver exists and NO audio makes it panic
    (`run_keeps_inv`), so `hx`, `hy` hold for every `xs`, `ys` with the events the runs produce -/
example (xs ys : List Rat) : ∃ r0 r1 r2 e1 e2, FullRx.new demoCfg2 = some r0 ∧
    FullRx.run r0 xs = some (r1, e1) ∧ FullRx.run r1 ys = some (r2, e2) := by
  obtain ⟨r0, h0, hc, hi, _, _⟩ := demo_hyps
  obtain ⟨r1, e1, hx, h1⟩ := run_keeps_inv hc hi xs
  obtain ⟨r2, e2, hy, _⟩ := run_keeps_inv hc h1 ys
  exact ⟨r0, r1, r2, e1, e2, h0, hx, hy⟩

/-- S1 on the demo receiver, by the general theorem: after the demo signal (97 samples, the link
    synchronised), 1000 zeros contain a `NoCarrier` tick stamped beyond sample 900 -/
example : ∃ r0 r1 ev r2 tr stamp sym, FullRx.new demoCfg2 = some r0 ∧ FullRx.run r0 demoSig = some (r1, ev) ∧
    FullRx.trace r1 (List.replicate 1000 0) = some (r2, tr) ∧
    (stamp, sym, LinkSt.noCarrier) ∈ stampedTicks demoCfg2.lcfg r1.link tr ∧ 900 < stamp := by
  obtain ⟨r0, h0, hc, hi, hG, hb⟩ := demo_hyps
  obtain ⟨r1, tr1, e1, h1⟩ := trace_total hc demoSig r0 hi
  obtain ⟨ev, er, _⟩ := FullRx.trace_run e1
  have hb1 := trace_bw hc _ r0 hi r1 tr1 e1
  have hcnt := (FullRxThm.run_timestamps er).1
  obtain ⟨r2, tr, e2, _, _, stamp, sym, hm, hT⟩ := noCarrier_tick_after (K := 29) (n := 1000) hc h1
    (by decide +kernel) hG (by rw [hb1, hb]; decide +kernel) 900 (by decide) (by omega)
  exact ⟨r0, r1, ev, r2, tr, stamp, sym, h0, er, e2, hm, hT⟩

/-- the conclusion is not vacuous: `closed_after_event` on C09's concrete run (rate 1 sample/s, timeout
    135 samples).  The StartOfMessage is released at sample 10; one `NoCarrier` tick at 100 (`mid`) and
    the late one at 146 > 10 + 135: the events after the StartOfMessage are `idle` at 100 — which closes
    nothing — and the forced EndOfMessage at 146, which is the closing event. -/
example :
    (rRun 1 C09.st0 [(10, 5, .noCarrier)]).2 = [] ++ Event.transport 10 (.message (.ok (.som C09.hdr0))) :: [] ∧
    [] ++ (rRun 1 (rRun 1 C09.st0 [(10, 5, .noCarrier)]).1 ([(100, 6, .noCarrier)] ++ [(146, 7, .noCarrier)])).2
      = [Event.transport 100 .idle, Event.transport 146 (.message (.ok .eom))] ∧
    (∃ e ∈ [] ++ (rRun 1 (rRun 1 C09.st0 [(10, 5, .noCarrier)]).1
        ([(100, 6, .noCarrier)] ++ [(146, 7, .noCarrier)])).2, C09.Closes e) ∧
    ¬ C09.Closes (Event.transport 100 .idle) := by
  refine ⟨rfl, rfl, ?_, ?_⟩
  · exact closed_after_event 1 C09.st0 [(10, 5, .noCarrier)] [(100, 6, .noCarrier)] [] [] 10 C09.hdr0 146 7 rfl
      (by decide)
  · rintro ⟨smp, h | ⟨h, h'⟩⟩ <;> cases h <;> try cases h'

/-- … and the late `NoCarrier` tick is needed: the same run cut before it (ticks up to sample 135, the
    last instant at which the timer does not fire) has no closing event after the StartOfMessage -/
example : ∀ e ∈ (rRun 1 (rRun 1 C09.st0 [(10, 5, .noCarrier)]).1 [(100, 6, .noCarrier), (145, 7, .noCarrier)]).2,
    ¬ C09.Closes e := by
  intro e he
  have : (rRun 1 (rRun 1 C09.st0 [(10, 5, .noCarrier)]).1 [(100, 6, .noCarrier), (145, 7, .noCarrier)]).2
      = [Event.transport 100 .idle] := rfl
  rw [this, List.mem_singleton] at he
  subst he
  rintro ⟨smp, h | ⟨h, h'⟩⟩ <;> cases h <;> try cases h'

end Demo

end SameVerif.SilenceClosesThm
