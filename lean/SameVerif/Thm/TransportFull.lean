import SameVerif.Thm.C02
import SameVerif.Thm.C05seq
import SameVerif.Lemmas.ChainOps
import SameVerif.Lemmas.AssemblerFull
/-
  The transport part (assembler model, `runOps`) of the whole-transmission chain theorem
  (`Thm/ChainFull.lean`, where it is called layer A).

  A header `H` heard as three bursts `H ++ g_i` (link-layer tails `g_i`), a poll at or after
  `t3 + HOLD` (the StartOfMessage is out), then the trailer heard as three bursts `NNNN ++ e_j`:
  exactly two outputs, `StartOfMessage` with text exactly `H`, then `EndOfMessage`.

  What the model does with the trailer (proved below, all three zones are clean):
  * near  (`n1 < t2 + HIST`): the first trailer burst is voted with the two remembered header
    bursts, the vote reads `H` again and is suppressed as a duplicate;
  * mid   (`t2 + HIST ≤ n1 < t3 + HIST`): the first trailer burst is voted with ONE remembered
    header burst; the two-burst vote disagrees in the very first byte (`Z` / `N`), the estimate
    is empty, nothing happens (no error output — unlike two different HEADERS, which share `ZCZC-`:
    `C05seq.gap_error_counterexample`);
  * in both, the EndOfMessage is output by the call that assembles the SECOND trailer burst;
  * far   (`t3 + HIST ≤ n1`): the first trailer burst alone is output as EndOfMessage at once.
  The third trailer burst (and the second, in the far zone) is a duplicate as long as it comes
  before the EndOfMessage record expires; `n3 < n1 + HIST` is assumed (cf. F5,
  `C05.eom_twice_counterexample`; `third_burst_revives_eom` below).
  Trailer tails `e_j`: no condition in the mid and far zones; in the near zone the vote over
  `g2`, `g3` and whatever the first trailer burst has beyond `|H|` bytes must hold no `-` (`hdT`),
  the same phenomenon as `hd2`, `hd3` (F7; `trailer_tail_second_som` below).
-/
namespace SameVerif.Full
open SameVerif SameVerif.Spec SameVerif.Asm

/-- header part: three bursts with tails, polls between and after, a last poll at `t` -/
def headerOps (H g1 g2 g3 : List Byte) (t1 t2 t3 t : Nat) (p1 p2 p3 : List Nat) : List AOp :=
  .burst (H ++ g1) t1 :: (p1.map .poll ++ .burst (H ++ g2) t2 ::
    (p2.map .poll ++ .burst (H ++ g3) t3 :: (p3.map .poll ++ [.poll t])))

/-- trailer part: more polls, then three bursts `NNNN` with tails, polls between and after -/
def trailerOps (e1 e2 e3 : List Byte) (n1 n2 n3 : Nat) (q0 q1 q2 q3 : List Nat) : List AOp :=
  q0.map .poll ++ .burst (litNNNN ++ e1) n1 :: (q1.map .poll ++ .burst (litNNNN ++ e2) n2 ::
    (q2.map .poll ++ .burst (litNNNN ++ e3) n3 :: q3.map .poll))

/-- the tick at which the EndOfMessage comes out -/
def eomTick (t3 n1 n2 : Nat) : Nat := if n1 < t3 + HIST then n2 else n1

/-! ### the header part, with the state it leaves -/

/-- **Three header bursts with tails, any polls** — `C02.three_bursts_left`: one report, and the
    state left behind: nothing held, the report remembered until `u + HIST`, the last two bursts
    (clipped) stored. -/
theorem header_st (s : AState) (H g1 g2 g3 : List Byte) (off t1 t2 t3 t : Nat)
    (p1 p2 p3 : List Nat)
    (hall : ∀ b ∈ H, isAllowed b = true)
    (hcan : checkHeader H = some (off, H.length))
    (hfit : H.length ≤ MAXLEN)
    (hd2 : ∀ e ∈ estimateLoop (MAXLEN - H.length) [g1, g2], 2 ≤ e.nbursts → e.byte ≠ 45)
    (hd3 : ∀ e ∈ estimateLoop (MAXLEN - H.length) [g1, g2, g3], 2 ≤ e.nbursts → e.byte ≠ 45)
    (hh : s.history = []) (hp : s.pending = none)
    (hprev : ∀ p, s.previous = some p → p.data.text ≠ H)
    (h12 : t1 ≤ t2) (h23 : t2 ≤ t3) (h31 : t3 < t1 + HIST)
    (hp1 : ∀ u ∈ p1, u ≤ t2) (hp2 : ∀ u ∈ p2, u ≤ t3) (hp3 : ∀ u ∈ p3, u ≤ t)
    (ht : t3 + HOLD ≤ t) :
    ∃ u h, (h = ⟨H, off, 0, 0⟩ ∨ h = ⟨H, off, 0, H.length⟩) ∧ t2 + HOLD ≤ u ∧ u ≤ t
      ∧ (runOps s (headerOps H g1 g2 g3 t1 t2 t3 t p1 p2 p3)).2 = [(u, .ok (.som h))]
      ∧ LeftBy (runOps s (headerOps H g1 g2 g3 t1 t2 t3 t p1 p2 p3)).1 (.som h) (u + HIST)
          [⟨H ++ g2.take (MAXLEN - H.length), t2 + HIST⟩,
           ⟨H ++ g3.take (MAXLEN - H.length), t3 + HIST⟩] t := by
  obtain ⟨u, h, hc, hu1, hout, hL⟩ := C02.three_bursts_left s H g1 g2 g3 off t1 t2 t3 t p1 p2 p3 hall
    hcan hfit hd2 hd3 hh hp hprev h12 h23 h31 hp1 hp2 ht
  have hT := polls_snoc_le p3 t t hp3 (Nat.le_refl _)
  refine ⟨u, h, ?_, hu1, ?_, hout, hL t hT⟩
  · rcases hc with ⟨rfl, _⟩ | ⟨rfl, _⟩
    · exact Or.inl rfl
    · exact Or.inr rfl
  · rcases hc with ⟨_, hm⟩ | ⟨_, hm, _⟩
    · have := hp2 u hm; omega
    · exact hT u hm

/-! ### the whole transmission -/

/-- **Header ×3, release poll, trailer ×3 — the general form.**  Start with an empty history,
    nothing pending, a previous report (if any) of a different text.  Exactly two outputs: the
    StartOfMessage (text exactly `H`; `voting = 0` if released after two bursts, `|H|` after three)
    at a poll `u ∈ [t2 + HOLD, t]`, and the EndOfMessage at `eomTick t3 n1 n2`: the SECOND trailer
    burst while a header burst is still stored (`n1 < t3 + HIST`), else the FIRST. -/
theorem full_transmission_tails (s : AState) (H g1 g2 g3 e1 e2 e3 : List Byte)
    (off t1 t2 t3 t n1 n2 n3 : Nat) (p1 p2 p3 q0 q1 q2 q3 : List Nat)
    (hall : ∀ b ∈ H, isAllowed b = true)
    (hcan : checkHeader H = some (off, H.length))
    (hfit : H.length ≤ MAXLEN)
    (hd2 : ∀ e ∈ estimateLoop (MAXLEN - H.length) [g1, g2], 2 ≤ e.nbursts → e.byte ≠ 45)
    (hd3 : ∀ e ∈ estimateLoop (MAXLEN - H.length) [g1, g2, g3], 2 ≤ e.nbursts → e.byte ≠ 45)
    (hdT : n1 < t2 + HIST → ∀ e ∈ estimateLoop (MAXLEN - H.length)
      [g2, g3, (litNNNN ++ e1).drop H.length], 2 ≤ e.nbursts → e.byte ≠ 45)
    (hh : s.history = []) (hp : s.pending = none)
    (hprev : ∀ p, s.previous = some p → p.data.text ≠ H)
    (h12 : t1 ≤ t2) (h23 : t2 ≤ t3) (h31 : t3 < t1 + HIST)
    (hp1 : ∀ u ∈ p1, u ≤ t2) (hp2 : ∀ u ∈ p2, u ≤ t3) (hp3 : ∀ u ∈ p3, u ≤ t)
    (ht : t3 + HOLD ≤ t) (htn : t ≤ n1)
    (hn12 : n1 ≤ n2) (hn23 : n2 ≤ n3) (hn31 : n3 < n1 + HIST)
    (hq0 : ∀ u ∈ q0, u ≤ n1) (hq1 : ∀ u ∈ q1, u ≤ n2) (hq2 : ∀ u ∈ q2, u ≤ n3) :
    ∃ u h, (h = ⟨H, off, 0, 0⟩ ∨ h = ⟨H, off, 0, H.length⟩) ∧ t2 + HOLD ≤ u ∧ u ≤ t
      ∧ (runOps s (headerOps H g1 g2 g3 t1 t2 t3 t p1 p2 p3
            ++ trailerOps e1 e2 e3 n1 n2 n3 q0 q1 q2 q3)).2
          = [(u, .ok (.som h)), (eomTick t3 n1 n2, .ok .eom)] := by
  have hH := HIST_pos
  obtain ⟨u, h, hh', hu1, hu2, hout, hL⟩ := header_st s H g1 g2 g3 off t1 t2 t3 t p1 p2 p3 hall hcan
    hfit hd2 hd3 hh hp hprev h12 h23 h31 hp1 hp2 hp3 ht
  have htext : h.text = H := by rcases hh' with rfl | rfl <;> rfl
  obtain ⟨hrest, hHeq⟩ := Chain.header_prefix H _ hcan
  have hHN : H ≠ litNNNN := header_ne_trailer H _ hcan
  refine ⟨u, h, hh', hu1, hu2, ?_⟩
  rw [runOps_append_snd, hout]
  generalize hS' : (runOps s (headerOps H g1 g2 g3 t1 t2 t3 t p1 p2 p3)).1 = S' at hL
  obtain ⟨ho0, hC⟩ := calm_polls q0 S' _ _ n1 (hL.calm.mono htn) hq0
  generalize hS : (runOps S' (q0.map .poll)).1 = S at hC
  have hp0 : ∀ q, (some (⟨.som h, u + HIST⟩ : Timed Msg)) = some q → q.data.text ≠ litNNNN := by
    intro q hq
    cases hq
    show h.text ≠ litNNNN
    rw [htext]; exact hHN
  suffices hsuf : (runOps S (.burst (litNNNN ++ e1) n1 :: (q1.map .poll ++ .burst (litNNNN ++ e2) n2 ::
      (q2.map .poll ++ .burst (litNNNN ++ e3) n3 :: q3.map .poll)))).2 = [(eomTick t3 n1 n2, .ok .eom)] by
    unfold trailerOps
    rw [runOps_append_snd, ho0, hS, hsuf]; rfl
  unfold eomTick
  by_cases hstored : n1 < t3 + HIST
  · -- the first trailer burst changes nothing that matters; a header burst stays stored
    simp only [hstored, ↓reduceIte]
    have hA3 : H ++ g3.take (MAXLEN - H.length)
        = 90 :: 67 :: ((90 :: 67 :: 45 :: hrest) ++ g3.take (MAXLEN - H.length)) := by
      rw [hHeq]; rfl
    have hfirst : ∃ p1', (∀ r, (stepOp S (.burst (litNNNN ++ e1) n1)).2 ≠ .message r)
        ∧ Calm (stepOp S (.burst (litNNNN ++ e1) n1)).1 p1'
            [⟨H ++ g3.take (MAXLEN - H.length), t3 + HIST⟩,
             ⟨78 :: 78 :: 78 :: 78 :: e1.take (MAXLEN - 4), n1 + HIST⟩] n1
        ∧ ∀ q, p1' = some q → q.data.text ≠ litNNNN := by
      by_cases hnear : n1 < t2 + HIST
      · -- near: voted with both header bursts, reads `H`, suppressed
        have hX : ((litNNNN ++ e1).take MAXLEN).drop H.length
            = ((litNNNN ++ e1).drop H.length).take (MAXLEN - H.length) := by
          rw [List.drop_take]
        have hdash : ∀ e ∈ estimateLoop (MAXLEN - H.length)
            [g2.take (MAXLEN - H.length), g3.take (MAXLEN - H.length),
             ((litNNNN ++ e1).take MAXLEN).drop H.length], 2 ≤ e.nbursts → e.byte ≠ 45 := by
          have := estimateLoop_take (MAXLEN - H.length) [g2, g3, (litNNNN ++ e1).drop H.length]
          simp only [List.map_cons, List.map_nil] at this
          rw [hX, this]; exact hdT hnear
        have hcomb := combine_two_tails_third MAXLEN 2 H (g2.take (MAXLEN - H.length))
          (g3.take (MAXLEN - H.length)) ((litNNNN ++ e1).take MAXLEN) off hall hcan hfit hdash
        obtain ⟨hq, hc⟩ := calm_burst_none S _ _ n1 hC (litNNNN ++ e1) n1 (trailer_nonempty e1)
          (Nat.le_refl _) _ (prune_two_fresh _ _ n1 (by simp only; omega) (by simp only; omega))
          ((congrArg _ hcomb).trans
            (dedup_prune_dup (.som h) (.som ⟨H, off, _, _⟩) (u + HIST) n1 (by omega) htext))
        rw [prunePrevious_live (.som h) (u + HIST) n1 (by omega)] at hc
        refine ⟨_, hq, ?_, hp0⟩
        rw [← trailer_take]
        exact hc
      · -- mid: voted with one header burst, `Z` against `N`: no estimate at all
        obtain ⟨hq, hc⟩ := calm_burst_none S _ _ n1 hC (litNNNN ++ e1) n1 (trailer_nonempty e1)
          (Nat.le_refl _) _ (prune_two_second _ _ n1 (by simp only; omega) (by simp only; omega))
          (by rw [trailer_take]
              simp only [List.map_cons, List.map_nil, List.cons_append, List.nil_append]
              rw [hA3, combine_header_trailer]
              rfl)
        refine ⟨prunePrevious (some ⟨.som h, u + HIST⟩) n1, hq, ?_,
          fun q hq' => hp0 q (prunePrevious_some _ _ _ hq').1⟩
        rw [← trailer_take]
        exact hc
    obtain ⟨p1', hq, hc, hp1'⟩ := hfirst
    rw [hA3] at hc
    have := trailer_late _ _ (78 :: 78 :: e1.take (MAXLEN - 4)) e2 e3 67 (t3 + HIST) n1 n2 n3 p1'
      q1 q2 q3 hc hp1' hn12 hn23 hn31 hq1 hq2
    rw [runOps_cons_snd, outOf_quiet _ _ hq, List.nil_append]
    exact this
  · -- far: every header burst has expired
    simp only [hstored, ↓reduceIte]
    refine trailer_fast S e1 e2 e3 _ n1 n1 n2 n3 _ q1 q2 q3 hC (Nat.le_refl _) ?_ hp0 hn12 hn23 hn31 hq1 hq2
    intro e he
    simp only [List.mem_cons, List.not_mem_nil, or_false] at he
    rcases he with rfl | rfl <;> simp only <;> omega

theorem sorted_full (H g1 g2 g3 e1 e2 e3 : List Byte) (t1 t2 t3 t n1 n2 n3 : Nat)
    (p1 p2 p3 q0 q1 q2 q3 : List Nat)
    (h : Sorted (headerOps H g1 g2 g3 t1 t2 t3 t p1 p2 p3 ++ trailerOps e1 e2 e3 n1 n2 n3 q0 q1 q2 q3)) :
    t1 ≤ t2 ∧ t2 ≤ t3 ∧ (∀ u ∈ p1, u ≤ t2) ∧ (∀ u ∈ p2, u ≤ t3) ∧ (∀ u ∈ p3, u ≤ t) ∧ t ≤ n1
      ∧ n1 ≤ n2 ∧ n2 ≤ n3 ∧ (∀ u ∈ q0, u ≤ n1) ∧ (∀ u ∈ q1, u ≤ n2) ∧ (∀ u ∈ q2, u ≤ n3) := by
  obtain ⟨hsH, hsT, hx⟩ := Asm.sorted_append _ _ h
  obtain ⟨a1, a2, a3, a4, a5⟩ := sorted_three _ _ _ _ _ _ _ _ _ hsH
  unfold trailerOps at hsT
  obtain ⟨_, hsT', hx0⟩ := Asm.sorted_append _ _ hsT
  obtain ⟨b1, b2, b3, b4, _⟩ := sorted_three _ _ _ _ _ _ _ _ _ hsT'
  refine ⟨a1, a2, a3, a4, ?_, ?_, b1, b2, ?_, b3, b4⟩
  · intro u hu
    unfold Sorted at a5
    exact (List.pairwise_append.mp a5).2.2 (.poll u) (List.mem_map.mpr ⟨u, hu, rfl⟩) (.poll t) (by simp)
  · exact hx (.poll t) (by simp [headerOps]) (.burst (litNNNN ++ e1) n1) (by simp [trailerOps])
  · intro u hu
    exact hx0 (.poll u) (List.mem_map.mpr ⟨u, hu, rfl⟩) (.burst (litNNNN ++ e1) n1) (by simp)

/-- **The whole transmission at the transport** — any poll schedule in time order, any start state
    with an empty history, nothing pending and no previous report of the same text.
    Timing: `t3 < t1 + HIST` (the header bursts within one history window), `t3 + HOLD ≤ t` (the
    release poll; it precedes the first trailer burst by position in the schedule),
    `n3 < n1 + HIST` (the trailer bursts within one history window).  No condition relates the
    header times to the trailer times: all three zones are covered (`eomTick`). -/
theorem full_transmission (s : AState) (H g1 g2 g3 e1 e2 e3 : List Byte)
    (off t1 t2 t3 t n1 n2 n3 : Nat) (p1 p2 p3 q0 q1 q2 q3 : List Nat)
    (hall : ∀ b ∈ H, isAllowed b = true)
    (hcan : checkHeader H = some (off, H.length))
    (hfit : H.length ≤ MAXLEN)
    (hd2 : ∀ e ∈ estimateLoop (MAXLEN - H.length) [g1, g2], 2 ≤ e.nbursts → e.byte ≠ 45)
    (hd3 : ∀ e ∈ estimateLoop (MAXLEN - H.length) [g1, g2, g3], 2 ≤ e.nbursts → e.byte ≠ 45)
    (hdT : n1 < t2 + HIST → ∀ e ∈ estimateLoop (MAXLEN - H.length)
      [g2, g3, (litNNNN ++ e1).drop H.length], 2 ≤ e.nbursts → e.byte ≠ 45)
    (hh : s.history = []) (hp : s.pending = none)
    (hprev : ∀ p, s.previous = some p → p.data.text ≠ H)
    (hsort : Sorted (headerOps H g1 g2 g3 t1 t2 t3 t p1 p2 p3
      ++ trailerOps e1 e2 e3 n1 n2 n3 q0 q1 q2 q3))
    (h31 : t3 < t1 + HIST) (ht : t3 + HOLD ≤ t) (hn31 : n3 < n1 + HIST) :
    ∃ u v h, (runOps s (headerOps H g1 g2 g3 t1 t2 t3 t p1 p2 p3
            ++ trailerOps e1 e2 e3 n1 n2 n3 q0 q1 q2 q3)).2 = [(u, .ok (.som h)), (v, .ok .eom)]
      ∧ h.text = H ∧ h.offsetTime = off ∧ h.parity = 0 ∧ (h.voting = 0 ∨ h.voting = H.length)
      ∧ t2 + HOLD ≤ u ∧ u ≤ t ∧ t ≤ n1 ∧ n1 ≤ v ∧ v = eomTick t3 n1 n2 := by
  obtain ⟨h12, h23, hp1, hp2, hp3, htn, hn12, hn23, hq0, hq1, hq2⟩ := sorted_full _ _ _ _ _ _ _ _ _ _ _ _
    _ _ _ _ _ _ _ _ _ hsort
  obtain ⟨u, h, hh', hu1, hu2, hout⟩ := full_transmission_tails s H g1 g2 g3 e1 e2 e3 off t1 t2 t3 t
    n1 n2 n3 p1 p2 p3 q0 q1 q2 q3 hall hcan hfit hd2 hd3 hdT hh hp hprev h12 h23 h31 hp1 hp2 hp3 ht htn
    hn12 hn23 hn31 hq0 hq1 hq2
  have hv : n1 ≤ eomTick t3 n1 n2 := by unfold eomTick; split <;> omega
  rcases hh' with rfl | rfl
  · exact ⟨u, _, _, hout, rfl, rfl, rfl, Or.inl rfl, hu1, hu2, htn, hv, rfl⟩
  · exact ⟨u, _, _, hout, rfl, rfl, rfl, Or.inr rfl, hu1, hu2, htn, hv, rfl⟩

/-- when the first trailer burst (with its tail) is no longer than the header, the near-zone
    condition `hdT` follows from the header condition `hd3`: nothing of the trailer burst reaches
    the tail positions, and a two-burst "vote" only passes bytes that also win the three-burst vote -/
theorem trailer_tail_cond (H g1 g2 g3 e1 : List Byte) (hshort : e1.length + 4 ≤ H.length)
    (hd3 : ∀ e ∈ estimateLoop (MAXLEN - H.length) [g1, g2, g3], 2 ≤ e.nbursts → e.byte ≠ 45) :
    ∀ e ∈ estimateLoop (MAXLEN - H.length) [g2, g3, (litNNNN ++ e1).drop H.length],
      2 ≤ e.nbursts → e.byte ≠ 45 := by
  have hdrop : (litNNNN ++ e1).drop H.length = [] := by
    apply List.drop_eq_nil_of_le
    simp only [List.length_append, litNNNN, List.length_cons, List.length_nil]
    omega
  rw [hdrop, estimateLoop_pair_nil]
  exact pair_of_triple _ g1 g2 g3 hd3

/-- **The whole transmission, from the initial state, realistic trailer tail** (`NNNN` and its tail
    no longer than the header): the header-tail conditions `hd2`, `hd3` are all that is asked of
    the tails.  The StartOfMessage strictly precedes the EndOfMessage when the release poll
    strictly precedes the first trailer burst (`t < n1`; always so for ticks of one receiver). -/
theorem full_transmission_init (H g1 g2 g3 e1 e2 e3 : List Byte)
    (off t1 t2 t3 t n1 n2 n3 : Nat) (p1 p2 p3 q0 q1 q2 q3 : List Nat)
    (hall : ∀ b ∈ H, isAllowed b = true)
    (hcan : checkHeader H = some (off, H.length))
    (hfit : H.length ≤ MAXLEN)
    (hd2 : ∀ e ∈ estimateLoop (MAXLEN - H.length) [g1, g2], 2 ≤ e.nbursts → e.byte ≠ 45)
    (hd3 : ∀ e ∈ estimateLoop (MAXLEN - H.length) [g1, g2, g3], 2 ≤ e.nbursts → e.byte ≠ 45)
    (hshort : e1.length + 4 ≤ H.length)
    (hsort : Sorted (headerOps H g1 g2 g3 t1 t2 t3 t p1 p2 p3
      ++ trailerOps e1 e2 e3 n1 n2 n3 q0 q1 q2 q3))
    (h31 : t3 < t1 + HIST) (ht : t3 + HOLD ≤ t) (htn : t < n1) (hn31 : n3 < n1 + HIST) :
    ∃ u v h, (runOps {} (headerOps H g1 g2 g3 t1 t2 t3 t p1 p2 p3
            ++ trailerOps e1 e2 e3 n1 n2 n3 q0 q1 q2 q3)).2 = [(u, .ok (.som h)), (v, .ok .eom)]
      ∧ h.text = H ∧ h.offsetTime = off ∧ h.parity = 0 ∧ (h.voting = 0 ∨ h.voting = H.length)
      ∧ u < v ∧ t2 + HOLD ≤ u ∧ u ≤ t ∧ v = eomTick t3 n1 n2 := by
  obtain ⟨u, v, h, hout, a1, a2, a3, a4, a5, a6, _, a8, a9⟩ := full_transmission {} H g1 g2 g3 e1 e2 e3
    off t1 t2 t3 t n1 n2 n3 p1 p2 p3 q0 q1 q2 q3 hall hcan hfit hd2 hd3
    (fun _ => trailer_tail_cond H g1 g2 g3 e1 hshort hd3) rfl rfl (by intro p hp; cases hp) hsort h31 ht hn31
  exact ⟨u, v, h, hout, a1, a2, a3, a4, by omega, a5, a6, a9⟩

/-! ### non-vacuity: the three zones, by the general theorem -/

section Examples
open SameVerif.C02

/-- the example schedule: header bursts (garbage tails) ending at 1000, 1950, 2900, polls, release
    poll at 3600, more polls; trailer bursts (tails `01 02`, `ff`, `NN-`) ending at `n1`, `n2`, `n3`, polls -/
def exampleOps (n1 n2 n3 : Nat) : List AOp :=
  headerOps shortCallHeader [0x35, 43] [0x0a, 0xff, 0xff] [0xff, 0x80, 0x0a] 1000 1950 2900 3600
      [1500] [2000, 2500] [3000]
    ++ trailerOps [1, 2] [0xff] [78, 78, 45] n1 n2 n3 [n1 - 1] [n1 + 1] [n2 + 1]
        [n3 + 1, n3 + 700, n3 + 6000]

theorem example_general (n1 n2 n3 : Nat) (h1 : 3600 < n1) (h12 : n1 < n2) (h23 : n2 < n3)
    (h31 : n3 < n1 + HIST) :
    ∃ u v h, (runOps {} (exampleOps n1 n2 n3)).2 = [(u, .ok (.som h)), (v, .ok .eom)]
      ∧ h.text = shortCallHeader ∧ h.offsetTime = 19 ∧ h.parity = 0
      ∧ (h.voting = 0 ∨ h.voting = shortCallHeader.length)
      ∧ u < v ∧ 1950 + HOLD ≤ u ∧ u ≤ 3600 ∧ v = eomTick 2900 n1 n2 := by
  have hc := shortCallHeader_canonical
  refine full_transmission_init shortCallHeader _ _ _ _ _ _ 19 1000 1950 2900 3600 n1 n2 n3 _ _ _ _ _ _ _
    (fun b hb => List.all_eq_true.mp hc.2.1 b hb) hc.1 (by rw [hc.2.2]; decide)
    (by rw [hc.2.2]; decide +kernel) (by rw [hc.2.2]; decide +kernel) (by decide) ?_ (by decide)
    (by decide) h1 h31
  unfold Sorted headerOps trailerOps
  simp only [List.map_cons, List.map_nil, List.cons_append, List.nil_append, List.pairwise_cons,
    List.mem_cons, List.not_mem_nil, or_false, forall_eq_or_imp, forall_eq, AOp.time,
    List.Pairwise.nil, and_true, false_imp_iff, implies_true]
  repeat' apply And.intro
  all_goals omega

/-- near zone (`n1 < t2 + HIST = 7602`): EndOfMessage by the second trailer burst -/
theorem example_near :
    ∃ u h, (runOps {} (exampleOps 5000 5950 6900)).2 = [(u, .ok (.som h)), (5950, .ok .eom)]
      ∧ h.text = shortCallHeader ∧ u < 5950 := by
  obtain ⟨u, v, h, ho, ht, _, _, _, huv, _, _, hv⟩ := example_general 5000 5950 6900 (by decide)
    (by decide) (by decide) (by decide)
  have : v = 5950 := by rw [hv]; decide
  subst this
  exact ⟨u, h, ho, ht, huv⟩

/-- mid zone (`7602 ≤ n1 < t3 + HIST = 8552`): still the second trailer burst, and no error output -/
theorem example_mid :
    ∃ u h, (runOps {} (exampleOps 8000 8950 9900)).2 = [(u, .ok (.som h)), (8950, .ok .eom)]
      ∧ h.text = shortCallHeader ∧ u < 8950 := by
  obtain ⟨u, v, h, ho, ht, _, _, _, huv, _, _, hv⟩ := example_general 8000 8950 9900 (by decide)
    (by decide) (by decide) (by decide)
  have : v = 8950 := by rw [hv]; decide
  subst this
  exact ⟨u, h, ho, ht, huv⟩

/-- far zone (`8552 ≤ n1`): the first trailer burst alone ("fast EOM") -/
theorem example_far :
    ∃ u h, (runOps {} (exampleOps 20000 20950 21900)).2 = [(u, .ok (.som h)), (20000, .ok .eom)]
      ∧ h.text = shortCallHeader ∧ u < 20000 := by
  obtain ⟨u, v, h, ho, ht, _, _, _, huv, _, _, hv⟩ := example_general 20000 20950 21900 (by decide)
    (by decide) (by decide) (by decide)
  have : v = 20000 := by rw [hv]; decide
  subst this
  exact ⟨u, h, ho, ht, huv⟩

/-- the same three runs, evaluated by the kernel (cross-check of the general theorem) -/
theorem examples_eval :
    (runOps {} (exampleOps 5000 5950 6900)).2
        = [(3600, .ok (.som ⟨shortCallHeader, 19, 0, 37⟩)), (5950, .ok .eom)]
    ∧ (runOps {} (exampleOps 8000 8950 9900)).2
        = [(3600, .ok (.som ⟨shortCallHeader, 19, 0, 37⟩)), (8950, .ok .eom)]
    ∧ (runOps {} (exampleOps 20000 20950 21900)).2
        = [(3600, .ok (.som ⟨shortCallHeader, 19, 0, 37⟩)), (20000, .ok .eom)] := by
  decide +kernel

/-! ### what is false without the hypotheses -/

/-- **No release poll (F4 with three trailer bursts).**  Without a poll at or after `t3 + HOLD`
    before the trailer, the first trailer burst re-votes the pending header; here the
    StartOfMessage comes out only at the SECOND trailer burst's tick… and the EndOfMessage at the
    third — with two trailer bursts it is lost altogether (`C02.eom_lost_counterexample`). -/
theorem no_release_poll_witness :
    (runOps {} [.burst (shortCallHeader ++ [0x35, 43]) 1000, .poll 1500,
        .burst (shortCallHeader ++ [0x0a, 0xff, 0xff]) 1950, .poll 2000,
        .burst (shortCallHeader ++ [0xff, 0x80, 0x0a]) 2900, .poll 3000,
        .burst (litNNNN ++ [1, 2]) 3500, .poll 3501, .burst (litNNNN ++ [0xff]) 4450, .poll 4451,
        .burst (litNNNN ++ [78, 78, 45]) 5400, .poll 5401, .poll 12000]).2
      = [(4450, .ok (.som ⟨shortCallHeader, 19, 0, 37⟩)), (5400, .ok .eom)] := by
  decide +kernel

/-- **Why `n3` is bounded (F5).**  A third trailer burst after the EndOfMessage record has expired
    is reported as a second EndOfMessage.  Here the EndOfMessage comes out at `n2` (near zone), so
    the record lives until `n2 + HIST = 11602`; the hypothesis `n3 < n1 + HIST` keeps `n3` below that
    in every zone and is sufficient, not sharp. -/
theorem third_burst_revives_eom :
    (runOps {} (exampleOps 5000 5950 11602)).2
      = [(3600, .ok (.som ⟨shortCallHeader, 19, 0, 37⟩)), (5950, .ok .eom), (11602, .ok .eom)]
    ∧ (runOps {} (exampleOps 5000 5950 11601)).2
      = [(3600, .ok (.som ⟨shortCallHeader, 19, 0, 37⟩)), (5950, .ok .eom)] := by
  decide +kernel

/-- **`hdT` matters (F7 again), though not for realistic tails.**  Header tails ``, `5-`,
    `LF ff ff` (conditions `hd2`, `hd3` hold); the first trailer burst drags a 36-byte tail whose last
    bytes `ff 80 LF` line up with the header tails: the near-zone vote reads `H ++ "?-"`, not a
    duplicate — a second StartOfMessage.  (`trailer_tail_cond`: impossible when the trailer burst
    with its tail is no longer than the header.) -/
theorem trailer_tail_second_som :
    (runOps {} (headerOps shortCallHeader [] [0x35, 45] [0x0a, 0xff, 0xff] 1000 1950 2900 3600
          [1500] [2000, 2500] [3000]
        ++ trailerOps (List.replicate 33 78 ++ [0xff, 0x80, 0x0a]) [] [] 5000 5950 6900
          [4000] [5001] [5951] [6901, 7600, 13000])).2
      = [(3600, .ok (.som ⟨shortCallHeader, 19, 0, 37⟩)),
         (5950, .ok (.som ⟨shortCallHeader ++ [63, 45], 19, 186, 39⟩)), (6900, .ok .eom)] := by
  decide +kernel

end Examples

end SameVerif.Full
